import Pyc.Proofs.SizeDomWits
import Pyc.Props.C07

/-! # C07 (extension SizeDom) — the estimate is taken on a transaction that is at least as long as the signed one

`_estimate_fee` prices the bytes of the *fake* transaction (`_build_full_fake_tx`: placeholder witnesses, every script,
the fee in force or `max_tx_fee`); `build_and_sign` emits the *real* one. `Pyc.SizeDom.domB fake real` is a structural,
computable relation between the two CBOR item trees (see `Model/SizeDom.lean`); the harness evaluates it through the
driver on the two byte strings of every built and signed scenario (`checks/c07_ext_sizedom.py`).

* `dom_size`: structural dominance bounds the encoded size, for ALL items (induction along the recursion of `domB`).
* `built_fee_sufficient` / `built_fee_covers_ledger`: a fee that covers the estimate on the fake bytes covers
  pycardano's fee formula — and, for integer coefficients, the ledger's minimum fee — of the real bytes.
* `fee_loop_tight`, `built_fee_tight_partial`: the counterpart from above. -/

namespace Pyc.C07.SizeDom
open Pyc.Cbor Pyc.SizeDom

/-! ## the relation -/

/-- **structural dominance bounds the size**: whenever `domB fake real` holds, the real item is not longer on the wire -/
theorem dom_size (fake real : Item) (h : domB fake real = true) : size real ≤ size fake :=
  dom_size_all.1 fake real h

/-- the same for the elements of an array and the entries of a map, together with their number -/
theorem dom_size_list (fs rs : List Item) (h : domList fs rs = true) :
    rs.length ≤ fs.length ∧ (encodeList rs).length ≤ (encodeList fs).length := dom_size_all.2.2 fs rs h

theorem dom_size_pairs (fs rs : List (Item × Item)) (h : domPairs fs rs = true) :
    rs.length ≤ fs.length ∧ (encodePairs rs).length ≤ (encodePairs fs).length := dom_size_all.2.1 fs rs h

/-- every item dominates itself (the signed body IS the estimated body whenever the fee is not the placeholder) -/
theorem dom_refl (x : Item) : domB x x = true := domB_refl x

/-- integers are compared by the width of their head: exactly that, nothing else -/
theorem dom_uint_iff (a b : ℕ) : domB (.uint a) (.uint b) = true ↔ (head 0 b).length ≤ (head 0 a).length := by
  simp [domB, headDom]

/-- in particular a placeholder that is numerically at least the final value dominates it (`max_tx_fee` for the fee,
a preliminary change that only went down) -/
theorem dom_uint_of_le (a b : ℕ) (h : b ≤ a) : domB (.uint a) (.uint b) = true :=
  headDom_of_le 0 a b h

/-- byte strings: a payload that is not longer (a real 64-byte signature against the 64-byte placeholder) -/
theorem dom_bytes_iff (a b : Bytes) : domB (.bytes a) (.bytes b) = true ↔ b.length ≤ a.length := by
  simp [domB]

/-- unlike constructors are never dominated: there is no fall-back on encoded lengths -/
theorem dom_kind_mismatch (n : ℕ) (b : Bytes) (xs : List Item) :
    domB (.uint n) (.bytes b) = false ∧ domB (.bytes b) (.uint n) = false ∧ domB (.array xs) (.arrayIndef xs) = false
    ∧ domB (.uint n) (.nint n) = false := by
  simp [domB]

/-- **dropping elements**: the real array may be any order-preserving sub-list of the fake one (real witnesses among
the placeholders, scripts that `build_witness_set(True)` removes) -/
theorem dom_array_of_sublist (fs rs : List Item) (h : rs.Sublist fs) : domB (.array fs) (.array rs) = true :=
  domList_of_sublist fs rs h

/-- the same below the set tag 258 the witness set uses -/
theorem dom_set_of_sublist (t : ℕ) (fs rs : List Item) (h : rs.Sublist fs) :
    domB (.tag t (.array fs)) (.tag t (.array rs)) = true := by
  simpa [domB] using domList_of_sublist fs rs h

/-- **dropping map entries**: a witness-set key present in the fake and absent in the real transaction -/
theorem dom_map_of_sublist (fs rs : List (Item × Item)) (h : rs.Sublist fs) : domB (.map fs) (.map rs) = true :=
  domPairs_of_sublist fs rs h

/-- **element-wise**: a real array that is not longer and whose `i`-th element is dominated by the `i`-th fake one
(every real `[vkey, signature]` against a placeholder of the same shape) -/
theorem dom_array_pointwise (fs rs : List Item) (hl : rs.length ≤ fs.length)
    (h : ∀ i (hi : i < rs.length), domB (fs[i]'(by omega)) (rs[i]) = true) : domB (.array fs) (.array rs) = true :=
  domList_of_pointwise fs rs hl h

/-! ## composition with the fee formula and the builder's loop -/

/-- the fee formula of the real bytes is defined whenever that of the fake bytes is, and is not larger
(non-negative size coefficient) -/
theorem fee_dom (p : FeeParams) (fake real : Item) (steps mem ref eF : ℤ) (ha : 0 ≤ p.a.num)
    (hdom : domB fake real = true) (hF : fee p (size fake) steps mem ref = some eF) :
    ∃ eR, fee p (size real) steps mem ref = some eR ∧ eR ≤ eF := by
  obtain ⟨eR, hR⟩ := fee_some_of_some p (size fake) (size real) steps mem ref eF hF
  refine ⟨eR, hR, ?_⟩
  have hs : ((size real : ℕ) : ℤ) ≤ ((size fake : ℕ) : ℤ) := by exact_mod_cast dom_size fake real hdom
  have h1 := fee_sub p (size real) (size fake) steps mem ref eR eF hR hF
  have h2 := ceilMul_mono (size real) (size fake) p.a ha hs
  omega

/-- **sufficiency for the built transaction**: the body carries fee `f`; the last estimate was taken on `fake`
(`eF` = the fee formula on `len(fake)`, plus the fee buffer `buf`) and did not exceed `f`; the signed transaction
`real` is structurally dominated by `fake`. Then `f` covers the fee formula of the REAL signed bytes (plus the buffer) -/
theorem built_fee_sufficient (p : FeeParams) (fake real : Item) (steps mem ref buf eF f : ℤ) (ha : 0 ≤ p.a.num)
    (hF : fee p (size fake) steps mem ref = some eF) (hexit : eF + buf ≤ f) (hdom : domB fake real = true) :
    ∃ eR, fee p (size real) steps mem ref = some eR ∧ eR + buf ≤ f := by
  obtain ⟨eR, hR, hle⟩ := fee_dom p fake real steps mem ref eF ha hdom hF
  exact ⟨eR, hR, by omega⟩

open Pyc.FeeLoop in
/-- the same with the exit condition supplied by the builder's loop (`Pyc.C07.fee_loop_post`): `est f` is the estimate
taken on `fake`, the transaction whose fee field holds the fee `f` the loop ended at -/
theorem built_fee_sufficient_loop (p : FeeParams) (est : ℤ → ℤ) (fuel : ℕ) (f₀ f : ℤ) (fake real : Item)
    (steps mem ref buf eF : ℤ) (ha : 0 ≤ p.a.num) (hloop : loop est fuel f₀ = some f) (hest : est f = eF + buf)
    (hF : fee p (size fake) steps mem ref = some eF) (hdom : domB fake real = true) :
    ∃ eR, fee p (size real) steps mem ref = some eR ∧ eR + buf ≤ f := by
  have hpost := (Pyc.C07.fee_loop_post est fuel f₀ f hloop).1
  exact built_fee_sufficient p fake real steps mem ref buf eF f ha hF (by omega) hdom

/-- **the ledger's minimum fee of the signed bytes is covered**: integer fee coefficients `a ≥ 0`, `b` (as on every
Cardano network), a non-negative fee buffer, `T` the exact rational reference-script price whose ceiling pycardano
charges (`Pyc.C07.tier_eq_formula`; the ledger charges its floor). Conclusion about the Conway formula
`a·size + b + ⌈steps·pS + mem·pM⌉ + ⌊T⌋` on `size real` -/
theorem built_fee_covers_ledger (p : FeeParams) (a b : ℤ) (T : ℚ) (fake real : Item) (steps mem ref buf eF f : ℤ)
    (hpa : p.a = ⟨a, 1⟩) (hpb : p.b = ⟨b, 1⟩) (ha : 0 ≤ a) (hbuf : 0 ≤ buf) (hT : tierFee p ref = some ⌈T⌉)
    (hF : fee p (size fake) steps mem ref = some eF) (hexit : eF + buf ≤ f) (hdom : domB fake real = true) :
    Pyc.C07.ledgerMinFee a b (size real) steps mem p.priceStep.toRat p.priceMem.toRat T ≤ f := by
  obtain ⟨eR, hR, hle⟩ := built_fee_sufficient p fake real steps mem ref buf eF f (hpa ▸ ha) hF hexit hdom
  have := (Pyc.C07.fee_int_vs_ledger p a b T (size real) steps mem ref eR hpa hpb hT hR).1
  omega

/-! ## from above -/

/-- `k` bytes of slack cost at most `⌈k·a⌉`: if the fake bytes exceed the real ones by at most `k`, the estimate
exceeds the fee formula of the real bytes by at most the price of `k` bytes -/
theorem fee_slack_bound (p : FeeParams) (fake real : Item) (steps mem ref eF eR k : ℤ) (ha : 0 ≤ p.a.num)
    (hslack : ((size fake : ℕ) : ℤ) ≤ size real + k) (hF : fee p (size fake) steps mem ref = some eF)
    (hR : fee p (size real) steps mem ref = some eR) : eF ≤ eR + ceilMul k p.a := by
  have h1 := fee_sub p (size real) (size fake) steps mem ref eR eF hR hF
  have h2 := ceilMul_mono (size fake) (size real + k) p.a ha hslack
  have h3 := ceilMul_add_le (size real) k p.a
  omega

/-- the slack `size fake - size real` itself is such a `k` under dominance -/
theorem slack_spec (fake real : Item) (hdom : domB fake real = true) : size fake = size real + slack fake real := by
  have := dom_size fake real hdom
  unfold slack; omega

open Pyc.FeeLoop in
/-- **the loop does not overshoot by more than the variation of the estimator**: if any two estimates differ by at
most `c` (the price of the few bytes by which fee and change widths can move) and the fee the loop starts from is
itself within `c` of every estimate, the fee it ends at exceeds the estimate of its own transaction by at most `c` -/
theorem fee_loop_tight (est : ℤ → ℤ) (c : ℤ) (hvar : ∀ g h, est g ≤ est h + c) (fuel : ℕ) (f₀ f : ℤ)
    (h0 : ∀ g, f₀ ≤ est g + c) (hloop : loop est fuel f₀ = some f) : f ≤ est f + c := by
  induction fuel generalizing f₀ with
  | zero => cases hloop
  | succ n ih =>
    rw [loop] at hloop
    split at hloop
    · cases hloop; exact h0 _
    · exact ih (est f₀) (fun g => hvar f₀ g) hloop

/-- **tightness, as far as it is a theorem**: integer coefficients; the fake bytes exceed the real ones by at most `k`
(`slack`, measured by the harness: placeholder witnesses nobody signed for and scripts omitted from the final witness
set); the fee exceeds the last estimate by at most `d` (`fee_loop_tight`; measured). Then the fee exceeds the ledger's
minimum for the signed bytes by at most `a·k + buf + d + 2`. PARTIAL: `k` and `d` are hypotheses here; bounding them
for every build needs a model of the builder's change computation under the fee, which this development does not have -/
theorem built_fee_tight_partial (p : FeeParams) (a b : ℤ) (T : ℚ) (fake real : Item) (steps mem ref buf eF f k d : ℤ)
    (hpa : p.a = ⟨a, 1⟩) (hpb : p.b = ⟨b, 1⟩) (ha : 0 ≤ a) (hT : tierFee p ref = some ⌈T⌉)
    (hF : fee p (size fake) steps mem ref = some eF) (hslack : ((size fake : ℕ) : ℤ) ≤ size real + k)
    (hover : f ≤ eF + buf + d) :
    f ≤ Pyc.C07.ledgerMinFee a b (size real) steps mem p.priceStep.toRat p.priceMem.toRat T + a * k + buf + d + 2 := by
  obtain ⟨eR, hR⟩ := fee_some_of_some p (size fake) (size real) steps mem ref eF hF
  have hb := fee_slack_bound p fake real steps mem ref eF eR k (hpa ▸ ha) hslack hF hR
  rw [hpa, ceilMul_int] at hb
  have := (Pyc.C07.fee_int_vs_ledger p a b T (size real) steps mem ref eR hpa hpb hT hR).2
  omega

/-! ## the placeholder witnesses of `_build_fake_vkey_witnesses` (model: `fakeKey`, `fakeKeys`, `fakeWitnessSet`) -/

/-- **a witness count of `n` yields `n` pairwise distinct placeholders**, for every count the code can run
(`n ≤ 2^256`: every index `i < n` passes `i.to_bytes(32, "big")`): XOR with the constant masks is one-to-one, the
32-byte big-endian encoding is one-to-one below `2^256`, so the `OrderedSet` drops nothing and the placeholders are
`fakeKey 0, …, fakeKey (n-1)` in order -/
theorem fake_witness_count (n : ℕ) (h : n ≤ 2 ^ 256) :
    (fakeKeys n).length = n ∧ (fakeKeys n).Nodup ∧ fakeKeys n = (List.range n).map fakeKey := by
  have hnd : ((List.range n).map fakeKey).Nodup :=
    Witness.nodup_map_range _ _ fun x y hx hy => fakeKey_inj x y (Nat.lt_of_lt_of_le hx h) (Nat.lt_of_lt_of_le hy h)
  have he : fakeKeys n = (List.range n).map fakeKey := dedupAux_id [] _ hnd fun _ _ => List.not_mem_nil
  exact ⟨by rw [he, List.length_map, List.length_range], he ▸ hnd, he⟩

/-- different indices below `2^256` give different placeholders -/
theorem fake_witness_inj (i j : ℕ) (hi : i < 2 ^ 256) (hj : j < 2 ^ 256) (h : fakeKey i = fakeKey j) : i = j :=
  fakeKey_inj i j hi hj h

/-- what the MODEL does at the bound (deviation note of `Model/SizeDom.lean`): index `2^256` wraps to index 0, where
`i.to_bytes(32, "big")` raises `OverflowError`; hence no statement is made for a count above `2^256` -/
theorem fake_witness_model_wraps_at_bound : fakeKey (2 ^ 256) = fakeKey 0 := by decide +kernel

/-- every placeholder has a 32-byte key and a 64-byte signature -/
theorem fake_witness_shape (n : ℕ) (w : Bytes × Bytes) (h : w ∈ fakeKeys n) : w.1.length = 32 ∧ w.2.length = 64 := by
  obtain ⟨i, _, rfl⟩ := List.mem_map.1 ((dedupAux_spec [] _).2 w h).1
  exact fakeKey_lengths i

/-- **the placeholder set dominates every set of real witnesses that is not larger**: real `[vkey, signature]` pairs
with keys of at most 32 and signatures of at most 64 bytes (Ed25519: exactly 32 and 64), at most as many as placeholders -/
theorem fake_witnesses_dominate (n : ℕ) (real : List (Bytes × Bytes)) (hl : real.length ≤ (fakeKeys n).length)
    (hr : ∀ r ∈ real, r.1.length ≤ 32 ∧ r.2.length ≤ 64) :
    domB (fakeWitnessSet n) (.tag 258 (.array (real.map witItem))) = true := by
  have := witList_dom (fakeKeys n) real hl (fun f hf => fake_witness_shape n f hf) hr
  simpa [fakeWitnessSet, domB] using this

/-- with the count: `n` required keys (any `n` the code can run), any `k ≤ n` of them signing -/
theorem fake_witnesses_dominate_upto (n : ℕ) (hn : n ≤ 2 ^ 256) (real : List (Bytes × Bytes)) (hl : real.length ≤ n)
    (hr : ∀ r ∈ real, r.1.length ≤ 32 ∧ r.2.length ≤ 64) :
    domB (fakeWitnessSet n) (.tag 258 (.array (real.map witItem))) = true :=
  fake_witnesses_dominate n real (by rw [(fake_witness_count n hn).1]; exact hl) hr

/-! ## non-vacuity: a miniature fake / signed pair evaluated by the kernel -/

/-- body `{0: [[h'aa…', 0]], 1: [[h'01', 1500000]], 2: fee}` -/
def exBody (feeField : ℕ) : Item :=
  .map [(.uint 0, .array [.array [.bytes (List.replicate 32 0xaa), .uint 0]]),
        (.uint 1, .array [.array [.bytes [0x01], .uint 1500000]]),
        (.uint 2, .uint feeField)]

def exWit (v s : UInt8) : Item := .array [.bytes (List.replicate 32 v), .bytes (List.replicate 64 s)]

/-- fake: placeholder fee 1 000 000, two placeholder witnesses, a native script `[0, h'07…']`; real: fee 170 000, one
real witness, the script dropped (it sits on an input) so that key 1 disappears from the witness set -/
def exFake : Item :=
  .array [exBody 1000000, .map [(.uint 0, .tag 258 (.array [exWit 0 0, exWit 0 1])),
                                (.uint 1, .tag 258 (.array [.array [.uint 0, .bytes (List.replicate 28 7)]]))],
          .simple 21, .simple 22]

def exReal : Item :=
  .array [exBody 170000, .map [(.uint 0, .tag 258 (.array [exWit 0x5c 0x99]))], .simple 21, .simple 22]

example : domB exFake exReal = true ∧ domB exReal exFake = false ∧ size exFake = 303 ∧ size exReal = 165
    ∧ slack exFake exReal = 138 := by decide +kernel

/-- the hypotheses of `built_fee_covers_ledger` are met by mainnet-like parameters and this pair: the estimate on
the 303 fake bytes is 168 713 lovelace, the exit fee 170 000 covers it, the formula asks 162 641 for the 165 real bytes -/
example : fee Pyc.C07.exParams (size exFake) 0 0 0 = some 168713 ∧ fee Pyc.C07.exParams (size exReal) 0 0 0 = some 162641
    ∧ tierFee Pyc.C07.exParams 0 = some 0 ∧ (168713 : ℤ) + 0 ≤ 170000 := by decide +kernel

/-- a fee one byte too narrow is detected: the 3-byte placeholder 65 535 does not dominate the 5-byte fee 170 000 -/
example : domB (exBody 65535) (exBody 170000) = false ∧ domB (exBody 170000) (exBody 65536) = true := by decide +kernel

/-- the loop hypothesis of `fee_loop_tight` on the estimator of the C07 example: estimates vary by 1 -/
example : Pyc.FeeLoop.loop (fun f => 255 + (if f < 256 then 3 else 4)) 5 250 = some 259
    ∧ (259 : ℤ) ≤ (fun f : ℤ => 255 + (if f < 256 then 3 else 4)) 259 + 1 := by decide

/-- three placeholders, as `TransactionWitnessSet(vkey_witnesses=…)` writes them under key 0: 2 + 1 + 1 + 3·101 bytes;
placeholder 256 differs from placeholder 0 (the collision of the former AND masks is gone) -/
example : size (fakeWitnessSet 3) = 307 ∧ (fakeKey 256).1 ≠ (fakeKey 0).1 ∧ (fakeKey 0).1 = maskVkey := by decide +kernel

end Pyc.C07.SizeDom

#print axioms Pyc.C07.SizeDom.dom_size
#print axioms Pyc.C07.SizeDom.dom_size_list
#print axioms Pyc.C07.SizeDom.dom_size_pairs
#print axioms Pyc.C07.SizeDom.dom_refl
#print axioms Pyc.C07.SizeDom.dom_uint_iff
#print axioms Pyc.C07.SizeDom.dom_uint_of_le
#print axioms Pyc.C07.SizeDom.dom_bytes_iff
#print axioms Pyc.C07.SizeDom.dom_kind_mismatch
#print axioms Pyc.C07.SizeDom.dom_array_of_sublist
#print axioms Pyc.C07.SizeDom.dom_set_of_sublist
#print axioms Pyc.C07.SizeDom.dom_map_of_sublist
#print axioms Pyc.C07.SizeDom.dom_array_pointwise
#print axioms Pyc.C07.SizeDom.fee_dom
#print axioms Pyc.C07.SizeDom.built_fee_sufficient
#print axioms Pyc.C07.SizeDom.built_fee_sufficient_loop
#print axioms Pyc.C07.SizeDom.built_fee_covers_ledger
#print axioms Pyc.C07.SizeDom.fee_slack_bound
#print axioms Pyc.C07.SizeDom.slack_spec
#print axioms Pyc.C07.SizeDom.fee_loop_tight
#print axioms Pyc.C07.SizeDom.built_fee_tight_partial
#print axioms Pyc.C07.SizeDom.fake_witness_count
#print axioms Pyc.C07.SizeDom.fake_witness_inj
#print axioms Pyc.C07.SizeDom.fake_witness_model_wraps_at_bound
#print axioms Pyc.C07.SizeDom.fake_witness_shape
#print axioms Pyc.C07.SizeDom.fake_witnesses_dominate
#print axioms Pyc.C07.SizeDom.fake_witnesses_dominate_upto
