import Pyc.Proofs.Ids

/-! # C17 — identifiers are the specified BLAKE2b digests of the exact bytes

Property theorems only.  Model: `Pyc/Model/Ids.lean` (every identifier as `(digest length, preimage)`; the hash function
`H : Nat → Bytes → Bytes` is a universally quantified parameter — no theorem depends on what BLAKE2b computes).
Specification: `Pyc/Spec/Ids.lean` (ledger spec / CDDL / CIP-14, written independently).  The serializers of bodies,
datums and auxiliary data are not re-modelled here: an object of these kinds is represented by the CBOR item it
serializes to (`Pyc/Model/Cbor.lean`), the native-script serializer is modelled in full. -/

namespace Pyc.C17
open Pyc.Cbor Pyc.Ids

/-! ## the table -/

/-- for every identifier kind and every object the specification speaks about, the model's digest length and preimage
are the specified ones: tx id (32, enc body), datum hash (32, enc datum), aux-data hash (32, enc aux), key hash
(28, the 32-byte public key — for extended keys the payload without its chain code), script hash (28, language tag ‖
script bytes; native scripts: tag 0 and the CDDL bytes), policy id and script-address credential = script hash, CIP-14
fingerprint (20, policy ‖ name) -/
theorem id_table (o : Obj) (h : Spec.Ids.Valid o) : idOf o = Spec.Ids.idOf o := by
  have script : ∀ s : Script, (∀ n, s = .native n → Spec.Ids.ValidNative n) →
      scriptId s = Spec.Ids.hashScript s := by
    intro s hs
    cases s with
    | native n => exact congrArg (fun b => Id.mk 28 (0x00 :: b)) (native_cbor_spec n (hs n rfl))
    | plutus l b => cases l <;> rfl
    | raw b => rfl
  cases o with
  | txBody _ | datum _ | auxData _ | vkey _ | asset _ _ => rfl
  | xvkey p =>
    have h : p.length = 64 := h
    simp only [idOf, xvkeyId, vkeyId, toNonExtended, Spec.Ids.idOf, Spec.Ids.publicKeyOfExtended, h]
    rfl
  | script s | policy s | scriptAddr s => exact script s (by intro n hn; subst hn; exact h)

/-- the fixed sizes of every `ConstrainedBytes` hash class of hash.py are the specified widths; the CIP-14 prefix -/
theorem size_table : (∀ e ∈ Spec.Ids.sizeTable, constrainedSize e.1 = some (Spec.Ids.octets e.2)) ∧
    fingerprintHrp = Spec.Ids.fingerprintHrp := by
  constructor
  · decide +kernel
  · decide

/-! ## preimages determine the object -/

/-- language tag of a script as the library hashes it -/
def tagOf : Script → UInt8
  | .native _ => 0x00
  | .plutus l _ => l.prefixByte
  | .raw _ => 0x01

/-- the bytes the script object holds / serializes to -/
def heldBytes : Script → Bytes
  | .native s => s.cbor
  | .plutus _ b => b
  | .raw b => b

/-- script preimages are equal exactly when the language tags and the held bytes are equal (for all byte strings):
the same bytes under another language, or other bytes under the same language, give a different preimage; and the
three Plutus prefixes and the native prefix are pairwise different -/
theorem preimage_injective_scripts (s t : Script) :
    (scriptPreimage s = scriptPreimage t ↔ (tagOf s = tagOf t ∧ heldBytes s = heldBytes t)) ∧
    (∀ l₁ l₂ : Lang, l₁.prefixByte = l₂.prefixByte → l₁ = l₂) ∧ (∀ l : Lang, l.prefixByte ≠ 0x00) := by
  have e : ∀ s, scriptPreimage s = tagOf s :: heldBytes s := fun s => by cases s <;> rfl
  refine ⟨?_, ?_, ?_⟩
  · rw [e s, e t]; exact List.cons_eq_cons
  · intro l₁ l₂; cases l₁ <;> cases l₂ <;> decide
  · intro l; cases l <;> decide

/-- Plutus scripts: other language or other bytes ⇒ other preimage -/
theorem preimage_injective_plutus (l₁ l₂ : Lang) (b₁ b₂ : Bytes) :
    scriptPreimage (.plutus l₁ b₁) = scriptPreimage (.plutus l₂ b₂) ↔ (l₁ = l₂ ∧ b₁ = b₂) := by
  constructor
  · intro h
    exact ⟨(preimage_injective_scripts (.plutus l₁ b₁) (.plutus l₂ b₂)).2.1 l₁ l₂ (List.cons.inj h).1, (List.cons.inj h).2⟩
  · rintro ⟨rfl, rfl⟩; rfl

/-- a native script never shares a preimage with a Plutus script or a plain byte string -/
theorem preimage_native_ne_plutus (n : NScript) (l : Lang) (b : Bytes) :
    scriptPreimage (.native n) ≠ scriptPreimage (.plutus l b) ∧ scriptPreimage (.native n) ≠ scriptPreimage (.raw b) := by
  constructor
  · intro h; exact (preimage_injective_scripts (.raw b) (.raw b)).2.2 l (List.cons.inj h).1.symm
  · intro h; exact absurd (List.cons.inj h).1 (by decide)

/-- different well-formed items have different encodings (from the round trip `decode_encode`) -/
theorem preimage_injective_cbor (x y : Item) (hx : WF x) (hy : WF y) (h : x ≠ y) : encode x ≠ encode y :=
  fun he => h (Cbor.encode_inj hx hy he)

/-- hence different bodies / datums / auxiliary data have different preimages -/
theorem preimage_injective_objects (x y : Item) (hx : WF x) (hy : WF y) (h : x ≠ y) :
    (txId x).pre ≠ (txId y).pre ∧ (datumId x).pre ≠ (datumId y).pre ∧ (auxId x).pre ≠ (auxId y).pre :=
  ⟨preimage_injective_cbor x y hx hy h, preimage_injective_cbor x y hx hy h, preimage_injective_cbor x y hx hy h⟩

/-- hence different native script trees (within the CDDL ranges) have different preimages -/
theorem preimage_injective_native (s t : NScript) (hs : Spec.Ids.ValidNative s) (ht : Spec.Ids.ValidNative t)
    (h : scriptPreimage (.native s) = scriptPreimage (.native t)) : s = t :=
  item_inj s t (Cbor.encode_inj (item_wf s hs) (item_wf t ht) (List.cons.inj h).2)

/-! ## hashing -/

/-- `H` does not collide on the pair `a`, `b` at digest length `n` (an explicit idealisation of BLAKE2b) -/
def NoCollision (H : Nat → Bytes → Bytes) (n : Nat) (a b : Bytes) : Prop := H n a = H n b → a = b

/-- equal bytes ⇒ equal identifier, for any `H`; and for an `H` that does not collide on the two preimages, different
preimages ⇒ different identifiers -/
theorem hash_respects_preimage (H : Nat → Bytes → Bytes) (i j : Id) :
    (i = j → i.digest H = j.digest H) ∧
    (i.len = j.len → NoCollision H i.len i.pre j.pre → i.pre ≠ j.pre → i.digest H ≠ j.digest H) := by
  exact ⟨fun h => by rw [h], fun hl hc hne he => hne (hc (he.trans (congrArg (H · j.pre) hl.symm)))⟩

/-- the script hash depends on nothing but language tag and held bytes; two scripts a collision-free `H` maps to the
same hash have the same language tag and the same bytes -/
theorem script_hash_binds (H : Nat → Bytes → Bytes) (s t : Script)
    (hc : NoCollision H 28 (scriptPreimage s) (scriptPreimage t)) :
    scriptHash H s = scriptHash H t ↔ (tagOf s = tagOf t ∧ heldBytes s = heldBytes t) := by
  rw [← (preimage_injective_scripts s t).1]
  constructor
  · intro h; exact hc h
  · intro h; simp [scriptHash, scriptId, Id.digest, h]

/-! ## the builder's script gate -/

/-- the gate is exactly hash equality with the input's payment credential -/
theorem script_gate (H : Nat → Bytes → Bytes) (s : Script) (cred : Bytes) :
    acceptsScript (scriptHash H s) cred = true ↔ scriptHash H s = cred :=
  acceptsScript_iff _ _

/-- an offered (truthy) script for an input that carries no script of its own is accepted iff its hash is the input's
payment credential, whatever else lives at the address -/
theorem script_gate_offered (H : Nat → Bytes → Bytes) (s : Script) (cred : Bytes) (atAddr : List (Option Script))
    (ht : s.truthy = true) :
    (addScriptInput Script.truthy (scriptHash H) cred none atAddr (.script s) = .ok (s, .offered) ↔
      scriptHash H s = cred) ∧
    (addScriptInput Script.truthy (scriptHash H) cred none atAddr (.script s) = .error .noValidScript ↔
      scriptHash H s ≠ cred) := by
  by_cases h : scriptHash H s = cred <;>
    simp [addScriptInput, candidates, ownCandidate, ht, firstMatch, acceptsScript, h]

/-- success returns the *first* candidate, in the search order, whose hash is the credential; nothing is accepted
whose hash differs -/
theorem script_gate_first {σ : Type} (truthy : σ → Bool) (hash : σ → Bytes) (cred : Bytes) (own : Option σ)
    (atAddr : List (Option σ)) (offer : Offer σ) (c : σ × Src)
    (h : addScriptInput truthy hash cred own atAddr offer = .ok c) :
    ∃ cs pre post, candidates truthy own atAddr offer = some cs ∧ cs = pre ++ c :: post ∧ hash c.1 = cred ∧
      ∀ d ∈ pre, hash d.1 ≠ cred := by
  unfold addScriptInput at h
  cases hc : candidates truthy own atAddr offer with
  | none => simp [hc] at h
  | some cs =>
    simp only [hc] at h
    cases hf : firstMatch hash cred cs with
    | none => simp [hf] at h
    | some d =>
      simp only [hf] at h
      injection h with h
      subst h
      obtain ⟨pre, post, h1, h2, h3⟩ := firstMatch_some hash cred cs d hf
      exact ⟨cs, pre, post, rfl, h1, h2, h3⟩

/-- the call is refused exactly when a reference UTxO without script was offered, or no candidate hashes to the
credential -/
theorem script_gate_reject {σ : Type} (truthy : σ → Bool) (hash : σ → Bytes) (cred : Bytes) (own : Option σ)
    (atAddr : List (Option σ)) (offer : Offer σ) :
    (addScriptInput truthy hash cred own atAddr offer = .error .noValidScript ↔
      ∃ cs, candidates truthy own atAddr offer = some cs ∧ ∀ d ∈ cs, hash d.1 ≠ cred) ∧
    (addScriptInput truthy hash cred own atAddr offer = .error .refWithoutScript ↔
      candidates truthy own atAddr offer = none) := by
  unfold addScriptInput
  cases candidates truthy own atAddr offer with
  | none => dsimp only; exact ⟨⟨nofun, nofun⟩, fun _ => rfl, fun _ => rfl⟩
  | some cs =>
    dsimp only
    cases hf : firstMatch hash cred cs with
    | none => exact ⟨⟨fun _ => ⟨cs, rfl, (firstMatch_none hash cred cs).1 hf⟩, fun _ => rfl⟩, nofun, nofun⟩
    | some d =>
      refine ⟨⟨nofun, fun ⟨cs', e, h⟩ => ?_⟩, nofun, nofun⟩
      cases e
      rw [(firstMatch_none hash cred cs).2 h] at hf
      cases hf

/-- the search order: the script on the spent UTxO alone when there is one; else, without a (truthy) offer, the scripts
found at the address in the order the chain context returns them; else the offered reference UTxO's script; else the
offered script -/
theorem script_search_order {σ : Type} (truthy : σ → Bool) (own : Option σ) (atAddr : List (Option σ))
    (offer : Offer σ) :
    (∀ s, own = some s → truthy s = true → candidates truthy own atAddr offer = some [(s, .own)]) ∧
    ((∀ s, own = some s → truthy s = false) →
      (offer = .none → candidates truthy own atAddr offer = some (addrCandidates truthy 0 atAddr)) ∧
      (∀ s, offer = .refUtxo (some s) → candidates truthy own atAddr offer = some [(s, .offeredRef)]) ∧
      (offer = .refUtxo none → candidates truthy own atAddr offer = none) ∧
      (∀ s, offer = .script s → truthy s = true → candidates truthy own atAddr offer = some [(s, .offered)])) := by
  constructor
  · intro s hs ht; subst hs; simp [candidates, ownCandidate, ht]
  · intro hown
    have hf : ownCandidate truthy own = none := by
      cases own with
      | none => rfl
      | some s => simp [ownCandidate, hown s rfl]
    refine ⟨?_, ?_, ?_, ?_⟩
    · intro ho; subst ho; simp [candidates, hf]
    · intro s ho; subst ho; simp [candidates, hf]
    · intro ho; subst ho; simp [candidates, hf]
    · intro s ho ht; subst ho; simp [candidates, hf, ht]

/-! ## auxiliary data -/

/-- in the transaction the builder ships, body key 7 is present iff auxiliary data is shipped, and it is the hash
(32, encoding) of the very auxiliary-data item in the transaction's last position -/
theorem aux_hash_shipped (H : Nat → Bytes → Bytes) (r : BodyRest) (ws : Item) (aux : Option Item)
    (hb : lookupKey 7 r.before = none) (ha : lookupKey 7 r.after = none)
    (hn : ∀ a, aux = some a → isNull a = false) :
    ∃ kvs shipped, txParts (buildTx H r ws aux) = some (.map kvs, ws, .simple 21, shipped) ∧
      (isNull shipped = true → aux = none ∧ lookupKey 7 kvs = none) ∧
      (isNull shipped = false → aux = some shipped ∧
        lookupKey 7 kvs = some (.bytes ((auxId shipped).digest H)) ∧ (auxId shipped).len = 32 ∧
        (auxId shipped).pre = encode shipped) := by
  cases aux with
  | none =>
    refine ⟨_, _, rfl, ?_, ?_⟩
    · intro _; simp [lookupKey_append, hb, ha]
    · intro h; simp [isNull] at h
  | some a =>
    refine ⟨_, _, rfl, ?_, ?_⟩
    · intro h; simp [hn a rfl] at h
    · intro _
      simp [lookupKey_append, hb, lookupKey, auxId, AUXILIARY_DATA_HASH_SIZE]

/-! ## keys -/

/-- ordinary (32-byte) and extended (public key ‖ chain code) verification keys: the preimage is the first 32 bytes,
the digest 28 bytes; an extended key and its non-extended form have the same key hash -/
theorem key_hash_trim (H : Nat → Bytes → Bytes) (p : Bytes) :
    (xvkeyId p).pre = p.take 32 ∧ (xvkeyId p).len = 28 ∧ (vkeyId p).len = 28 ∧
    (p.length = 32 → (vkeyId p).pre = p.take 32) ∧
    (xvkeyId p).digest H = (vkeyId (toNonExtended p)).digest H ∧
    (∀ cc₁ cc₂ : Bytes, p.length = 32 → (xvkeyId (p ++ cc₁)).digest H = (xvkeyId (p ++ cc₂)).digest H) := by
  refine ⟨rfl, rfl, rfl, ?_, rfl, ?_⟩
  · intro h; simp [vkeyId, ← h]
  · intro c1 c2 h
    simp [xvkeyId, vkeyId, toNonExtended, Id.digest, h]

/-! ## non-vacuity -/

/-- a nested native script of all six kinds is within the specification's ranges, its model preimage is the CDDL
bytes after a zero byte, and its primitive form is a well-formed item -/
example :
    let s : NScript := .nofk 2 [.pubkey [1, 2, 3], .all [.any [.before 5, .hereafter 70000]], .all []]
    Spec.Ids.ValidNative s ∧ WF s.item ∧
    scriptPreimage (.native s) = [0x00, 0x83, 0x03, 0x02, 0x83, 0x82, 0x00, 0x43, 1, 2, 3, 0x82, 0x01, 0x81, 0x82, 0x02,
      0x82, 0x82, 0x04, 0x05, 0x82, 0x05, 0x1a, 0x00, 0x01, 0x11, 0x70, 0x82, 0x01, 0x80] := by
  intro s
  have hv : Spec.Ids.ValidNative s := by
    simp [s, Spec.Ids.ValidNative, Spec.Ids.ValidNatives]
  exact ⟨hv, item_wf s hv, by decide +kernel⟩

/-- `NoCollision` is satisfiable (here by an injective stand-in) and the gate both accepts and rejects -/
example :
    let H : Nat → Bytes → Bytes := fun _ b => b
    (∀ n a b, NoCollision H n a b) ∧
    addScriptInput Script.truthy (scriptHash H) [0x02, 7] none [some (.plutus .v3 [7]), some (.plutus .v2 [7])] .none
      = .ok (.plutus .v2 [7], .atAddress 1) ∧
    addScriptInput Script.truthy (scriptHash H) [0x02, 7] none [] (.script (.plutus .v3 [7])) = .error .noValidScript ∧
    addScriptInput Script.truthy (scriptHash H) [0x02, 7] (some (.plutus .v1 [7])) [] (.script (.plutus .v2 [7]))
      = .error .noValidScript := by
  intro H
  refine ⟨fun n a b h => h, rfl, rfl, rfl⟩

/-- the hypotheses of `aux_hash_shipped` hold for a body with inputs, outputs, fee and a mint field -/
example : lookupKey 7 [(Item.uint 0, Item.array []), (.uint 1, .array []), (.uint 2, .uint 170000)] = none ∧
    lookupKey 7 [(Item.uint 9, Item.map [])] = none ∧ isNull (.tag 259 (.map [])) = false := by decide +kernel

end Pyc.C17

#print axioms Pyc.C17.id_table
#print axioms Pyc.C17.size_table
#print axioms Pyc.C17.preimage_injective_scripts
#print axioms Pyc.C17.preimage_injective_plutus
#print axioms Pyc.C17.preimage_native_ne_plutus
#print axioms Pyc.C17.preimage_injective_cbor
#print axioms Pyc.C17.preimage_injective_objects
#print axioms Pyc.C17.preimage_injective_native
#print axioms Pyc.C17.hash_respects_preimage
#print axioms Pyc.C17.script_hash_binds
#print axioms Pyc.C17.script_gate
#print axioms Pyc.C17.script_gate_offered
#print axioms Pyc.C17.script_gate_first
#print axioms Pyc.C17.script_gate_reject
#print axioms Pyc.C17.script_search_order
#print axioms Pyc.C17.aux_hash_shipped
#print axioms Pyc.C17.key_hash_trim
