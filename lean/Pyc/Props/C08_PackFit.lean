import Pyc.Proofs.PackFit

/-! # C08 (extension PackFit) — the change outputs fit the maximum value size

C08 says of every change output the builder adds: "its value fits the maximum value size, with large token bundles split
across several outputs without losing or duplicating any token".  The main file proves the minimum-ADA half and
`pack_preserves` (under the hypothesis that the `break` of `_pack_tokens_for_change` is not taken); this file proves the
size half (`change_fit`, `final_changes_fit`).  It holds of the code since repair 8c81354; before it the clause was false: a
last change output of 2^32 lovelace or more was measured with a 5-byte minimum ADA and emitted with a 9-byte coin, up to 4
bytes over the limit.

How the code decides (txbuilder.py:792-898, model `Pyc.Builder.overflow / packAsset / packPolicies / packTokens`):

* every output under construction — the first one and each one opened after a chunk is closed — holds the WHOLE change coin;
* a chunk is closed BEFORE the asset that would overflow it is added; the probe measures `len(v.to_cbor())` of the value
  `v` = (assets already flushed into the output) + (buffered assets of the current policy) + (the new asset), whose coin has
  been REPLACED by the larger of `min_lovelace_post_alonzo` of that output and the change coin (`probe_measures`);
* after a chunk is closed, the asset that overflowed is put into the fresh buffer WITHOUT being measured on its own;
* at the end of each policy the flushed output is measured once more, the same way; on overflow the output is reset to
  `old_amount` and the loop `break`s: the buffered assets of that policy and ALL remaining policies are dropped.

Results (all quantify over every parameter set, address, change value; no size bound):

* `chunk_provenance`: every chunk returned is empty, or was measured and found to fit, or is ONE asset of the change on its
  own (one policy with one name) — so an oversized chunk can only be a single asset that alone exceeds the limit
  (`oversized_chunk_is_single`); the packing never loops and never raises (it is a pair of `for` loops: total functions).
* `pack_fit`: if no single asset alone exceeds the limit (measured like everything else: under the change coin), every
  chunk fits next to EVERY coin between 0 and the change coin (the width of a coin is monotone: `coinLen_mono`, bignums
  included); `pack_fit_own_min`: in particular with its own minimum ADA when that does not exceed the change coin.
* `change_fit`: every change output `_calc_change` returns fits `max_val_size` with the coin it finally carries, when the
  minimum-ADA requirement is on (each coin handed out then lies between 0 and the change coin: the refusal `change <
  minAda(bundle)` is what guarantees it) or the change is a single output; `final_changes_fit`: hence every change output
  `_add_change_and_fee` adds or merges fits (a relaxed requirement is only ever kept for a single change output).
  Hypotheses that remain: coins-per-byte ≥ 0 and no single asset alone over the limit.
* `pack_no_break`, `pack_preserves_of_fit`, `change_sum_of_fit`: with positive quantities (what `_calc_change` passes) and
  no single oversized asset the `break` is never taken, so nothing is lost; `pack_preserves_counterexample`: when the last
  asset of a policy alone exceeds the limit the `break` IS taken and tokens vanish from the packing (limit below 86 bytes).
* `pack_nonempty`, `pack_chunks_bounded`: progress and the bound on the number of chunks. -/

namespace Pyc.C08.PackFit
open Pyc.Builder Pyc.Cbor Pyc.PackFit

/-- **size of a value** = width of the coin, plus — for a non-empty bundle — the 1-byte head of `[coin, bundle]` and the
size of the bundle: the coin and the bundle contribute independently -/
theorem value_size_split (c : Int) (m : MultiAsset) :
    vlen ⟨c, m⟩ = if (MultiAsset.normalize m).isEmpty then coinLen c else 1 + coinLen c + bundleLen m :=
  vlen_split c m

/-- **canonical sorting does not change the size**: the size of a serialized value is a function of the bundle's content
(insertion order, zero entries, empty policies are irrelevant) — no key-length hypothesis -/
theorem size_order_independent (c : Int) (m₁ m₂ : MultiAsset) (h1 : MultiAsset.WF m₁) (h2 : MultiAsset.WF m₂)
    (h : ∀ p n, MultiAsset.qty m₁ p n = MultiAsset.qty m₂ p n) : vlen ⟨c, m₁⟩ = vlen ⟨c, m₂⟩ :=
  vlen_sizeEq c m₁ m₂ (sizeEq_of_content m₁ m₂ h1 h2 h)

/-- **what the overflow probe measures**: the value (new asset + buffered assets of the policy + output so far) with its
coin replaced by the larger of the minimum ADA of that output and the coin the output holds, against `max_val_size` with a strict `>` -/
theorem probe_measures (P : Params) (addr : Bytes) (out : Value) (cur : Asset) (pol n : Bytes) (q : Int) :
    overflow P addr out cur pol n q = true ↔
      P.maxValSize < probeLen P addr out.coin (MultiAsset.add [(pol, Asset.add cur [(n, q)])] out.ma) := by
  rw [overflow_eq]
  simp [fits]

/-- … and the value it measures has the same size as the value the flush later stores -/
theorem probe_is_stored_size (P : Params) (addr : Bytes) (out : Value) (pol : Bytes) (t : Asset)
    (ho : MultiAsset.WF out.ma) (ht : Dict.WF t) :
    probeLen P addr out.coin (MultiAsset.add [(pol, t)] out.ma) = probeLen P addr out.coin (flush out pol t).ma :=
  probeLen_sizeEq P addr out.coin _ _ (sizeEq_attempt_flush out pol t ho ht)

/-- what is known of a chunk (every output is built under the change coin) -/
def Known (P : Params) (addr : Bytes) (ch : Value) (m : MultiAsset) : Prop :=
  m = [] ∨ (∃ pa ∈ ch.ma, ∃ a ∈ pa.2, m = single pa.1 a) ∨ probeLen P addr ch.coin m ≤ P.maxValSize

/-- **provenance of every chunk, for all inputs**: each is empty, or a single asset of the change on its own, or
measured (under the change coin) and fitting -/
theorem chunk_provenance (P : Params) (addr : Bytes) (ch : Value) :
    (packTokens P addr ch).1 ≠ [] ∧ ∀ m ∈ (packTokens P addr ch).1, Known P addr ch m := by
  refine ⟨packTokens_ne_nil P addr ch, ?_⟩
  intro m hm
  rcases packTokens_arrOK P addr ch m hm with h | h | h
  · exact Or.inl h
  · exact Or.inr (Or.inl h)
  · exact Or.inr (Or.inr (by simpa [fits] using h))

/-- **what the code does with an asset that is too big on its own**: it emits it, alone — a chunk measured over the
limit is a single asset (one policy, one name) of the change -/
theorem oversized_chunk_is_single (P : Params) (addr : Bytes) (ch : Value) (m : MultiAsset)
    (hm : m ∈ (packTokens P addr ch).1) (hne : m ≠ []) (hover : P.maxValSize < probeLen P addr ch.coin m) :
    ∃ pa ∈ ch.ma, ∃ a ∈ pa.2, m = single pa.1 a := by
  rcases (chunk_provenance P addr ch).2 m hm with h | h | h
  · exact absurd h hne
  · exact h
  · omega

/-- **size invariant of packing** (no single asset alone over the limit): every chunk fits next to every coin between
0 and the change coin -/
theorem pack_fit (P : Params) (addr : Bytes) (ch : Value) (hs : noSingleOver P addr ch = true) :
    ∀ m ∈ (packTokens P addr ch).1, ∀ c : Int, 0 ≤ c → c ≤ ch.coin → m = [] ∨ vlen ⟨c, m⟩ ≤ P.maxValSize :=
  fun m hm c h0 hc => fitsX_coin P addr ch.coin m c (packTokens_arrFit P addr ch hs m hm) h0 hc

/-- … and next to ANY coin, up to the number of bytes by which it is wider than the coin the chunk was measured with -/
theorem pack_fit_any_coin (P : Params) (addr : Bytes) (ch : Value) (hs : noSingleOver P addr ch = true) :
    ∀ m ∈ (packTokens P addr ch).1,
      m = [] ∨ ∀ c : Int, vlen ⟨c, m⟩ + coinLen (probeCoin P addr ch.coin m) ≤ P.maxValSize + coinLen c :=
  packTokens_arrFit P addr ch hs

/-- in particular every chunk fits with its own minimum ADA — the coin `_calc_change` gives it unless it is the last —
whenever that minimum does not exceed the change coin (otherwise `_calc_change` refuses) -/
theorem pack_fit_own_min (P : Params) (addr : Bytes) (ch : Value) (hs : noSingleOver P addr ch = true)
    (hcpb : 0 ≤ P.cpb) (m : MultiAsset) (hm : m ∈ (packTokens P addr ch).1)
    (hle : minAda P addr ⟨0, m⟩ ≤ ch.coin) : m = [] ∨ vlen ⟨minAda P addr ⟨0, m⟩, m⟩ ≤ P.maxValSize :=
  pack_fit P addr ch hs m hm _ (minAda_nonneg P addr _ hcpb) hle

/-- **the `break` is never taken** when every quantity is positive (what `_calc_change` passes: `changeValue_pos`) and no
single asset alone exceeds the limit -/
theorem pack_no_break (P : Params) (addr : Bytes) (ch : Value) (hpos : MultiAsset.Pos ch.ma)
    (hs : noSingleOver P addr ch = true) : (packTokens P addr ch).2 = false :=
  (packPolicies_pos P addr ch hpos hs).1

/-- … hence **nothing is lost or duplicated**, from hypotheses on the input alone (C08 `pack_preserves` assumes the
`break` away) -/
theorem pack_preserves_of_fit (P : Params) (addr : Bytes) (ch : Value) (hw : MultiAsset.WF ch.ma)
    (hpos : MultiAsset.Pos ch.ma) (hs : noSingleOver P addr ch = true) (p n : Bytes) :
    sumQty (packTokens P addr ch).1 p n = MultiAsset.qty ch.ma p n :=
  packTokens_preserves P addr ch hw (pack_no_break P addr ch hpos hs) p n

/-- the unconditional conservation claim -/
def pack_preserves_goal : Prop :=
  ∀ (P : Params) (addr : Bytes) (ch : Value), MultiAsset.WF ch.ma → MultiAsset.Pos ch.ma →
    ∀ p n, sumQty (packTokens P addr ch).1 p n = MultiAsset.qty ch.ma p n

def wP : Params := { cpb := 4310, maxValSize := 45, keyDeposit := 2000000, poolDeposit := 500000000 }
def wAddr : Bytes := 0x60 :: List.replicate 28 0x11
def wPol : Bytes := List.replicate 28 0xc0
def wName32 : Bytes := List.replicate 32 0xaa
/-- 7 units of one asset with a 32-byte name: 73 bytes on its own, over the 45-byte limit -/
def wBig : Value := ⟨5000000, [(wPol, [(wName32, 7)])]⟩

/-- **tokens vanish when the last asset of a policy alone exceeds the limit**: the probe closes an (empty) chunk, the
asset goes into the fresh buffer unmeasured, the end-of-policy re-check overflows, the output is reset and the loop
`break`s: the packing returns two empty bundles -/
theorem pack_preserves_counterexample : ¬ pack_preserves_goal := by
  intro h
  have h1 := h wP wAddr wBig
    (by refine ⟨by simp [Dict.WF, Dict.keys, wBig], ?_⟩; intro q hq; simp [wBig] at hq; subst hq; simp [Dict.WF, Dict.keys])
    (by intro q hq; simp [wBig] at hq; subst hq; simp)
    wPol wName32
  revert h1
  decide +kernel

/-- **progress**: with positive quantities and no single oversized asset no chunk is empty -/
theorem pack_nonempty (P : Params) (addr : Bytes) (ch : Value) (hpos : MultiAsset.Pos ch.ma)
    (hs : noSingleOver P addr ch = true) (hne : ch.ma ≠ []) : ∀ m ∈ (packTokens P addr ch).1, m ≠ [] := by
  have h := packPolicies_pos P addr ch hpos hs
  intro m hm
  rcases List.mem_append.1 hm with hm | hm
  · exact h.2.1 m hm
  · exact List.mem_singleton.1 hm ▸ h.2.2 hne

/-- **number of chunks**: at most one per `(policy, name)` pair, plus the last — for all inputs -/
theorem pack_chunks_bounded (P : Params) (addr : Bytes) (ch : Value) :
    (packTokens P addr ch).1.length ≤ pairCount ch.ma + 1 := by
  have := packPolicies_arr_len P addr ch.coin ch.ma (initState ch)
  rw [packTokens_eq, List.length_append, List.length_singleton]
  exact Nat.succ_le_succ (by simpa [initState] using this)

/-! ## the change outputs of `_calc_change` -/

/-- **the fit clause of C08**: every change output `_calc_change` returns fits `max_val_size` with the coin it finally
carries — when the minimum-ADA requirement is on, or the change is a single output (the only case in which
`_add_change_and_fee` keeps a result computed without the requirement) -/
theorem change_fit (P : Params) (a : ChangeArgs) (cs : List Output) (h : calcChange P a = .ok cs)
    (hs : noSingleOver P a.addr (changeValue a) = true) (hcpb : 0 ≤ P.cpb)
    (hr : a.respect = true ∨ cs.length = 1) : allFit P cs = true := by
  have := calcChange_fit P a cs h hs hcpb hr
  simp only [allFit, List.all_eq_true, Bool.or_eq_true, decide_eq_true_eq, List.isEmpty_iff]
  exact this

/-- … hence **every change output `_add_change_and_fee` adds (or merges) fits**: `_calc_changes()` keeps a result computed
without the minimum-ADA requirement only when it is a single output -/
theorem final_changes_fit (P : Params) (outs cs : List Output) (a : ChangeArgs) (mc : Bool)
    (h : finalChanges P outs a mc = .ok cs)
    (hs : noSingleOver P a.addr (changeValue (finalArgs outs a mc)) = true) (hcpb : 0 ≤ P.cpb) :
    allFit P cs = true := by
  obtain ⟨r, hcalc, _, hlen⟩ := Builder.finalChanges_calc P outs cs a mc h
  have hr : (withRespect (finalArgs outs a mc) r).respect = true ∨ cs.length = 1 := by
    by_cases hl : cs.length = 1
    · exact Or.inr hl
    · exact Or.inl (by simp [withRespect, hlen hl])
  exact change_fit P (withRespect (finalArgs outs a mc) r) cs hcalc hs hcpb hr

/-- every change output but the last holds exactly the minimum ADA of its bundle (priced with coin 0), whatever the
flag; it fits whenever that minimum does not exceed the change coin -/
theorem change_fit_middle (P : Params) (a : ChangeArgs) (cs : List Output) (h : calcChange P a = .ok cs)
    (hs : noSingleOver P a.addr (changeValue a) = true) (hcpb : 0 ≤ P.cpb) :
    ∀ o ∈ cs.dropLast, o.amount.coin = minAda P a.addr ⟨0, o.amount.ma⟩ ∧
      (o.amount.coin ≤ (changeValue a).coin → o.amount.ma = [] ∨ vlen o.amount ≤ P.maxValSize) := by
  obtain ⟨_, hfit, hcoin⟩ := calcChange_arrFit P a cs h hs
  intro o ho
  refine ⟨hcoin o ho, fun hle => ?_⟩
  have hmem : o ∈ cs := List.dropLast_subset cs ho
  have h0 : 0 ≤ o.amount.coin := by rw [hcoin o ho]; exact minAda_nonneg P a.addr _ hcpb
  exact fitsX_coin P a.addr _ _ o.amount.coin
    (hfit o.amount.ma (by simp only [List.mem_map]; exact ⟨o, hmem, rfl⟩)) h0 hle

/-- with no single oversized asset the change outputs hold exactly `provided − requested`, for ADA and for every asset:
`calcChange_sum` (C06 / C08) without its hypothesis on the `break` -/
theorem change_sum_of_fit (P : Params) (a : ChangeArgs) (cs : List Output) (h : calcChange P a = .ok cs) (hw : ArgsWF a)
    (hs : noSingleOver P a.addr (changeValue a) = true) :
    sumCoin cs = (provided a).coin - (requested a).coin ∧
    ∀ p n, sumAsset cs p n = MultiAsset.qty (provided a).ma p n - MultiAsset.qty (requested a).ma p n :=
  calcChange_sum P a cs h hw (pack_no_break P a.addr _ (changeValue_pos a) hs)

/-- the input on which the code before 8c81354 emitted an output over the limit: one asset with a 4-byte name next to 2^32
lovelace under a 45-byte limit.  Measured with the 9-byte coin the asset alone takes 48 bytes: it is a single asset over
the limit (outside `noSingleOver`) -/
def wArgs : ChangeArgs :=
  { fee := 170000
    inputs := [⟨4294967296 + 170000, [(wPol, [([1, 2, 3, 4], 1)])]⟩]
    outputs := []
    mint := []
    withdrawals := []
    deposits := 0
    addr := wAddr
    respect := true }

example : noSingleOver wP wArgs.addr (changeValue wArgs) = false
    ∧ probeLen wP wArgs.addr 4294967296 (changeValue wArgs).ma = 48 := by decide +kernel

/-- … and under a limit of 48 bytes the same change is one output of exactly 48 bytes -/
def wP48 : Params := { cpb := 4310, maxValSize := 48, keyDeposit := 2000000, poolDeposit := 500000000 }
example : (match calcChange wP48 wArgs with
    | .ok cs => noSingleOver wP48 wArgs.addr (changeValue wArgs) && allFit wP48 cs && decide (cs.length = 1)
        && cs.all (fun o => decide (vlen o.amount = 48 ∧ o.amount.coin = 4294967296))
    | .error _ => false) = true := by decide +kernel

/-! ## non-vacuity, evaluated by the kernel -/

/-- the hypotheses of `change_fit` are met by a run that splits a bundle over three outputs, all of which fit (11 assets
over 3 policies, limit 60 bytes) -/
def exP : Params := { cpb := 4310, maxValSize := 60, keyDeposit := 2000000, poolDeposit := 500000000 }
def exPol (i : Nat) : Bytes := List.replicate 28 (UInt8.ofNat (0xd0 + i))
def exArgs : ChangeArgs :=
  { fee := 170000
    inputs := [⟨9000000, [(exPol 0, [([1], 3), ([2, 2], 4), ([3, 3, 3], 5), ([4, 4, 4, 4], 6)]),
                          (exPol 1, [([5], 70000), ([6, 6], 1), ([7, 7, 7], 2), ([8], 300)]),
                          (exPol 2, [([9], 1), ([10], 1), ([11], 1)])]⟩]
    outputs := []
    mint := []
    withdrawals := []
    deposits := 0
    addr := wAddr
    respect := true }

example : (match calcChange exP exArgs with
    | .ok cs => noSingleOver exP exArgs.addr (changeValue exArgs) && allFit exP cs && decide (cs.length = 3)
        && decide (0 ≤ exP.cpb) && exArgs.respect
    | .error _ => false) = true := by decide +kernel

/-- … and the remaining hypotheses (`ArgsWF`, positivity, a non-empty bundle) hold of the same run -/
example : ArgsWF exArgs := by
  unfold ArgsWF MultiAsset.WF Dict.WF
  decide +kernel
example : MultiAsset.Pos (changeValue exArgs).ma := changeValue_pos exArgs
example : (changeValue exArgs).ma ≠ [] := by decide +kernel

/-- an asset too big on its own that is NOT the last of its policy is emitted alone in an oversized chunk (73 > 45), after
an empty first chunk; nothing is lost -/
def wBig2 : Value := ⟨5000000, [(wPol, [(wName32, 7), ([0xbb], 1)])]⟩
example : (packTokens wP wAddr wBig2).1 = [[], [(wPol, [(wName32, 7)])], [(wPol, [([0xbb], 1)])]]
    ∧ (packTokens wP wAddr wBig2).2 = false ∧ probeLen wP wAddr 0 [(wPol, [(wName32, 7)])] = 73 := by decide +kernel

example : MultiAsset.WF wBig2.ma ∧ MultiAsset.Pos wBig2.ma := by
  unfold MultiAsset.WF Dict.WF MultiAsset.Pos
  decide +kernel

/-- … and when it IS the last of its policy the `break` drops it together with every remaining policy -/
example : (packTokens wP wAddr wBig).1 = [[], []] ∧ (packTokens wP wAddr wBig).2 = true := by decide +kernel

end Pyc.C08.PackFit

#print axioms Pyc.C08.PackFit.value_size_split
#print axioms Pyc.C08.PackFit.size_order_independent
#print axioms Pyc.C08.PackFit.probe_measures
#print axioms Pyc.C08.PackFit.probe_is_stored_size
#print axioms Pyc.C08.PackFit.chunk_provenance
#print axioms Pyc.C08.PackFit.oversized_chunk_is_single
#print axioms Pyc.C08.PackFit.pack_fit
#print axioms Pyc.C08.PackFit.pack_fit_any_coin
#print axioms Pyc.C08.PackFit.pack_fit_own_min
#print axioms Pyc.C08.PackFit.pack_no_break
#print axioms Pyc.C08.PackFit.pack_preserves_of_fit
#print axioms Pyc.C08.PackFit.pack_preserves_counterexample
#print axioms Pyc.C08.PackFit.pack_nonempty
#print axioms Pyc.C08.PackFit.pack_chunks_bounded
#print axioms Pyc.C08.PackFit.change_fit
#print axioms Pyc.C08.PackFit.final_changes_fit
#print axioms Pyc.C08.PackFit.change_fit_middle
#print axioms Pyc.C08.PackFit.change_sum_of_fit
