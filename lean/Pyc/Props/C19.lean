import Pyc.Proofs.Cip8

/-! # C19 — CIP-8 signed messages verify iff untampered and bound to the signer

Model: `Pyc/Model/Cip8.lean` (`signModel`, `plan`, `judge`, `verifyModel` = `cip8.sign` / `cip8.verify` with the
`cose` package modelled).  The signature scheme and the key hash are a *parameter* `S : SigScheme SK`; what is
assumed about them is written out as hypotheses of each theorem (never as axioms):

* completeness needs `correct : ∀ sk m, S.verify (S.pk sk) m (S.sign sk m) = true`;
* soundness is relative to an idealised scheme for one honest key (`Ideal`): the only (message, signature) pair that
  verifies under the honest public key is the one the signer produced, and no other key has the honest key's hash.

Byte strings are bounded by 2^64 (CBOR cannot carry longer definite strings; Python's are bounded by 2^63). -/

namespace Pyc.C19
open Pyc.Cbor Pyc.Cip8

variable {SK : Type}

/-- a key object is well formed: the primitive's public key has 32 bytes and, for an extended key, the public key
*stored* in the object (which is what `sign` publishes) is the one belonging to the private part -/
structure KeyOk (S : SigScheme SK) (k : Key SK) : Prop where
  pkLen : (S.pk k.sk).length = 32
  stored : k.extended = true → k.stored.take 32 = S.pk k.sk

theorem vk32_eq (S : SigScheme SK) (k : Key SK) (hk : KeyOk S k) : vk32 S k = S.pk k.sk := by
  unfold vk32
  cases h : k.extended with
  | false => simp
  | true => simp [hk.stored h]

theorem vk32_length (S : SigScheme SK) (k : Key SK) (hk : KeyOk S k) : (vk32 S k).length = 32 := by
  rw [vk32_eq S k hk]; exact hk.pkLen

/-! ## the pieces of an honestly signed message -/

def honestAddr (S : SigScheme SK) (k : Key SK) (net : Addr.Network) : Bytes :=
  addressBytes (signerAddress k.role net (S.H28 (vk32 S k)))

def honestHdr (S : SigScheme SK) (k : Key SK) (attach : Bool) (net : Addr.Network) : List HdrEntry :=
  honestEntries (honestAddr S k net) (vk32 S k) attach

def honestTbs (S : SigScheme SK) (m : Bytes) (k : Key SK) (attach : Bool) (net : Addr.Network) : Bytes :=
  toBeSigned (encodeHeader (honestHdr S k attach net)) m

def honestSig (S : SigScheme SK) (m : Bytes) (k : Key SK) (attach : Bool) (net : Addr.Network) : Bytes :=
  S.sign k.sk (honestTbs S m k attach net)

def honestKey (S : SigScheme SK) (k : Key SK) (attach : Bool) : Option Bytes :=
  if attach then some (encode (coseKeyItem (vk32 S k))) else none

theorem honestAddr_length (S : SigScheme SK) (k : Key SK) (net : Addr.Network)
    (hashLen : ∀ x, (S.H28 x).length = 28) : (honestAddr S k net).length = 29 :=
  addressBytes_length _ _ _ (hashLen _)

theorem signModel_eq (S : SigScheme SK) (m : Bytes) (k : Key SK) (attach : Bool) (net : Addr.Network) :
    signModel S m k attach net =
      ⟨render (honestHdr S k attach net) m (honestSig S m k attach net), honestKey S k attach⟩ := rfl

/-- what `verify` extracts from an honestly signed message -/
def honestPlan (S : SigScheme SK) (m : Bytes) (k : Key SK) (attach : Bool) (net : Addr.Network) : Plan :=
  ⟨honestHdr S k attach net, m, honestSig S m k attach net, vk32 S k, honestAddr S k net,
    signerAddress k.role net (S.H28 (vk32 S k))⟩

/-- parse ∘ render on the honest object with an arbitrary payload and signature in place of the signed ones
(completeness substitutes nothing; `cip8_sound_payload_signature` substitutes altered ones) -/
theorem plan_substituted (S : SigScheme SK) (k : Key SK) (attach : Bool) (net : Addr.Network)
    (hk : KeyOk S k) (hashLen : ∀ x, (S.H28 x).length = 28)
    (m' s' : Bytes) (hm : m'.length < 2^64) (hu : utf8Valid m' = true) (hs : s'.length < 2^64) :
    plan ⟨render (honestHdr S k attach net) m' s', honestKey S k attach⟩ =
      some ⟨honestHdr S k attach net, m', s', vk32 S k, honestAddr S k net,
        signerAddress k.role net (S.H28 (vk32 S k))⟩ :=
  plan_honest _ _ m' s' attach _ (fromBytes_signer _ _ _ (hashLen _))
    (by rw [honestAddr_length S k net hashLen]; decide) (vk32_length S k hk) hm hu hs

theorem plan_signModel (S : SigScheme SK) (m : Bytes) (k : Key SK) (attach : Bool) (net : Addr.Network)
    (hk : KeyOk S k) (hashLen : ∀ x, (S.H28 x).length = 28) (hm : m.length < 2^64) (hu : utf8Valid m = true)
    (sigLen : (honestSig S m k attach net).length < 2^64) :
    plan (signModel S m k attach net) = some (honestPlan S m k attach net) := by
  rw [signModel_eq]
  exact plan_substituted S k attach net hk hashLen m _ hm hu sigLen

/-! ## completeness -/

/-- `verify(sign(m, k, attach, net))` reports success, returns the original text and the address derived from the
signing key — for payment and stake keys, ordinary and extended, key in the header or attached, either network -/
theorem cip8_complete (S : SigScheme SK)
    (correct : ∀ sk x, S.verify (S.pk sk) x (S.sign sk x) = true)
    (hashLen : ∀ x, (S.H28 x).length = 28)
    (m : Bytes) (k : Key SK) (attach : Bool) (net : Addr.Network)
    (hk : KeyOk S k) (hm : m.length < 2^64) (hu : utf8Valid m = true)
    (sigLen : (honestSig S m k attach net).length < 2^64) :
    verifyModel S (signModel S m k attach net) =
      some { verified := true, message := m, address := signerAddress k.role net (S.H28 (vk32 S k)) } := by
  have hvk := vk32_length S k hk
  unfold verifyModel
  rw [plan_signModel S m k attach net hk hashLen hm hu sigLen]
  have hb : (honestPlan S m k attach net).bip32 = false := by simp [Plan.bip32, honestPlan, hvk]
  have hs : sigCheck S (honestPlan S m k attach net) = true := by
    simp only [sigCheck, Plan.sigKey, Plan.sigMsg, Plan.sigSig, hb, Bool.false_eq_true, if_false]
    have : (honestPlan S m k attach net).tbs = honestTbs S m k attach net := rfl
    rw [this]
    simp only [honestPlan, honestSig]
    rw [vk32_eq S k hk]
    exact correct _ _
  have ha : addressMatch S (honestPlan S m k attach net) = true := by
    simp [addressMatch, Plan.cred, honestPlan, credentialOf_signer]
  simp only [judge, hb, hs, ha, Bool.false_and, Bool.and_self, Bool.false_eq_true, if_false]
  simp [honestPlan]

/-! ## the decision -/

/-- the verdict is the *conjunction* of the signature check over the plan's bytes and the equality of the
address credential (payment part when present, else staking part) with the hash of the key; message and address
are the ones extracted from the signed object -/
theorem cip8_decision (S : SigScheme SK) (w : Signed) (p : Plan) (r : Result)
    (hp : plan w = some p) (hr : verifyModel S w = some r) :
    (r.verified = true ↔
        S.verify p.sigKey p.sigMsg p.sigSig = true ∧ credentialOf p.address = some (S.H28 p.vk)) ∧
    r.message = p.payload ∧ r.address = p.address := by
  unfold verifyModel at hr
  rw [hp] at hr
  simp only [judge] at hr
  split at hr
  · simp at hr
  · simp only [Option.some.injEq] at hr
    subst hr
    simp only [sigCheck, addressMatch, Plan.cred, Bool.and_eq_true, and_self, and_true]
    constructor
    · rintro ⟨a, b⟩; exact ⟨a, of_decide_eq_true b⟩
    · rintro ⟨a, b⟩; exact ⟨a, decide_eq_true b⟩

/-- success is reported exactly when a plan exists and both checks hold (an exception is not a success) -/
theorem cip8_accept_iff (S : SigScheme SK) (w : Signed) :
    (∃ r, verifyModel S w = some r ∧ r.verified = true) ↔
    ∃ p, plan w = some p ∧ S.verify p.sigKey p.sigMsg p.sigSig = true ∧
      credentialOf p.address = some (S.H28 p.vk) := by
  constructor
  · rintro ⟨r, hr, hv⟩
    cases hp : plan w with
    | none => simp [verifyModel, hp] at hr
    | some p => exact ⟨p, rfl, ((cip8_decision S w p r hp hr).1).1 hv⟩
  · rintro ⟨p, hp, hs, hc⟩
    refine ⟨⟨true, p.payload, p.address⟩, ?_, rfl⟩
    have h1 : sigCheck S p = true := hs
    have h2 : addressMatch S p = true := by simp [addressMatch, Plan.cred, hc]
    simp [verifyModel, hp, judge, h1, h2]

/-- for a key of at most 32 bytes (every key `sign` publishes) the bytes checked are exactly
`Sig_structure = ["Signature1", protected, h'', payload]` over the plan's header and payload, under the plan's key,
against the received signature -/
theorem cip8_checked_bytes (p : Plan) (h : p.vk.length ≤ 32) :
    p.sigKey = p.vk ∧ p.sigMsg = encode (sigStructure (encodeHeader p.entries) p.payload) ∧ p.sigSig = p.sig := by
  have hb : p.bip32 = false := by simp [Plan.bip32]; omega
  simp [Plan.sigKey, Plan.sigMsg, Plan.sigSig, hb, Plan.tbs, Plan.phdrEnc, toBeSigned]

/-- different payload or different protected header ⇒ different `Sig_structure` bytes -/
theorem sig_structure_injective (ph m ph' m' : Bytes) (h1 : ph.length < 2^64) (h2 : m.length < 2^64)
    (h1' : ph'.length < 2^64) (h2' : m'.length < 2^64) (hne : ph ≠ ph' ∨ m ≠ m') :
    toBeSigned ph m ≠ toBeSigned ph' m' := by
  intro h
  have := toBeSigned_inj ph m ph' m' h1 h2 h1' h2' h
  exact hne.elim (fun g => g this.1) (fun g => g this.2)

/-- different decoded protected headers ⇒ different re-encoded protected bytes -/
theorem header_injective (xs ys : List HdrEntry) (hx : EntriesSized xs) (hy : EntriesSized ys)
    (lx : xs.length ≤ 5) (ly : ys.length ≤ 5) (hne : xs ≠ ys) : encodeHeader xs ≠ encodeHeader ys :=
  fun h => hne (encodeHeader_inj xs ys hx hy (by omega) (by omega) h)

/-! ## soundness relative to an ideal scheme -/

/-- idealised scheme, for one honest key `vk0` that produced one signature `sig0` over `tbs0`: existential
unforgeability in its strong form (no other message and no other signature verifies under `vk0`) and second-preimage
resistance of the key hash at `vk0` -/
structure Ideal (S : SigScheme SK) (vk0 tbs0 sig0 : Bytes) : Prop where
  unforgeable : ∀ msg s, S.verify vk0 msg s = true → msg = tbs0 ∧ s = sig0
  hashInj : ∀ x, S.H28 x = S.H28 vk0 → x = vk0

/-- the byte strings `verify` extracted are shorter than 2^64 -/
structure PlanSized (p : Plan) : Prop where
  entries : EntriesSized p.entries
  header : (encodeHeader p.entries).length < 2^64
  payload : p.payload.length < 2^64

/-- a plan around a header of the shape `sign` writes -/
theorem planSized_honest (addr vk payload sig : Bytes) (attach : Bool) (a : Addr.Address)
    (hal : addr.length < 2^32) (hvk : vk.length = 32) (hp : payload.length < 2^64) :
    PlanSized ⟨honestEntries addr vk attach, payload, sig, vk, addr, a⟩ :=
  ⟨honestEntries_sized addr vk attach (by omega) (by omega),
    by have := encodeHeader_honest_length addr vk attach; simp only []; omega, hp⟩

/-- **Soundness.**  Let `k` have signed `m` once.  Whatever object `w'` is presented to `verify` — any bytes at all —
if verification reports success and the object is attributed to the honest signer (it carries the honest key, or
the address it reports has the honest key's credential), then what `verify` extracted is exactly what was signed:
protected header, payload, signature and key; it returns the original text and the signer's address. -/
theorem cip8_sound (S : SigScheme SK) (m : Bytes) (k : Key SK) (attach : Bool) (net : Addr.Network)
    (hk : KeyOk S k) (hashLen : ∀ x, (S.H28 x).length = 28) (hm : m.length < 2^64)
    (ideal : Ideal S (vk32 S k) (honestTbs S m k attach net) (honestSig S m k attach net))
    (w' : Signed) (p : Plan) (r : Result) (hp : plan w' = some p) (hsz : PlanSized p)
    (hr : verifyModel S w' = some r) (hv : r.verified = true)
    (attributed : p.vk = vk32 S k ∨ credentialOf p.address = some (S.H28 (vk32 S k))) :
    p.entries = honestHdr S k attach net ∧ p.payload = m ∧ p.sig = honestSig S m k attach net ∧
    p.vk = vk32 S k ∧ r.message = m ∧ r.address = signerAddress k.role net (S.H28 (vk32 S k)) := by
  have hvk0 := vk32_length S k hk
  have hal := honestAddr_length S k net hashLen
  obtain ⟨hdec, hmsg, haddr⟩ := cip8_decision S w' p r hp hr
  obtain ⟨hsig, hcred⟩ := hdec.1 hv
  -- the key is the honest key
  have hvk : p.vk = vk32 S k := by
    rcases attributed with h | h
    · exact h
    · rw [hcred] at h
      exact ideal.hashInj _ (by simpa using h)
  -- hence the ordinary path, over Sig_structure
  obtain ⟨hK, hM, hS⟩ := cip8_checked_bytes p (by rw [hvk]; omega)
  rw [hK, hM, hS, hvk] at hsig
  obtain ⟨htbs, hsg⟩ := ideal.unforgeable _ _ hsig
  -- Sig_structure is injective in header bytes and payload
  have hsz0 := planSized_honest (honestAddr S k net) (vk32 S k) m (honestSig S m k attach net) attach
    (signerAddress k.role net (S.H28 (vk32 S k))) (by omega) hvk0 hm
  obtain ⟨hhdr, hpay⟩ := toBeSigned_inj _ _ _ _ hsz.header hsz.payload hsz0.header hm htbs
  -- the re-encoding is injective in the decoded header; both headers have distinct labels, hence at most three
  obtain ⟨⟨pb, u, _, hph⟩, hfa, hfb, _, _, _⟩ := plan_spec w' p hp
  have hle := distinct_length_le _ (parseHeader_distinct pb _ hph)
  have hle0 : (honestHdr S k attach net).length ≤ 3 := distinct_length_le _ (honestEntries_distinct _ _ attach)
  have hes : p.entries = honestHdr S k attach net :=
    encodeHeader_inj _ _ hsz.entries hsz0.entries (by omega) (by omega) hhdr
  -- the address is read from that header
  have hab : p.addrBytes = honestAddr S k net := by
    rw [hes, honestHdr, findAddress_honest] at hfa
    exact (Option.some.inj hfa).symm
  have hA : p.address = signerAddress k.role net (S.H28 (vk32 S k)) := by
    rw [hab, honestAddr, fromBytes_signer k.role net _ (hashLen _)] at hfb
    exact (Except.ok.inj hfb).symm
  exact ⟨hes, hpay, hsg, hvk, by rw [hmsg, hpay], by rw [haddr, hA]⟩

/-- contrapositive: an object attributed to the honest signer whose payload, protected header, signature or key
differs from what was signed is never reported as verified (`verify` returns `False` or raises) -/
theorem cip8_sound_altered (S : SigScheme SK) (m : Bytes) (k : Key SK) (attach : Bool) (net : Addr.Network)
    (hk : KeyOk S k) (hashLen : ∀ x, (S.H28 x).length = 28) (hm : m.length < 2^64)
    (ideal : Ideal S (vk32 S k) (honestTbs S m k attach net) (honestSig S m k attach net))
    (w' : Signed) (p : Plan) (hp : plan w' = some p) (hsz : PlanSized p)
    (attributed : p.vk = vk32 S k ∨ credentialOf p.address = some (S.H28 (vk32 S k)))
    (altered : p.payload ≠ m ∨ p.entries ≠ honestHdr S k attach net ∨ p.sig ≠ honestSig S m k attach net ∨
      p.vk ≠ vk32 S k) :
    ∀ r, verifyModel S w' = some r → r.verified = false := by
  intro r hr
  cases hv : r.verified with
  | false => rfl
  | true =>
    exfalso
    obtain ⟨h1, h2, h3, h4, _, _⟩ := cip8_sound S m k attach net hk hashLen hm ideal w' p r hp hsz hr hv attributed
    rcases altered with h | h | h | h
    · exact h h2
    · exact h h1
    · exact h h3
    · exact h h4

/-- tampering at the wire: the honestly signed object with its payload and / or signature replaced -/
theorem cip8_sound_payload_signature (S : SigScheme SK) (m : Bytes) (k : Key SK) (attach : Bool) (net : Addr.Network)
    (hk : KeyOk S k) (hashLen : ∀ x, (S.H28 x).length = 28) (hm : m.length < 2^64)
    (ideal : Ideal S (vk32 S k) (honestTbs S m k attach net) (honestSig S m k attach net))
    (m' s' : Bytes) (hm' : m'.length < 2^64) (hu : utf8Valid m' = true) (hs' : s'.length < 2^64)
    (altered : m' ≠ m ∨ s' ≠ honestSig S m k attach net) :
    ∀ r, verifyModel S ⟨render (honestHdr S k attach net) m' s', honestKey S k attach⟩ = some r →
      r.verified = false := by
  have hal := honestAddr_length S k net hashLen
  apply cip8_sound_altered S m k attach net hk hashLen hm ideal _ _
    (plan_substituted S k attach net hk hashLen m' s' hm' hu hs')
    (planSized_honest _ _ _ _ _ _ (by omega) (vk32_length S k hk) hm') (Or.inl rfl)
  rcases altered with h | h
  · exact Or.inl h
  · exact Or.inr (Or.inr (Or.inl h))

/-- tampering at the wire: the address in the protected header replaced by another address (any address bytes that
`Address.from_primitive` accepts), everything else as signed -/
theorem cip8_sound_address (S : SigScheme SK) (m : Bytes) (k : Key SK) (attach : Bool) (net : Addr.Network)
    (hk : KeyOk S k) (hashLen : ∀ x, (S.H28 x).length = 28)
    (hm : m.length < 2^64) (hu : utf8Valid m = true) (sigLen : (honestSig S m k attach net).length < 2^64)
    (ideal : Ideal S (vk32 S k) (honestTbs S m k attach net) (honestSig S m k attach net))
    (a' : Bytes) (addr' : Addr.Address) (ha' : a'.length < 2^32) (hdec : Addr.fromBytes a' = .ok addr')
    (altered : a' ≠ honestAddr S k net) :
    ∀ r, verifyModel S ⟨render (honestEntries a' (vk32 S k) attach) m (honestSig S m k attach net),
        honestKey S k attach⟩ = some r → r.verified = false := by
  have hvk0 := vk32_length S k hk
  apply cip8_sound_altered S m k attach net hk hashLen hm ideal _ _
    (plan_honest a' _ m _ attach addr' hdec ha' hvk0 hm hu sigLen)
    (planSized_honest _ _ _ _ _ _ ha' hvk0 hm) (Or.inl rfl)
  refine Or.inr (Or.inl fun (h : honestEntries a' (vk32 S k) attach = honestHdr S k attach net) => altered ?_)
  have h1 := findAddress_honest a' (vk32 S k) attach
  rw [h, honestHdr, findAddress_honest] at h1
  exact (Option.some.inj h1).symm

/-- tampering at the wire: another key attached (COSE key swapped) or carried in the header (KID swapped), the
address left as signed -/
theorem cip8_sound_key (S : SigScheme SK) (m : Bytes) (k : Key SK) (attach : Bool) (net : Addr.Network)
    (hk : KeyOk S k) (hashLen : ∀ x, (S.H28 x).length = 28)
    (hm : m.length < 2^64) (hu : utf8Valid m = true) (sigLen : (honestSig S m k attach net).length < 2^64)
    (ideal : Ideal S (vk32 S k) (honestTbs S m k attach net) (honestSig S m k attach net))
    (vk' : Bytes) (hvk' : vk'.length = 32) (altered : vk' ≠ vk32 S k) :
    ∀ r, verifyModel S ⟨render (honestEntries (honestAddr S k net) vk' attach) m (honestSig S m k attach net),
        if attach then some (encode (coseKeyItem vk')) else none⟩ = some r → r.verified = false := by
  have hal := honestAddr_length S k net hashLen
  exact cip8_sound_altered S m k attach net hk hashLen hm ideal _ _
    (plan_honest _ vk' m _ attach _ (fromBytes_signer _ _ _ (hashLen _)) (by omega) hvk' hm hu sigLen)
    (planSized_honest _ _ _ _ _ _ (by omega) hvk' hm) (Or.inr (credentialOf_signer _ _ _))
    (Or.inr (Or.inr (Or.inr altered)))

/-! ## noted, not asserted: the envelope is malleable

`cose` verifies over the *re-encoded* protected header and `cbor2.loads` ignores trailing bytes, so the bytes of a
signed object can be changed without changing what is verified (same header, payload, signature, key — hence the
same verdict, text and address).  The soundness theorems above are therefore about the decoded content, and the
byte-level statement below is false of the code; its witness is replayed on the implementation by the harness. -/

/-- GOAL (false): two objects with different `signature` strings never yield the same plan -/
def wire_determines_plan_goal : Prop :=
  ∀ (w w' : Signed) (p : Plan), plan w = some p → w'.key = w.key → w'.signature ≠ w.signature → plan w' ≠ some p

/-- the toy scheme of the non-vacuity examples: the "signature" is key ‖ message -/
def toyScheme : SigScheme Bytes :=
  { pk := fun sk => sk, sign := fun sk x => sk ++ x, verify := fun pk x s => decide (s = pk ++ x),
    H28 := fun x => (x ++ List.replicate 28 0).take 28 }

def toyKey : Key Bytes := ⟨.stake, false, List.replicate 32 5, []⟩

theorem toy_correct : ∀ sk x, toyScheme.verify (toyScheme.pk sk) x (toyScheme.sign sk x) = true := by
  intro sk x; simp [toyScheme]

theorem toy_hashLen : ∀ x, (toyScheme.H28 x).length = 28 := by intro x; simp [toyScheme]

theorem toy_keyOk : KeyOk toyScheme toyKey := ⟨by simp [toyScheme, toyKey], by simp [toyKey]⟩

theorem toy_sigLen (m : Bytes) (attach : Bool) (net : Addr.Network) (hm : m.length < 2^32) :
    (honestSig toyScheme m toyKey attach net).length < 2^64 := by
  have hvk := vk32_length _ _ toy_keyOk
  have hal := honestAddr_length toyScheme toyKey net toy_hashLen
  have hh := encodeHeader_honest_length (honestAddr toyScheme toyKey net) (vk32 toyScheme toyKey) attach
  have ht := toBeSigned_length (encodeHeader (honestHdr toyScheme toyKey attach net)) m
  have : honestSig toyScheme m toyKey attach net = List.replicate 32 5 ++ honestTbs toyScheme m toyKey attach net :=
    rfl
  rw [this, List.length_append, List.length_replicate]
  simp only [honestTbs, honestHdr] at ht ⊢
  omega

/-- a trailing byte after the COSE_Sign1 array is ignored: same plan, hence same verdict, text and address -/
theorem wire_determines_plan_counterexample : ¬ wire_determines_plan_goal := by
  intro h
  have hs := toy_sigLen [0x68, 0x69] false .mainnet (by simp)
  have hp := plan_signModel toyScheme [0x68, 0x69] toyKey false .mainnet toy_keyOk toy_hashLen (by simp) (by decide) hs
  have hsz := planSized_honest (honestAddr toyScheme toyKey .mainnet) (vk32 toyScheme toyKey) [0x68, 0x69] [] false
    (signerAddress .stake .mainnet []) (by rw [honestAddr_length _ _ _ toy_hashLen]; decide)
    (vk32_length _ _ toy_keyOk) (by simp)
  have ht := plan_trailing (honestHdr toyScheme toyKey false .mainnet) [0x68, 0x69]
    (honestSig toyScheme [0x68, 0x69] toyKey false .mainnet) [0] (honestKey toyScheme toyKey false) hsz.header
    (by simp) hs
  rw [signModel_eq] at hp
  have key : ∀ (R : Bytes) (K : Option Bytes) (P : Plan), plan ⟨R, K⟩ = some P →
      plan ⟨R ++ [0], K⟩ = plan ⟨R, K⟩ → False := by
    intro R K P h1 h2
    refine h ⟨R, K⟩ ⟨R ++ [0], K⟩ P h1 rfl ?_ (h2.trans h1)
    intro hc
    have := congrArg List.length hc
    simp at this
  exact key _ _ _ hp ht

/-! ## non-vacuity -/

/-- the hypotheses of `cip8_complete` are satisfiable: the toy scheme with a 32-byte stake key, COSE key attached -/
example :
    verifyModel toyScheme (signModel toyScheme [0x68, 0x69] toyKey true .testnet) =
      some ⟨true, [0x68, 0x69], signerAddress .stake .testnet (toyScheme.H28 (vk32 toyScheme toyKey))⟩ :=
  cip8_complete toyScheme toy_correct toy_hashLen [0x68, 0x69] toyKey true .testnet toy_keyOk (by simp) (by decide)
    (toy_sigLen _ _ _ (by simp))

/-- the hypotheses of `cip8_sound` (`KeyOk`, `hashLen`, `Ideal`) are satisfiable together: a scheme that accepts
exactly the one signature the honest key made, with a hash that separates the honest key from all others -/
example :
    let vk0 : Bytes := List.replicate 32 5
    let h28 : Bytes → Bytes := fun x => if x = vk0 then List.replicate 28 0 else List.replicate 28 1
    let m : Bytes := [0x68, 0x69]
    let T : Bytes := toBeSigned (encodeHeader (honestEntries
      (addressBytes (signerAddress .payment .mainnet (h28 vk0))) vk0 false)) m
    let S : SigScheme Bytes :=
      { pk := fun sk => sk, sign := fun _ _ => [9], verify := fun pk x s => decide (pk = vk0 ∧ x = T ∧ s = [9]),
        H28 := h28 }
    let k : Key Bytes := ⟨.payment, false, vk0, []⟩
    KeyOk S k ∧ (∀ x, (S.H28 x).length = 28) ∧
      Ideal S (vk32 S k) (honestTbs S m k false .mainnet) (honestSig S m k false .mainnet) ∧
      S.verify (S.pk k.sk) (honestTbs S m k false .mainnet) (honestSig S m k false .mainnet) = true := by
  intro vk0 h28 m T S k
  have hT : honestTbs S m k false .mainnet = T := rfl
  have hv : vk32 S k = vk0 := rfl
  have hsg : honestSig S m k false .mainnet = [9] := rfl
  refine ⟨⟨by simp [S, k, vk0], by simp [k]⟩, ?_, ⟨?_, ?_⟩, ?_⟩
  · intro x; simp only [S, h28]; split <;> simp
  · intro msg s hh
    rw [hT, hsg]
    simp only [S, decide_eq_true_eq] at hh
    exact ⟨hh.2.1, hh.2.2⟩
  · intro x hx
    rw [hv] at hx ⊢
    simp only [S, h28, if_true] at hx
    by_cases hxe : x = vk0
    · exact hxe
    · simp [hxe] at hx
  · rw [hT, hsg]; simp [S, k]

end Pyc.C19

#print axioms Pyc.C19.vk32_eq
#print axioms Pyc.C19.vk32_length
#print axioms Pyc.C19.honestAddr_length
#print axioms Pyc.C19.signModel_eq
#print axioms Pyc.C19.plan_substituted
#print axioms Pyc.C19.plan_signModel
#print axioms Pyc.C19.cip8_complete
#print axioms Pyc.C19.cip8_decision
#print axioms Pyc.C19.cip8_accept_iff
#print axioms Pyc.C19.cip8_checked_bytes
#print axioms Pyc.C19.sig_structure_injective
#print axioms Pyc.C19.header_injective
#print axioms Pyc.C19.planSized_honest
#print axioms Pyc.C19.cip8_sound
#print axioms Pyc.C19.cip8_sound_altered
#print axioms Pyc.C19.cip8_sound_payload_signature
#print axioms Pyc.C19.cip8_sound_address
#print axioms Pyc.C19.cip8_sound_key
#print axioms Pyc.C19.toy_correct
#print axioms Pyc.C19.toy_hashLen
#print axioms Pyc.C19.toy_keyOk
#print axioms Pyc.C19.toy_sigLen
#print axioms Pyc.C19.wire_determines_plan_counterexample
