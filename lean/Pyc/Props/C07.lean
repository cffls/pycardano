import Pyc.Proofs.Fee
import Pyc.Proofs.Cbor
import Pyc.Model.FeeLoop

/-! # C07 — the fee functions equal the ledger formula in exact rational arithmetic; fee ≥ ledger minimum

Model: `fee`, `maxTxFee`, `tierFee` in `Pyc/Model/Output.lean` (utils.py:30-116), over exact rationals `num/den`.
Specification: the Conway minimum fee `a·size + b + ⌈steps·pS + mem·pM⌉ + ⌊tier(refBytes)⌋`. -/

namespace Pyc.C07

/-- well-formed protocol parameters: positive denominators -/
structure ParamsOk (p : FeeParams) : Prop where
  a : 0 < p.a.den
  b : 0 < p.b.den
  ps : 0 < p.priceStep.den
  pm : 0 < p.priceMem.den

/-- **fee = formula**: `fee(context, length, steps, mem, ref)` is the sum of the exact ceilings -/
theorem fee_eq_formula (p : FeeParams) (len steps mem ref t : ℤ) (ht : tierFee p ref = some t) :
    fee p len steps mem ref
      = some (⌈(len : ℚ) * p.a.toRat⌉ + ⌈p.b.toRat⌉ + ⌈(steps : ℚ) * p.priceStep.toRat⌉
              + ⌈(mem : ℚ) * p.priceMem.toRat⌉ + t) :=
  (fee_eq_some_iff ..).2 ⟨t, ht, by simp only [ceilMul_eq, Int.cast_one, one_mul]⟩

/-- the maximum fee is the same formula at the protocol's maximum size and execution units -/
theorem maxfee_eq (p : FeeParams) (ref : ℤ) : maxTxFee p ref = fee p p.maxTxSize p.maxTxExSteps p.maxTxExMem ref := rfl

/-- **tiered reference-script fee = ⌈closed form⌉**: `k` full tiers of `r` bytes at prices `b, b·m, …, b·m^(k-1)`,
the remaining bytes at `b·m^k`; the loop terminates within the fuel the model gives it -/
theorem tier_eq_formula (p : FeeParams) (b m : Rat') (r : ℕ) (mx size : ℤ)
    (hp : p.refScript = some (b, r, m, mx)) (hb : 0 < b.den) (hm : 0 < m.den)
    (hr : 0 < r) (hs : 0 < size) (hmx : size ≤ mx) :
    tierFee p size = some ⌈tierClosed b.toRat m.toRat r size ((size - 1) / r).toNat⌉ := by
  have hr' : (0 : ℤ) < (r : ℤ) := Int.natCast_pos.2 hr
  -- `k = ⌊(size - 1) / r⌋` full tiers: `k·r < size ≤ (k+1)·r`
  have hk : (((size - 1) / (r : ℤ)).toNat : ℤ) = (size - 1) / r :=
    Int.toNat_of_nonneg (Int.ediv_nonneg (by omega) hr'.le)
  have hlo : ((size - 1) / (r : ℤ)) * r ≤ size - 1 := Int.ediv_mul_le _ hr'.ne'
  have hhi : size - 1 < ((size - 1) / (r : ℤ) + 1) * r := Int.lt_ediv_add_one_mul_self _ hr'
  -- the fuel `size / r + 2` of the model exceeds `k`
  have hfuel : ((size - 1) / (r : ℤ)).toNat < size.toNat / r + 2 := by
    refine Nat.lt_succ_of_le (Nat.le_succ_of_le ((Nat.le_div_iff_mul_le hr).2 ?_))
    have := Int.toNat_of_nonneg hs.le
    zify
    rw [hk]; omega
  have := tierLoop_spec (size.toNat / r + 2) size r b m ⟨0, 1⟩ _ hb hm Nat.one_pos
    (by rw [hk]; omega) (by rw [hk]; omega) hfuel
  unfold tierFee
  rw [hp]
  dsimp only
  rw [if_neg (by omega), if_neg (by omega), ceilMul_eq, this.1, Rat'.toRat_int, Int.cast_one, Int.cast_zero,
    one_mul, zero_add]

/-- an oversized reference-script set is refused (the `ValueError`), never priced -/
theorem tier_oversize_refused (p : FeeParams) (b m : Rat') (r : ℕ) (mx size : ℤ)
    (hp : p.refScript = some (b, r, m, mx)) (h : mx < size) : tierFee p size = none := by
  unfold tierFee; rw [hp]; simp [h]

theorem tier_absent_zero (p : FeeParams) (size : ℤ) (hp : p.refScript = none) : tierFee p size = some 0 := by
  unfold tierFee; rw [hp]

/-- ledger minimum fee (Conway) for integer coefficients `a`, `b`: one ceiling for the script fee, floor for the
reference-script fee `T` -/
noncomputable def ledgerMinFee (a b len : ℤ) (steps mem : ℤ) (pS pM T : ℚ) : ℤ :=
  a * len + b + ⌈(steps : ℚ) * pS + (mem : ℚ) * pM⌉ + ⌊T⌋

/-- **sufficient and tight as a formula**: with integer fee coefficients (as on every Cardano network) pycardano's
fee is at least the ledger's minimum for the same size, units and reference bytes, and at most 2 lovelace above -/
theorem fee_vs_ledger (a b len steps mem : ℤ) (pS pM T : ℚ) :
    let f := ⌈((len : ℚ) * (a : ℚ))⌉ + ⌈(b : ℚ)⌉ + ⌈(steps : ℚ) * pS⌉ + ⌈(mem : ℚ) * pM⌉ + ⌈T⌉
    ledgerMinFee a b len steps mem pS pM T ≤ f ∧ f ≤ ledgerMinFee a b len steps mem pS pM T + 2 := by
  intro f
  have h1 : ⌈(steps : ℚ) * pS + (mem : ℚ) * pM⌉ ≤ ⌈(steps : ℚ) * pS⌉ + ⌈(mem : ℚ) * pM⌉ := Int.ceil_add_le _ _
  have h2 : ⌈(steps : ℚ) * pS⌉ + ⌈(mem : ℚ) * pM⌉ ≤ ⌈(steps : ℚ) * pS + (mem : ℚ) * pM⌉ + 1 := Int.ceil_add_ceil_le _ _
  have h3 : ⌊T⌋ ≤ ⌈T⌉ := Int.floor_le_ceil T
  have h4 : ⌈T⌉ ≤ ⌊T⌋ + 1 := Int.ceil_le_floor_add_one T
  simp only [f, ledgerMinFee, ceil_intCast_mul, Int.ceil_intCast]
  omega

/-- the same about `fee` itself: parameters with integer coefficients `a`, `b`, and `T` the exact rational
reference-script price whose ceiling `tierFee` returns (`tier_eq_formula`) -/
theorem fee_int_vs_ledger (p : FeeParams) (a b : ℤ) (T : ℚ) (len steps mem ref e : ℤ) (hpa : p.a = ⟨a, 1⟩)
    (hpb : p.b = ⟨b, 1⟩) (hT : tierFee p ref = some ⌈T⌉) (h : fee p len steps mem ref = some e) :
    ledgerMinFee a b len steps mem p.priceStep.toRat p.priceMem.toRat T ≤ e ∧
    e ≤ ledgerMinFee a b len steps mem p.priceStep.toRat p.priceMem.toRat T + 2 := by
  have hform := fee_eq_formula p len steps mem ref ⌈T⌉ hT
  rw [h, hpa, hpb, Rat'.toRat_int, Rat'.toRat_int] at hform
  cases hform
  exact fee_vs_ledger a b len steps mem _ _ T

/-- the fee grows with the size: one more byte never lowers it (non-negative coefficient) -/
theorem fee_mono_size (p : FeeParams) (l₁ l₂ steps mem ref f₁ f₂ : ℤ) (hp : ParamsOk p) (ha : 0 ≤ p.a.num)
    (hl : l₁ ≤ l₂) (h1 : fee p l₁ steps mem ref = some f₁) (h2 : fee p l₂ steps mem ref = some f₂) : f₁ ≤ f₂ := by
  have := fee_sub p l₁ l₂ steps mem ref f₁ f₂ h1 h2
  have := ceilMul_mono l₁ l₂ p.a ha hl
  omega

/-- CBOR heads grow with their argument: a larger fee / change amount never takes fewer bytes -/
theorem head_len_mono (major a b : ℕ) (h : a ≤ b) : (Cbor.head major a).length ≤ (Cbor.head major b).length :=
  Cbor.head_length_mono major h

/-- non-vacuity: mainnet-like parameters, two and a half tiers of reference scripts — evaluated by the kernel -/
def exParams : FeeParams :=
  { a := ⟨44, 1⟩
    b := ⟨155381, 1⟩
    priceStep := ⟨721, 10000000⟩
    priceMem := ⟨577, 10000⟩
    maxTxSize := 16384
    maxTxExSteps := 10000000000
    maxTxExMem := 10000000
    refScript := some (⟨15, 1⟩, 25600, ⟨6, 5⟩, 204800) }

example : tierFee exParams 60000 = some 1034880 ∧ fee exParams 300 1000000 5000 60000 = some 1203823 := by
  decide +kernel

/-! ## the builder's final fee loop -/
open Pyc.FeeLoop in
/-- post-condition: when the loop ends, the fee covers the estimate of the transaction it is part of, and it never
went down -/
theorem fee_loop_post (est : ℤ → ℤ) (fuel : ℕ) (f f' : ℤ) (h : loop est fuel f = some f') : est f' ≤ f' ∧ f ≤ f' := by
  induction fuel generalizing f with
  | zero => cases h
  | succ n ih =>
    rw [loop] at h
    split at h
    · next hle => cases h; exact ⟨hle, le_refl _⟩
    · obtain ⟨h1, h2⟩ := ih _ h
      exact ⟨h1, by omega⟩

open Pyc.FeeLoop in
/-- termination: every estimate is bounded by the maximum fee `M` (plus buffer), each pass raises the fee strictly, so
`M − f + 1` passes suffice -/
theorem fee_loop_terminates (est : ℤ → ℤ) (M : ℤ) (hM : ∀ f, est f ≤ M) (f : ℤ) :
    ∃ f', loop est ((M - f).toNat + 1) f = some f' := by
  have key : ∀ (n : ℕ) (f : ℤ), (M - f).toNat ≤ n → ∃ f', loop est (n + 1) f = some f' := by
    intro n
    induction n with
    | zero =>
      intro f hn
      have := hM f
      exact ⟨f, by rw [loop, if_pos (by omega)]⟩
    | succ n ih =>
      intro f hn
      rw [loop]
      split
      · exact ⟨f, rfl⟩
      · have := hM f
        exact ih (est f) (by omega)
  exact key _ f (le_refl _)

open Pyc.FeeLoop in
/-- **sufficiency of the fee the loop leaves**: if for every fee value the estimate (taken on the fully populated
fake transaction: placeholder witnesses of the size of real ones) is at least the ledger's minimum fee of the final
signed transaction carrying that fee, then the fee in the body is at least the ledger's minimum fee -/
theorem fee_loop_sufficient (est minFee : ℤ → ℤ) (hest : ∀ f, minFee f ≤ est f) (fuel : ℕ) (f f' : ℤ)
    (h : loop est fuel f = some f') : minFee f' ≤ f' := by
  have := (fee_loop_post est fuel f f' h).1
  have := hest f'
  omega

/-- non-vacuity: an estimator whose result depends on the CBOR width of the fee (the situation of the repaired defect:
fee 283 priced with a 2-byte … the loop moves from 250 to 259 and stops) -/
example : Pyc.FeeLoop.loop (fun f => 255 + (if f < 256 then 3 else 4)) 5 250 = some 259 := by decide

end Pyc.C07

#print axioms Pyc.C07.fee_eq_formula
#print axioms Pyc.C07.maxfee_eq
#print axioms Pyc.C07.tier_eq_formula
#print axioms Pyc.C07.tier_oversize_refused
#print axioms Pyc.C07.tier_absent_zero
#print axioms Pyc.C07.fee_vs_ledger
#print axioms Pyc.C07.fee_int_vs_ledger
#print axioms Pyc.C07.fee_mono_size
#print axioms Pyc.C07.head_len_mono
#print axioms Pyc.C07.fee_loop_post
#print axioms Pyc.C07.fee_loop_terminates
#print axioms Pyc.C07.fee_loop_sufficient
