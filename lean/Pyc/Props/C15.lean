import Pyc.Proofs.AddrText

/-! # C15 — addresses encode and decode bijectively per CIP-19 and CIP-5

Property theorems only.  The models (`Pyc/Model/Addr.lean`, `Pyc/Model/Bech32.lean`) transliterate
`pycardano/address.py` and `pycardano/crypto/bech32.py`; `Pyc/Spec/Cip19.lean` is the independent statement of the
CIP-19 layout.  Every theorem is for all inputs (naturals, byte strings and character strings of any size).  Detection
of a single substituted symbol holds at every distance from the end of the string (`single_error_detected`: one
checksum step is injective on 30-bit registers).  `error_table` is an additional fact about the two constants: its
non-zero half is `errRes_ne_zero` again, its Bech32m half rests on the one kernel evaluation `backOk_bech32m` in
`Proofs/Bech32.lean`, a walk of 130 steps backwards from the Bech32m constant.

The code as repaired: `bech32_decode` accepts the Bech32 constant only (`decode_only_bech32`, `bech32m_rejected`) and
applies no length limit (`bech32_roundtrip`, `addr_text_total` hold for payloads and pointers of every size, e.g.
`addr_text_long_pointer`).  Modelled on purpose, as the code does it: `PointerAddress.decode` accepts non-minimal
digits (no theorem claims otherwise).

Not proved here (covered by the exhaustive substitution stream of `harness/checks/c15.py` only): rejection after a
substitution *inside the human-readable prefix*, *by the separator character* or by a character outside the charset. -/

namespace Pyc.C15
open Pyc.Addr Pyc.Bech32 Pyc.Spec

/-! ## pointers: base-128 naturals -/

/-- the decoder loop, positioned before `_encode_int n`, consumes exactly those bytes and yields `n` -/
theorem varnat_roundtrip (n : Nat) (rest : Bytes) (ints : List Nat) :
    decLoop (encodeInt n ++ rest) 0 ints = decLoop rest 0 (ints ++ [n]) :=
  decLoop_encodeInt n rest ints

/-- no leading zero group, and the length is the least number of base-128 digits that can hold `n` -/
theorem varnat_minimal (n : Nat) :
    (encodeInt n).head? ≠ some 0x80 ∧ n < 128 ^ (encodeInt n).length ∧
      (128 ≤ n → 128 ^ ((encodeInt n).length - 1) ≤ n) := by
  have hl := encodeInt_length n
  refine ⟨fun h => encodeInt_head_toNat n (by rw [List.head?_map, h]; rfl), ?_,
    fun h => Nat.le_of_not_lt fun hlt => ?_⟩
  · rw [hl]; exact (encodeInt_length_le_iff n _).mp (Nat.le_of_eq hl)
  · cases hk : (encodeInt n).length - 1 with
    | zero => rw [hk] at hlt; omega
    | succ k =>
      rw [hk] at hlt
      have := (encodeInt_length_le_iff n k).mpr hlt
      omega

/-- `_encode_int n` is the CIP-19 variable-length natural `n` (flags, value, minimality) -/
theorem varnat_spec (n : Nat) : Cip19.IsVarnat n ((encodeInt n).map UInt8.toNat) := encodeInt_isVarnat n

/-- a pointer is three variable-length naturals, and decodes to itself -/
theorem pointer_roundtrip (slot tx cert : Nat) :
    ptrEncode slot tx cert = encodeInt slot ++ encodeInt tx ++ encodeInt cert ∧
      ptrDecode (ptrEncode slot tx cert) = some (slot, tx, cert) :=
  ⟨rfl, ptr_roundtrip slot tx cert⟩

/-! ## binary form -/

/-- header = kind in the high nibble, network in the low nibble; the decoder's masks recover both -/
theorem header_spec (t : AddressType) (n : Network) :
    (headerByte t n).toNat = Cip19.header t.value n.value ∧
      AddressType.ofValue (((headerByte t n).toNat &&& 0xF0) >>> 4) = some t ∧
      Network.ofValue ((headerByte t n).toNat &&& 0x0F) = some n :=
  ⟨by cases t <;> cases n <;> decide, header_kind t n, header_network t n⟩

/-- kind inference is the CIP-19 type table; exactly the ten Shelley combinations are constructible -/
theorem kind_table_spec (p s : Part) : (inferType p s).map AddressType.value = specType p s := by
  cases p <;> cases s <;> rfl

/-- binary form = header byte, payment credential, delegation part -/
theorem addr_bytes_layout (a : Address) (bs : Bytes) (h : toBytes a = some bs) :
    ∃ t, inferType a.payment a.staking = some t ∧
      bs = headerByte t a.network :: (a.payment.bytes ++ a.staking.bytes) := by
  unfold toBytes at h
  split at h
  · exact absurd h (by simp)
  · rename_i t ht
    exact ⟨t, ht, by simpa using h.symm⟩

/-- decoding the binary form of any constructible address (all ten kinds, both networks, any 28-byte credentials, any
pointer) returns that address; the constructors `Part.vkh` / `Part.sh` / `Part.ptr` are the credential kinds -/
theorem addr_bytes_roundtrip (a : Address) (bs : Bytes) (hp : a.payment.Sized) (hs : a.staking.Sized)
    (h : toBytes a = some bs) : fromBytes bs = .ok a :=
  fromBytes_toBytes a bs hp hs h

/-- no two different addresses share a binary form -/
theorem addr_bytes_injective (a b : Address) (bs : Bytes) (ha : a.payment.Sized ∧ a.staking.Sized)
    (hb : b.payment.Sized ∧ b.staking.Sized) (h1 : toBytes a = some bs) (h2 : toBytes b = some bs) : a = b := by
  have e1 := fromBytes_toBytes a bs ha.1 ha.2 h1
  have e2 := fromBytes_toBytes b bs hb.1 hb.2 h2
  rw [e1] at e2
  exact Except.ok.inj e2

/-! ## text form -/

/-- CIP-5 prefix: `stake` for the reward types, `addr` otherwise, `_test` off mainnet -/
theorem hrp_spec (t : AddressType) (n : Network) :
    Addr.hrp t n = (Cip19.prefixOf (decide (14 ≤ t.value)) n.value).toList :=
  Addr.hrp_spec t n

/-- 8→5 bits with padding, then 5→8 without, is the identity on byte strings of any length -/
theorem convertbits_roundtrip (bs : Bytes) :
    ∃ out, convertbits (bs.map UInt8.toNat) 8 5 true = some out ∧ (∀ d ∈ out, d < 32) ∧
      convertbits out 5 8 false = some (bs.map UInt8.toNat) := by
  obtain ⟨out, e1, ho, _, _, e2⟩ := convertbits_roundtrip_nat (bs.map UInt8.toNat) (uint8_map_lt bs)
  exact ⟨out, e1, ho, e2⟩

/-- the six checksum symbols written by `bech32_create_checksum` make the string verify -/
theorem checksum_valid (hrp : List Char) (data : List Nat) :
    verifyChecksum hrp (data ++ createChecksum hrp data false) = some .bech32 :=
  (verify_bech32_iff _ _).mpr (checksum_const hrp data false)

/-- `decode (encode hrp bs) = bs` for every non-empty printable lower-case prefix and every payload of at least two
bytes, of whatever length -/
theorem bech32_roundtrip (hrp : List Char) (bs : Bytes) (hh : HrpOk hrp) (h2 : 2 ≤ bs.length) :
    ∃ s, encode hrp bs = some s ∧ decode s = .ok (bs.map UInt8.toNat) := by
  obtain ⟨s, hs, _⟩ := encode_some hrp bs hh
  exact ⟨s, hs, decode_encode hrp bs hh h2 s hs⟩

/-- `encode` never returns `None` on such a prefix: the string is the prefix, the separator, ⌈8n/5⌉ data characters and
the six checksum characters of `bech32_create_checksum`, and `bech32_decode` returns prefix and data (Bech32) -/
theorem bech32_encode_total (hrp : List Char) (bs : Bytes) (hh : HrpOk hrp) :
    ∃ data, convertbits (bs.map UInt8.toNat) 8 5 true = some data ∧ data.length = (8 * bs.length + 4) / 5 ∧
      encode hrp bs = some (hrp ++ '1' :: (data ++ createChecksum hrp data false).map chr) ∧
      bech32Decode (hrp ++ '1' :: (data ++ createChecksum hrp data false).map chr) = some (hrp, data, .bech32) := by
  obtain ⟨data, e1, ho, hl, he⟩ := encode_eq hrp bs hh
  exact ⟨data, e1, hl, he, bech32Decode_bech32Encode hrp data hh ho⟩

/-- whatever string `Address.encode()` returns, `Address.decode` maps it back to the address -/
theorem addr_text_roundtrip (a : Address) (s : List Char) (hp : a.payment.Sized) (hs : a.staking.Sized)
    (h : toBech32 a = some (some s)) : fromBech32 s = .ok a :=
  fromBech32_toBech32 a s hp hs h

/-- every constructible address (all ten kinds, both networks, pointer components of any size) has a text form, and
`Address.decode` maps that text back to the address: decode ∘ encode = id without exception -/
theorem addr_text_total (a : Address) (hp : a.payment.Sized) (hs : a.staking.Sized) (hc : toBytes a ≠ none) :
    ∃ s, toBech32 a = some (some s) ∧ fromBech32 s = .ok a := by
  obtain ⟨bs, hb⟩ := Option.ne_none_iff_exists'.mp hc
  obtain ⟨t, ht, _⟩ := addr_bytes_layout a bs hb
  obtain ⟨s, h, _⟩ := toBech32_some a bs t ht hb
  exact ⟨s, h, fromBech32_toBech32 a s hp hs h⟩

/-- the text form is the Bech32 encoding of the binary form under the CIP-5 prefix; its length is prefix + separator +
⌈8n/5⌉ + 6 characters for `n` bytes, with no upper limit -/
theorem addr_text_layout (a : Address) (bs : Bytes) (t : AddressType)
    (ht : inferType a.payment a.staking = some t) (hb : toBytes a = some bs) :
    ∃ s, toBech32 a = some (some s) ∧ encode (Addr.hrp t a.network) bs = some s ∧
      s.length = (Addr.hrp t a.network).length + 7 + (8 * bs.length + 4) / 5 := by
  obtain ⟨s, h, hl⟩ := toBech32_some a bs t ht hb
  refine ⟨s, h, ?_, hl⟩
  simpa [toBech32, ht, hb] using h

/-- no two different addresses share a text form -/
theorem addr_text_injective (a b : Address) (s : List Char) (ha : a.payment.Sized ∧ a.staking.Sized)
    (hb : b.payment.Sized ∧ b.staking.Sized) (h1 : toBech32 a = some (some s)) (h2 : toBech32 b = some (some s)) :
    a = b := by
  have e1 := fromBech32_toBech32 a s ha.1 ha.2 h1
  have e2 := fromBech32_toBech32 b s hb.1 hb.2 h2
  rw [e1] at e2
  exact Except.ok.inj e2

/-- an address longer than the 108 characters `bech32_decode` allowed before its repair: the testnet pointer address
with three 10-byte components has a text form (of 111 characters) which decodes to it -/
theorem addr_text_long_pointer :
    ∃ s, toBech32 ⟨.vkh (List.replicate 28 0), .ptr (2 ^ 63) (2 ^ 63) (2 ^ 63), .testnet⟩ = some (some s) ∧
      108 < s.length ∧
      fromBech32 s = .ok ⟨.vkh (List.replicate 28 0), .ptr (2 ^ 63) (2 ^ 63) (2 ^ 63), .testnet⟩ := by
  let a : Address := ⟨.vkh (List.replicate 28 0), .ptr (2 ^ 63) (2 ^ 63) (2 ^ 63), .testnet⟩
  have hb : toBytes a = some (headerByte .keyPointer .testnet ::
      (List.replicate 28 0 ++ ptrEncode (2 ^ 63) (2 ^ 63) (2 ^ 63))) := rfl
  obtain ⟨s, h, hl⟩ := toBech32_some a _ .keyPointer rfl hb
  refine ⟨s, h, ?_, fromBech32_toBech32 a s (by simp [a, Part.Sized]) (by simp [a, Part.Sized]) h⟩
  have h63 := encodeInt_2_63_length
  have hh : (Addr.hrp .keyPointer a.network).length = 9 := by decide
  rw [hl, hh]
  simp only [List.length_cons, List.length_append, List.length_replicate, ptrEncode]
  omega

/-! ## the acceptor takes Bech32 checksums only -/

/-- whatever string `bech32_decode` accepts, the reported encoding is Bech32 and the checksum register over prefix
expansion ‖ data ‖ checksum is the Bech32 constant 1 (never the Bech32m constant) -/
theorem decode_only_bech32 (s hrp : List Char) (data : List Nat) (spec : Encoding)
    (h : bech32Decode s = some (hrp, data, spec)) :
    spec = .bech32 ∧ ∃ full, polymod (hrpExpand hrp ++ full) = 1 ∧ data = full.take (full.length - 6) :=
  bech32Decode_accepts s hrp data spec h

/-- exact acceptance condition on strings `hrp ‖ "1" ‖ d` with a printable prefix and charset data: not mixed-case,
non-empty prefix, at least six data characters, and checksum register equal to 1; nothing about the length -/
theorem bech32_accept_iff (hrp d : List Char) (hA : ∀ x ∈ hrp, 33 ≤ x.toNat ∧ x.toNat ≤ 126)
    (hB : ∀ x ∈ d, x ∈ charset) :
    bech32Decode (hrp ++ '1' :: d) ≠ none ↔
      ¬ ((hrp ++ '1' :: d).map lowerChar ≠ hrp ++ '1' :: d ∧ (hrp ++ '1' :: d).map upperChar ≠ hrp ++ '1' :: d) ∧
      1 ≤ hrp.length ∧ 6 ≤ d.length ∧ polymod (hrpExpand (hrp.map lowerChar) ++ d.map idx) = 1 := by
  rw [bech32Decode_shape hrp d hA hB]
  split
  · rename_i hm
    simp only [Bool.and_eq_true, bne_iff_ne, ne_eq] at hm
    constructor
    · intro h; exact absurd rfl h
    · intro h; exact absurd hm h.1
  · rename_i hm
    simp only [Bool.and_eq_true, bne_iff_ne, ne_eq] at hm
    rw [decodeCore_some_iff, List.length_map]
    exact ⟨fun h => ⟨hm, h⟩, fun h => h.2⟩

/-- a string whose checksum is computed with the Bech32m constant (`bech32_encode(hrp, data, Encoding.BECH32M)`) is
rejected by `bech32_decode`; `decode` and `Address.decode` raise -/
theorem bech32m_rejected (hrp : List Char) (data : List Nat) (hh : HrpOk hrp) (hd : ∀ d ∈ data, d < 32) :
    ∃ s, bech32Encode hrp data true = some s ∧ bech32Decode s = none ∧ decode s = .raised ∧
      fromBech32 s = .error .bech32 :=
  have h : bech32Decode (hrp ++ '1' :: (data ++ createChecksum hrp data true).map chr) = none := by
    rw [bech32Decode_encoded hrp data true hh hd]
    apply decodeCore_none_of_not_accepted
    rw [map_idx_chr _ (all_lt_append hrp data true hd), checksum_const]
    decide
  ⟨_, bech32Encode_eq hrp data hd true, h, fromBech32_of_none h⟩

/-- `Address.decode` returns an address only for strings with a Bech32 checksum -/
theorem addr_decode_only_bech32 (s : List Char) (a : Address) (h : fromBech32 s = .ok a) :
    ∃ hrp data, bech32Decode s = some (hrp, data, .bech32) := by
  cases hd : bech32Decode s with
  | none => rw [(fromBech32_of_none hd).2] at h; cases h
  | some r =>
    obtain ⟨hrp, data, spec⟩ := r
    obtain ⟨rfl, _⟩ := bech32Decode_accepts s hrp data spec hd
    exact ⟨hrp, data, rfl⟩

/-! ## error detection of the checksum -/

/-- one checksum step is GF(2)-linear in (register, symbol) -/
theorem polymod_step_linear (c1 c2 v1 v2 : Nat) :
    polymodStep (c1 ^^^ c2) (v1 ^^^ v2) = polymodStep c1 v1 ^^^ polymodStep c2 v2 :=
  polymodStep_xor c1 c2 v1 v2

/-- … and so is the whole register over equal-length symbol sequences -/
theorem polymod_linear (v1 v2 : List Nat) (c1 c2 : Nat) (h : v1.length = v2.length) :
    polymodFrom (c1 ^^^ c2) (List.zipWith (· ^^^ ·) v1 v2) = polymodFrom c1 v1 ^^^ polymodFrom c2 v2 :=
  polymodFrom_xor v1 v2 c1 c2 h

/-- an error `e ∈ [1, 31]` in one symbol changes the residue by a non-zero amount at EVERY distance `k` from the end
(multiplication by `x` modulo g(x) is injective: the constant coefficient of g(x) is non-zero) -/
theorem single_error_detected (e k : Nat) (he1 : 1 ≤ e) (he : e < 32) : errRes e k ≠ 0 :=
  errRes_ne_zero e k he1 (by omega)

/-- the whole single-error table: an error `e ∈ [1, 31]` in one symbol, `k < 130` symbols before the end, changes the
residue by something that maps neither of the constants 1 (Bech32), 0x2BC830A3 (Bech32m) to one of them: one
substitution cannot turn a Bech32 string into a Bech32m string either (the acceptor, which takes Bech32 only, does not
rely on this) -/
theorem error_table (e k : Nat) (he1 : 1 ≤ e) (he : e < 32) (hk : k < 130) :
    errRes e k ≠ 0 ∧ errRes e k ≠ 1 ^^^ bech32mConst :=
  ⟨errRes_ne_zero e k he1 (by omega), fun h => by
    have := backOk_spec _ _ backOk_bech32m k hk e (by omega) (errRes_eq e k ▸ h)
    omega⟩

/-- a string of any length that `bech32_decode` accepts is rejected after one character of its data part (payload or
checksum) is replaced by a different charset character -/
theorem single_subst_rejected (hrp pre suf : List Char) (c c' : Char)
    (hA : ∀ x ∈ hrp, 33 ≤ x.toNat ∧ x.toNat ≤ 126)
    (hpre : ∀ x ∈ pre, x ∈ charset) (hsuf : ∀ x ∈ suf, x ∈ charset) (hc : c ∈ charset) (hc' : c' ∈ charset)
    (hne : c ≠ c') (hvalid : bech32Decode (hrp ++ '1' :: (pre ++ c :: suf)) ≠ none) :
    bech32Decode (hrp ++ '1' :: (pre ++ c' :: suf)) = none :=
  subst_rejected hrp pre suf c c' hA hpre hsuf hc hc' hne hvalid

/-- hence `Address.decode` raises on it instead of returning some other address -/
theorem addr_single_subst_rejected (hrp pre suf : List Char) (c c' : Char)
    (hA : ∀ x ∈ hrp, 33 ≤ x.toNat ∧ x.toNat ≤ 126)
    (hpre : ∀ x ∈ pre, x ∈ charset) (hsuf : ∀ x ∈ suf, x ∈ charset) (hc : c ∈ charset) (hc' : c' ∈ charset)
    (hne : c ≠ c') (a : Address) (hvalid : fromBech32 (hrp ++ '1' :: (pre ++ c :: suf)) = .ok a) :
    fromBech32 (hrp ++ '1' :: (pre ++ c' :: suf)) = .error .bech32 :=
  (fromBech32_of_none (subst_rejected hrp pre suf c c' hA hpre hsuf hc hc' hne fun h => by
    rw [(fromBech32_of_none h).2] at hvalid; cases hvalid)).2

/-! ## non-vacuity: the hypotheses above are satisfiable by concrete inputs -/

example : HrpOk "addr_test".toList ∧ HrpOk "stake".toList := by decide

/-- BIP-173 test vector `a12uel5l`: accepted, so `single_subst_rejected` applies to it with `pre = []`, `c = '2'` -/
example : bech32Decode ("a".toList ++ '1' :: ([] ++ '2' :: "uel5l".toList)) = some (['a'], [], .bech32) := by
  decide +kernel

/-- BIP-350 test vector `a1lqfn3a` (valid Bech32m): rejected -/
example : bech32Decode "a1lqfn3a".toList = none := by decide +kernel

/-- `bech32m_rejected` is not vacuous: the mainnet enterprise address of key hash `00 01 … 1b` with a Bech32m checksum
(a string that `bech32_decode` accepted before its repair) is rejected by `bech32_decode`, so `Address.decode` raises -/
example : bech32Decode "addr1vyqqzqsrqszsvpcgpy9qkrqdpc83qygjzv2p29shrqv35xc8lu3x2".toList = none ∧
    (fromBech32 "addr1vyqqzqsrqszsvpcgpy9qkrqdpc83qygjzv2p29shrqv35xc8lu3x2".toList).toOption = none := by
  decide +kernel

/-- … while the same payload with the Bech32 checksum decodes -/
example : (fromBech32 "addr1vyqqzqsrqszsvpcgpy9qkrqdpc83qygjzv2p29shrqv35xcjrvarg".toList).toOption
    = some ⟨.vkh ((List.range 28).map UInt8.ofNat), .none, .mainnet⟩ := by decide +kernel

example : fromBytes (headerByte .keyNone .mainnet :: List.replicate 28 7)
    = .ok ⟨.vkh (List.replicate 28 7), .none, .mainnet⟩ := by rfl

example : toBytes ⟨.none, .sh (List.replicate 28 9), .testnet⟩ = some (0xF0 :: List.replicate 28 9) := by decide

end Pyc.C15

#print axioms Pyc.C15.varnat_roundtrip
#print axioms Pyc.C15.varnat_minimal
#print axioms Pyc.C15.varnat_spec
#print axioms Pyc.C15.pointer_roundtrip
#print axioms Pyc.C15.header_spec
#print axioms Pyc.C15.kind_table_spec
#print axioms Pyc.C15.addr_bytes_layout
#print axioms Pyc.C15.addr_bytes_roundtrip
#print axioms Pyc.C15.addr_bytes_injective
#print axioms Pyc.C15.hrp_spec
#print axioms Pyc.C15.convertbits_roundtrip
#print axioms Pyc.C15.checksum_valid
#print axioms Pyc.C15.bech32_roundtrip
#print axioms Pyc.C15.bech32_encode_total
#print axioms Pyc.C15.addr_text_roundtrip
#print axioms Pyc.C15.addr_text_total
#print axioms Pyc.C15.addr_text_layout
#print axioms Pyc.C15.addr_text_injective
#print axioms Pyc.C15.addr_text_long_pointer
#print axioms Pyc.C15.decode_only_bech32
#print axioms Pyc.C15.bech32_accept_iff
#print axioms Pyc.C15.bech32m_rejected
#print axioms Pyc.C15.addr_decode_only_bech32
#print axioms Pyc.C15.polymod_step_linear
#print axioms Pyc.C15.polymod_linear
#print axioms Pyc.C15.single_error_detected
#print axioms Pyc.C15.error_table
#print axioms Pyc.C15.single_subst_rejected
#print axioms Pyc.C15.addr_single_subst_rejected
