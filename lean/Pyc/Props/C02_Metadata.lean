import Pyc.Proofs.Metadata

/-! # C02 (extension) — emitted metadata / auxiliary data conforms to the ledger CDDL

Property theorems only.  Specification: `Pyc/Spec/Metadata.lean` (the CDDL rules `transaction_metadatum`, `metadata`,
`auxiliary_data` transliterated as recognisers over CBOR items, and as an encoder from content, independently of the
model); model: `Pyc/Model/Metadata.lean`.  `native_script` is a parameter: a recogniser `native` that accepts what the leaf
codec writes. -/

namespace Pyc.C02.Metadata
open Pyc.Cbor Pyc.Custom Pyc.Metadata

variable {N : Type}

/-- **metadatum**: a value in the CDDL ranges (64-bit integers, no booleans, strings of at most 64 bytes in every
position) is written as a `transaction_metadatum` -/
theorem metadatum_conforms (v : Md) (h : specOkV v = true) : Spec.Metadata.metadatum (itemMd v) = true :=
  metadatum_itemMd v h

/-- … and exactly as the specification's encoder writes the same content: `toItem x = spec x` -/
theorem metadatum_spec_enc (s : Spec.Metadata.TxMd) (h : s.ok = true) : itemMd (ofSpec s) = Spec.Metadata.encMd s :=
  itemMd_ofSpec s h

/-- every model value in the CDDL ranges is the image of a specification value (so the statement above covers them all) -/
theorem metadatum_spec_surjective (v : Md) (h : specOkV v = true) :
    ∃ s : Spec.Metadata.TxMd, s.ok = true ∧ ofSpec s = v ∧ itemMd v = Spec.Metadata.encMd s := by
  obtain ⟨h1, h2⟩ := toSpec_spec v h
  exact ⟨toSpec v, h1, h2, by rw [← h2, itemMd_ofSpec _ h1, h2]⟩

/-- **metadata**: `uint` labels and values in the CDDL ranges are written as
`{ * transaction_metadatum_label => transaction_metadatum }` -/
theorem metadata_conforms (m : Metadata) (h : specOkM m = true) : Spec.Metadata.metadata (itemMetadata m) = true :=
  metadata_itemMetadata m h

/-- … namely as the specification's encoder writes the same entries listed in canonical order -/
theorem metadata_spec_enc (m : Metadata) (h : specOkM m = true) :
    itemMetadata m = Spec.Metadata.encMetadata (specContent (canonSortInt m)) := by
  have hc := specOkM_canon m h
  simp only [itemMetadata, Spec.Metadata.encMetadata, specContent, List.map_map]
  congr 1
  apply List.map_congr_left
  intro p hp
  simp only [specOkM, List.all_eq_true, Bool.and_eq_true, decide_eq_true_eq] at hc
  have hpp := hc p hp
  have hs := toSpec_spec p.2 hpp.2
  simp only [Function.comp]
  rw [Pyc.Ids.ofInt_nonneg p.1 hpp.1.1 hpp.1.2, ← itemMd_ofSpec _ hs.1, hs.2]

/-- **auxiliary_data**: the three forms — every subset of the Alonzo fields, the Shelley-MA form with a script list — are
written as the CDDL prescribes -/
theorem aux_conforms (L : Leaf N) (native : Item → Bool) (hn : ∀ n, native (L.enc n) = true) (a : Aux N)
    (h : AuxSpecOk a) : Spec.Metadata.auxiliary_data native (itemAux L a) = true := by
  cases a with
  | shelley m => exact metadata_itemMetadata m h
  | shelleyMa s =>
    obtain ⟨m, ns⟩ := s
    obtain ⟨h1, h2⟩ := h
    cases ns with
    | none => cases h2
    | some ns =>
      simp only [itemAux, itemShelleyMa, Spec.Metadata.auxiliary_data, Spec.Metadata.shelleyMa, Bool.and_eq_true]
      exact ⟨metadata_itemMetadata m h1, listOf_itemScripts L native hn ns⟩
  | alonzo a => exact alonzoMap_alonzoFields L native hn a h

/-- … in particular whatever the constructors make of their arguments (`normAux`: a Shelley-MA form without a script
list is given the empty list), as soon as the metadata is in the CDDL ranges -/
theorem constructed_conforms_partial (L : Leaf N) (native : Item → Bool) (hn : ∀ n, native (L.enc n) = true) (a : Aux N)
    (h : AuxMdSpecOk a) :
    Spec.Metadata.auxiliary_data native (itemAux L (normAux a)) = true ∧
    (∀ m, a = .shelley m → validate m = true) := by
  refine ⟨aux_conforms L native hn (normAux a) ?_, ?_⟩
  · cases a with
    | shelley m => exact h
    | shelleyMa s => exact ⟨h, rfl⟩
    | alonzo b => exact h
  intro m hm
  subst hm
  simp only [AuxMdSpecOk, specOkM, List.all_eq_true, Bool.and_eq_true] at h
  simp only [validate, List.all_eq_true]
  exact fun p hp => ((specOkV_iff p.2).1 (h p hp).2).1

/-- the full statement — "whatever the constructors accept is written as the CDDL prescribes" — is FALSE of the code:
`_validate` lets through values that are not a `transaction_metadatum` -/
def constructed_conforms_goal : Prop :=
  ∀ (native : Item → Bool) (L : Leaf Nat), (∀ n, native (L.enc n) = true) →
    ∀ a : Aux Nat, AuxOk a → (∀ m, (a = .shelley m ∨ (∃ ns, a = .shelleyMa ⟨m, ns⟩) ∨ ∃ b, a = .alonzo b ∧ b.metadata = some m) →
      validate m = true) → Spec.Metadata.auxiliary_data native (itemAux L (normAux a)) = true

def natLeaf : Leaf Nat := ⟨fun n => .uint n, fun i => match i with | .uint n => .ok n | _ => .deser⟩
def natRule : Item → Bool
  | .uint _ => true
  | _ => false

/-- witnesses (each accepted by the constructors): a `True` value is written `f5`; `2^64` as a bignum tag; a 65-byte key
of a nested map; a negative label -/
theorem constructed_conforms_counterexample : ¬ constructed_conforms_goal := by
  intro h
  have := h natRule natLeaf (fun _ => rfl) (.shelley [(0, .bool true)]) ⟨by simp [labels], by decide⟩
    (by intro m hm; rcases hm with hm | ⟨_, hm⟩ | ⟨_, hm, _⟩ <;> cases hm; decide)
  revert this
  decide

/-! ## non-vacuity -/

def exMd : Md :=
  .map [(.text [107], .list [.int 0, .int (-1), .int 18446744073709551615, .int (-18446744073709551616)]),
        (.int 7, .bytes (List.replicate 64 9)), (.list [.int 1], .map [(.map [], .text (List.replicate 64 97))])]
def exMeta : Metadata := [(4294967296, exMd), (24, .text []), (0, .int 5), (18446744073709551615, .list [])]

example : specOkV exMd = true ∧ specOkM exMeta = true := by decide +kernel
example : Spec.Metadata.metadata (itemMetadata exMeta) = true := metadata_conforms exMeta (by decide +kernel)
example : ([.shelley exMeta, .shelleyMa ⟨exMeta, some [1, 2]⟩, .alonzo {}, .alonzo { metadata := some exMeta, v2 := some [[1]] },
    .alonzo { native := some [], v1 := some [], v3 := some [[], [7]] }] : List (Aux Nat)).all
      (fun a => auxSpecOkB a && Spec.Metadata.auxiliary_data natRule (itemAux natLeaf a)) = true := by decide +kernel
-- the recogniser refuses what the counterexamples write
example : ([.shelley [(0, .bool true)], .shelley [(0, .int 18446744073709551616)], .shelley [(-1, .int 0)],
    .shelley [(0, .map [(.bytes (List.replicate 65 0), .int 0)])]] : List (Aux Nat)).all
      (fun a => !Spec.Metadata.auxiliary_data natRule (itemAux natLeaf (normAux a))) = true := by decide +kernel
-- the Shelley-MA form without a script list conforms once constructed; `null` in its place (a foreign stream) does not
example : Spec.Metadata.auxiliary_data natRule (itemAux natLeaf (normAux (.shelleyMa ⟨exMeta, Option.none⟩))) = true ∧
    Spec.Metadata.auxiliary_data natRule (itemAux natLeaf (.shelleyMa ⟨exMeta, Option.none⟩)) = false := by decide +kernel
-- … and is not trivially true: wrong tag, a sixth key, a repeated key, a text label
example : ([.tag 258 (.map []), .tag 259 (.map [(.uint 5, .array [])]), .tag 259 (.map [(.uint 2, .array []), (.uint 2, .array [])]),
    .map [(.text [97], .uint 1)], .array [.map []], .tag 259 (.array [])] : List Item).all
      (fun i => !Spec.Metadata.auxiliary_data natRule i) = true := by decide +kernel

end Pyc.C02.Metadata

#print axioms Pyc.C02.Metadata.metadatum_conforms
#print axioms Pyc.C02.Metadata.metadatum_spec_enc
#print axioms Pyc.C02.Metadata.metadatum_spec_surjective
#print axioms Pyc.C02.Metadata.metadata_conforms
#print axioms Pyc.C02.Metadata.metadata_spec_enc
#print axioms Pyc.C02.Metadata.aux_conforms
#print axioms Pyc.C02.Metadata.constructed_conforms_partial
#print axioms Pyc.C02.Metadata.constructed_conforms_counterexample
