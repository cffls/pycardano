import Pyc.Proofs.AddrLeaf
import Pyc.Proofs.NativeScript

/-! # C01 (extension) — the leaf codecs of `TransactionOutput`, closed

`output_roundtrip` (Props/C01.lean) is stated over abstract leaf codecs for the address, the inline datum and the native
script of an output, ASSUMED lawful.  Here the address leaf is the real one: the model of `Address.to_primitive` /
`Address.from_primitive` (Pyc/Model/Addr.lean, tied to /repo by C15's differential run and by C01's output run), and
its lawfulness is a theorem.  The inline datum is carried as the primitive the implementation restores it to
(`Leaf.raw`, lawful by `rfl`). -/

namespace Pyc.C01.Leaves
open Pyc.Cbor Pyc.Codec Pyc.Custom Pyc.Addr Pyc.AddrLeaf

/-- every address object (all ten Shelley kinds, both networks, pointers of any size, any 28-byte credentials) is
restored from the primitive it writes -/
theorem addr_leaf_lawful : addrLeaf.Lawful := addrLeaf_lawful

/-- the decoder of the leaf is `Address.from_primitive` itself, on every CBOR item (bytes, text, anything else) -/
theorem addr_leaf_faithful (i : Item) :
    (match addrLeaf.dec i with | .ok x => Res.ok x.1 | .deser => .deser | .crash => .crash) = addrDec i :=
  addrLeaf_dec_faithful i

/-- whatever `Address.from_primitive` accepts is an address that its constructor would have built -/
theorem addr_decoded_valid (i : Item) (a : Address) (h : addrDec i = .ok a) : validB a = true := addrDec_valid i a h

/-- an item that is neither a byte string nor a text string is refused with `DeserializeException` (so that a `Union`
moves on), a Byron header too -/
theorem addr_refuses_other_kinds (i : Item) (h1 : ∀ b, i ≠ .bytes b) (h2 : ∀ s, i ≠ .text s) : addrDec i = .deser := by
  cases i <;> first | rfl | exact absurd rfl (h1 _) | exact absurd rfl (h2 _)

/-- the leaves of an output with the REAL address codec; the datum is carried as its primitive -/
def realLeaves {N : Type} (Ln : Leaf N) : Leaves VAddr Item N := ⟨addrLeaf, Leaf.raw, Ln⟩

theorem realLeaves_lawful {N : Type} (Ln : Leaf N) (hn : Ln.Lawful) : (realLeaves Ln).Lawful :=
  ⟨addrLeaf_lawful, ⟨fun _ => rfl⟩, hn⟩

/-- `TransactionOutput` round trip with the real address codec: no assumption about addresses is left -/
theorem output_roundtrip_real_address {N : Type} (Ln : Leaf N) (hn : Ln.Lawful) (o : Output VAddr Item N)
    (h : OutputOk (realLeaves Ln) o) :
    decOutput (realLeaves Ln) (itemOutput (realLeaves Ln) o) = .ok (decodedOutput o) :=
  decOutput_itemOutput (realLeaves Ln) (realLeaves_lawful Ln hn) o h

/-- **`TransactionOutput` round trip with NO assumed leaf**: the address codec is the model of `Address.to_primitive` /
`from_primitive`, the native-script codec is the model of `NativeScript.to_primitive` / `from_primitive`
(Pyc/Model/NativeScript.lean), the inline datum is the primitive the implementation restores it to.  Every well-formed
output — legacy or map form, datum hash / inline datum / reference script of any language, any address kind, native
scripts of any depth — decodes to `decodedOutput o` (= `o` with the amount normalised, for a constructed output). -/
theorem output_roundtrip_closed (o : Output VAddr Item Pyc.NativeScript.WScript)
    (h : OutputOk (realLeaves Pyc.NativeScript.nsLeaf) o) :
    decOutput (realLeaves Pyc.NativeScript.nsLeaf) (itemOutput (realLeaves Pyc.NativeScript.nsLeaf) o) = .ok (decodedOutput o) :=
  output_roundtrip_real_address Pyc.NativeScript.nsLeaf ⟨Pyc.NativeScript.nsLeaf_rt⟩ o h

/-- … and re-encoding the decoded output reproduces the bytes (C03's `output_reencode`, closed the same way) -/
theorem output_reencode_closed (o : Output VAddr Item Pyc.NativeScript.WScript)
    (h : OutputOk (realLeaves Pyc.NativeScript.nsLeaf) o) :
    ∃ o', decOutput (realLeaves Pyc.NativeScript.nsLeaf) (itemOutput (realLeaves Pyc.NativeScript.nsLeaf) o) = .ok o' ∧
      itemOutput (realLeaves Pyc.NativeScript.nsLeaf) o' = itemOutput (realLeaves Pyc.NativeScript.nsLeaf) o :=
  ⟨decodedOutput o, output_roundtrip_closed o h, itemOutput_decodedOutput (realLeaves Pyc.NativeScript.nsLeaf) o⟩

/-! non-vacuity: a base address on mainnet and a script-pointer address on testnet are valid, and are restored -/
def exBase : Address := ⟨.vkh (List.replicate 28 7), .sh (List.replicate 28 9), .mainnet⟩
def exPtr : Address := ⟨.sh (List.replicate 28 1), .ptr (2 ^ 40) 129 0, .testnet⟩
example : validB exBase = true ∧ validB exPtr = true := by decide +kernel
def isOk (r : Res Address) (a : Address) : Bool := match r with | .ok x => x == a | _ => false
def cls (r : Res Address) : Nat := match r with | .ok _ => 0 | .deser => 1 | .crash => 2
example : isOk (addrDec (addrEnc exBase)) exBase = true ∧ isOk (addrDec (addrEnc exPtr)) exPtr = true := by decide +kernel
example : cls (addrDec (.bytes [0x80])) = 1 ∧ cls (addrDec (.bytes [])) = 2 ∧ cls (addrDec (.uint 3)) = 1 := by decide +kernel

end Pyc.C01.Leaves

#print axioms Pyc.C01.Leaves.addr_leaf_lawful
#print axioms Pyc.C01.Leaves.addr_leaf_faithful
#print axioms Pyc.C01.Leaves.addr_decoded_valid
#print axioms Pyc.C01.Leaves.addr_refuses_other_kinds
#print axioms Pyc.C01.Leaves.realLeaves_lawful
#print axioms Pyc.C01.Leaves.output_roundtrip_real_address
#print axioms Pyc.C01.Leaves.output_roundtrip_closed
#print axioms Pyc.C01.Leaves.output_reencode_closed
