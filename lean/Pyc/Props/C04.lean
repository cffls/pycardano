import Pyc.Proofs.Canonical

/-! # C04 — map-like values encode canonically, independent of construction history

Model: `Pyc/Model/Canonical.lean` (`DictCBORSerializable.to_shallow_primitive` sort, `Asset` / `MultiAsset`
normalisation on encode, `Value` bare-integer form) over `Pyc/Model/Value.lean`.  `qty` is the content. -/

namespace Pyc.C04
open Pyc.Cbor

/-- every dict the library can hold: unique keys, keys short enough for a CBOR head (hashes are 28 bytes, asset
names at most 32) -/
def Valid (v : Value) : Prop := MultiAsset.WF v.ma ∧ MultiAsset.KeysOk v.ma

/-- bundles with equal content encode to identical bytes, whatever their insertion orders, stored zeros or
empty policies -/
theorem content_multiasset (m₁ m₂ : MultiAsset) (h1 : MultiAsset.WF m₁) (h2 : MultiAsset.WF m₂)
    (k1 : MultiAsset.KeysOk m₁) (h : ∀ p n, MultiAsset.qty m₁ p n = MultiAsset.qty m₂ p n) :
    encMultiAsset m₁ = encMultiAsset m₂ := by
  unfold encMultiAsset; rw [primMultiAsset_content m₁ m₂ h1 h2 k1 h]

theorem content_asset (a b : Asset) (ha : Dict.WF a) (hb : Dict.WF b) (ka : KeysOk a)
    (h : ∀ n, Asset.qty a n = Asset.qty b n) : encAsset a = encAsset b := by
  unfold encAsset; rw [primAsset_content a b ha hb ka h]

theorem normalize_empty_iff (m : MultiAsset) (hw : MultiAsset.WF m) :
    (MultiAsset.normalize m).isEmpty = true ↔ ∀ p n, MultiAsset.qty m p n = 0 := by
  constructor
  · intro he p n
    rw [← MultiAsset.qty_normalize m p n hw, List.isEmpty_iff.1 he]
    rfl
  · intro h
    refine Bool.of_not_eq_false fun he => ?_
    obtain ⟨q, hq⟩ := List.isEmpty_eq_false_iff_exists_mem.1 he
    obtain ⟨n, hne⟩ := (MultiAsset.has_iff_qty _ q.1 (MultiAsset.wf_normalize m hw) (MultiAsset.normal_normalize m)).1
      (Dict.has_of_mem hq)
    exact hne (by rw [MultiAsset.qty_normalize m _ _ hw]; exact h q.1 n)

/-- values with equal content encode to identical bytes (hence identical hashes and transaction ids) -/
theorem content_value (v₁ v₂ : Value) (h1 : Valid v₁) (h2 : Valid v₂) (h : Value.Same v₁ v₂) :
    encValue v₁ = encValue v₂ := by
  unfold encValue itemValue
  have hp := primMultiAsset_content v₁.ma v₂.ma h1.1 h2.1 h1.2 h.2
  have he : (MultiAsset.normalize v₁.ma).isEmpty = (MultiAsset.normalize v₂.ma).isEmpty := by
    rw [Bool.eq_iff_iff, normalize_empty_iff _ h1.1, normalize_empty_iff _ h2.1]
    simp only [show ∀ p n, MultiAsset.qty v₁.ma p n = MultiAsset.qty v₂.ma p n from h.2]
  rw [he, hp, h.1]

/-- keys are emitted shortest-encoding-first, then bytewise, each key once — policies and names -/
theorem keys_sorted (m : MultiAsset) (hw : MultiAsset.WF m) :
    (primMultiAsset m).Pairwise (fun a b => keyLe a.1 b.1 = true) ∧ ((primMultiAsset m).map (·.1)).Nodup ∧
    ∀ p ∈ primMultiAsset m, p.2.Pairwise (fun a b => keyLe a.1 b.1 = true) ∧ (p.2.map (·.1)).Nodup := by
  have hw' := MultiAsset.wf_normalize m hw
  refine ⟨primMultiAsset_sorted m, (keys_primMultiAsset_perm m).nodup_iff.2 hw'.1, fun p hp => ?_⟩
  obtain ⟨q, hq, rfl⟩ := (mem_primMultiAsset m p).1 hp
  exact ⟨primAsset_sorted _,
    ((canonSort_perm (Asset.normalize q.2)).map Prod.fst).nodup_iff.2 (Asset.wf_normalize _ (hw'.2 _ hq))⟩

/-- zero quantities and empty policies are never emitted -/
theorem no_zero_no_empty (m : MultiAsset) :
    ∀ p ∈ primMultiAsset m, p.2 ≠ [] ∧ ∀ q ∈ p.2, q.2 ≠ 0 :=
  primMultiAsset_normal m

theorem ofInt_ne_array (i : Int) (xs : List Item) : ofInt i ≠ .array xs := by
  unfold ofInt
  dsimp only
  repeat' split
  all_goals nofun

/-- a value is the bare integer exactly when it holds no asset -/
theorem bare_int_iff (v : Value) (hw : MultiAsset.WF v.ma) :
    itemValue v = ofInt v.coin ↔ ∀ p n, Value.qty v p n = 0 := by
  unfold itemValue Value.qty
  rw [← normalize_empty_iff v.ma hw]
  constructor
  · intro h
    cases he : (MultiAsset.normalize v.ma).isEmpty with
    | true => rfl
    | false => simp only [he, Bool.false_eq_true, if_false] at h; exact absurd h.symm (ofInt_ne_array _ _)
  · intro h; simp [h]

/-- GOAL as the pinned tree implemented it (`if self.multi_asset:` on the un-normalised dict). -/
def bare_int_pinned_goal : Prop :=
  ∀ v : Value, MultiAsset.WF v.ma → ((∀ p n, Value.qty v p n = 0) → itemValuePinned v = ofInt v.coin)

/-- the pinned tree's emptiness test violates the property: `Value(5, {p: {}})` is emitted as `[5, {}]`
(repaired in /repo by a `fix:` commit; `itemValue` models the repaired code) -/
theorem bare_int_pinned_counterexample : ¬ bare_int_pinned_goal := by
  intro h
  have := h ⟨5, [([1], [])]⟩ (by decide) (by
    intro p n; simp [Value.qty, MultiAsset.qty, Dict.getD, Asset.qty])
  simp [itemValuePinned] at this
  exact ofInt_ne_array _ _ this.symm

/-- withdrawals, metadata label maps, redeemer maps, vote maps (every `DictCBORSerializable`, keys and values
given by their encodings): the bytes depend only on the set of entries, not on insertion order, and the keys
come out shortest-encoding-first, then bytewise -/
theorem dict_order_independent (m₁ m₂ : List (Bytes × Bytes)) (hw : Dict.WF m₁) (hp : m₁.Perm m₂) :
    encRawMap m₁ = encRawMap m₂ := encRawMap_order_independent m₁ m₂ hw hp

theorem dict_keys_sorted (m : List (Bytes × Bytes)) :
    (canonSortRaw m).Pairwise (fun a b => lenLexLe a.1 b.1 = true) :=
  isort_pairwise (fun (a b : Bytes × Bytes) => lenLexLe a.1 b.1) (fun _ _ _ => lenLexLe_trans _ _ _)
    (fun _ _ => lenLexLe_total _ _) m

/-! ## histories -/

/-- construction / arithmetic steps on a value -/
inductive Op where
  | setQty (p n : Bytes) (q : Int)     -- v.multi_asset[p][n] = q   (creating the policy when absent)
  | add (w : Value)                    -- v = v + w,  v += w,  v = v.union(w)
  | sub (w : Value)                    -- v = v - w
  | addSelf                            -- v += v
  | normalize                          -- v.multi_asset.normalize()

def step (v : Value) : Op → Value
  | .setQty p n q => ⟨v.coin, Dict.set v.ma p (Dict.set (Dict.getD v.ma p []) n q)⟩
  | .add w => Value.add v w
  | .sub w => Value.sub v w
  | .addSelf => Value.add v v
  | .normalize => ⟨v.coin, MultiAsset.normalize v.ma⟩

def run (init : Value) (ops : List Op) : Value := ops.foldl step init

/-- operands of the steps are themselves legal dicts with legal key lengths -/
def OpOk : Op → Prop
  | .setQty p n _ => p.length < 2^64 ∧ n.length < 2^64
  | .add w => Valid w
  | .sub w => Valid w
  | _ => True

theorem keysOk_set {ν : Type} (m : List (Bytes × ν)) (k : Bytes) (v : ν) (h : KeysOk m) (hk : k.length < 2^64) :
    KeysOk (Dict.set m k v) := by
  intro k' hk'
  rw [Dict.has_set] at hk'
  simp only [Bool.or_eq_true, decide_eq_true_eq] at hk'
  rcases hk' with rfl | h'
  · exact hk
  · exact h k' h'

theorem keysOk_getD (m : MultiAsset) (p : Bytes) (hw : MultiAsset.WF m) (hk : MultiAsset.KeysOk m) :
    KeysOk (Dict.getD m p []) := by
  cases hh : Dict.has m p with
  | false => rw [Dict.has_false_getD _ _ _ hh]; intro k hk'; simp [Dict.has] at hk'
  | true => exact hk.2 _ (MultiAsset.mem_getD m p hw hh)

theorem valid_set (m : MultiAsset) (p : Bytes) (a : Asset) (hm : MultiAsset.WF m ∧ MultiAsset.KeysOk m)
    (ha : Dict.WF a) (ka : KeysOk a) (hp : p.length < 2^64) :
    MultiAsset.WF (Dict.set m p a) ∧ MultiAsset.KeysOk (Dict.set m p a) := by
  have hw := MultiAsset.wf_set_policy m p a hm.1 ha
  refine ⟨hw, keysOk_set m p a hm.2.1 hp, fun q hq => ?_⟩
  -- an entry is what a lookup under its key returns: the new dict or an old one
  rw [← (MultiAsset.getD_of_mem _ q.1 q.2 hw hq).2, Dict.getD_set]
  split
  · exact ka
  · exact keysOk_getD m _ hm.1 hm.2

theorem keysOk_merge {ν : Type} (op : ν → ν → ν) (d : ν) (a b : List (Bytes × ν)) (ha : KeysOk a) (hb : KeysOk b) :
    KeysOk (Dict.merge op d a b) := by
  intro k hk
  rw [Dict.has_merge] at hk
  simp only [Bool.or_eq_true] at hk
  rcases hk with h | h
  · exact ha k h
  · exact hb k h

theorem asset_keysOk_op (op : Int → Int → Int) (x y : Asset) (hw : Dict.WF x) (hx : KeysOk x) (hy : KeysOk y) :
    KeysOk (Asset.normalize (Dict.merge op 0 x y)) :=
  Asset.keysOk_normalize _ (keysOk_merge _ _ _ _ hx hy) (Dict.wf_merge _ _ _ _ hw)

theorem ma_keysOk_merge (op : Asset → Asset → Asset)
    (hop : ∀ x y, Dict.WF x → KeysOk x → KeysOk y → KeysOk (op x y)) (hopw : ∀ x y, Dict.WF x → Dict.WF (op x y))
    (a b : MultiAsset) (ha : MultiAsset.WF a) (hb : MultiAsset.WF b) (ka : MultiAsset.KeysOk a) (kb : MultiAsset.KeysOk b) :
    MultiAsset.WF (MultiAsset.normalize (Dict.merge op [] a b)) ∧
      MultiAsset.KeysOk (MultiAsset.normalize (Dict.merge op [] a b)) := by
  have hw := MultiAsset.wf_merge' op hopw a b ha
  refine ⟨MultiAsset.wf_normalize _ hw, MultiAsset.keysOk_normalize _ ⟨keysOk_merge _ _ _ _ ka.1 kb.1, fun q hq => ?_⟩ hw⟩
  rw [← (MultiAsset.getD_of_mem _ q.1 q.2 hw hq).2, Dict.getD_merge _ _ _ _ _ hb.1]
  split
  · exact hop _ _ (MultiAsset.wf_getD a _ ha) (keysOk_getD a _ ha ka) (keysOk_getD b _ hb kb)
  · exact keysOk_getD a _ ha ka

/-- every state reachable by such steps from a valid value is valid -/
theorem run_valid (init : Value) (ops : List Op) (hi : Valid init) (ho : ∀ o ∈ ops, OpOk o) : Valid (run init ops) := by
  unfold run
  induction ops generalizing init with
  | nil => simpa
  | cons o r ih =>
    simp only [List.foldl_cons]
    apply ih _ _ (fun x hx => ho x (by simp [hx]))
    have hoo := ho o (by simp)
    have addv : ∀ w : Value, Valid w → Valid (Value.add init w) := fun w hw =>
      ma_keysOk_merge Asset.add (asset_keysOk_op (· + ·)) Asset.wf_add init.ma w.ma hi.1 hw.1 hi.2 hw.2
    cases o with
    | setQty p n q =>
      exact valid_set init.ma p (Dict.set (Dict.getD init.ma p []) n q) hi
        (Dict.wf_set _ _ _ (MultiAsset.wf_getD init.ma p hi.1)) (keysOk_set _ _ _ (keysOk_getD init.ma p hi.1 hi.2) hoo.2) hoo.1
    | add w => exact addv w hoo
    | addSelf => exact addv init hi
    | sub w =>
      exact ma_keysOk_merge Asset.sub (asset_keysOk_op (· - ·)) Asset.wf_sub init.ma w.ma hi.1 hoo.1 hi.2 hoo.2
    | normalize => exact ⟨MultiAsset.wf_normalize _ hi.1, MultiAsset.keysOk_normalize _ hi.2 hi.1⟩

/-- any two construction / arithmetic histories that arrive at the same content yield identical bytes -/
theorem history_independent (i₁ i₂ : Value) (h₁ h₂ : List Op) (v1 : Valid i₁) (v2 : Valid i₂)
    (o1 : ∀ o ∈ h₁, OpOk o) (o2 : ∀ o ∈ h₂, OpOk o) (same : Value.Same (run i₁ h₁) (run i₂ h₂)) :
    encValue (run i₁ h₁) = encValue (run i₂ h₂) :=
  content_value _ _ (run_valid i₁ h₁ v1 o1) (run_valid i₂ h₂ v2 o2) same

/-- non-vacuity: two values built in different insertion orders (so the stored dicts differ) are valid and
have the same content — the hypotheses of `content_value` / `history_independent` are satisfiable non-trivially -/
example :
    let a : Value := run ⟨3, []⟩ [.setQty [2] [9, 9] 4, .setQty [1] [7] 5, .setQty [2] [] 1]
    let b : Value := run ⟨1, []⟩ [.setQty [1] [7] 6, .setQty [2] [] 1, .setQty [2] [9, 9] 4,
                                  .sub ⟨-2, [([1], [([7], 1)])]⟩]
    a.ma ≠ b.ma ∧ Valid a ∧ Valid b ∧ Value.Same a b := by
  intro a b
  exact ⟨by decide, ⟨by decide, MultiAsset.keysOk_of_mem (by decide)⟩, ⟨by decide, MultiAsset.keysOk_of_mem (by decide)⟩,
    (Value.eq_iff a b).1 (by decide)⟩

end Pyc.C04

#print axioms Pyc.C04.content_multiasset
#print axioms Pyc.C04.content_asset
#print axioms Pyc.C04.normalize_empty_iff
#print axioms Pyc.C04.content_value
#print axioms Pyc.C04.keys_sorted
#print axioms Pyc.C04.no_zero_no_empty
#print axioms Pyc.C04.ofInt_ne_array
#print axioms Pyc.C04.bare_int_iff
#print axioms Pyc.C04.bare_int_pinned_counterexample
#print axioms Pyc.C04.dict_order_independent
#print axioms Pyc.C04.dict_keys_sorted
#print axioms Pyc.C04.keysOk_set
#print axioms Pyc.C04.valid_set
#print axioms Pyc.C04.keysOk_getD
#print axioms Pyc.C04.keysOk_merge
#print axioms Pyc.C04.asset_keysOk_op
#print axioms Pyc.C04.ma_keysOk_merge
#print axioms Pyc.C04.run_valid
#print axioms Pyc.C04.history_independent
