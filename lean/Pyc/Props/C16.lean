import Pyc.Proofs.Bip32

/-! # C16 — HD wallet derivation follows CIP-3 Icarus and BIP32-Ed25519

Property theorems only.  The model (`Pyc/Model/Bip32.lean`) transliterates `HDWallet` of pycardano/crypto/bip32.py
and the extended signing used by `ExtendedSigningKey` (key.py); the specification (`Pyc/Spec/Bip32Ed25519.lean`)
is the integer-level text of BIP32-Ed25519 and CIP-3.  HMAC-SHA512, PBKDF2, SHA-512 and the edwards25519 group are
the *fields* of `Prims`; what the theorems need of them is stated as the explicit hypotheses `HashLen` (output
lengths) and `GroupLaws` (commutative group action, faithful encoding, order of the base point below `2^255`).
They are hypotheses, not axioms; `toy_hashLen` / `toy_groupLaws` show that they are jointly satisfiable.

The Python raises `OverflowError` (model: `none`) where the reference C code would wrap `kL` modulo `2^256`, and
libsodium clears bit 255 of every scalar it multiplies the base point with; both are unreachable from an Icarus
root on paths of fewer than `2^25` steps (`no_overflow_on_paths`), which is how the "no overflow" hypothesis of
`child_refines` / `pub_priv_agree` is discharged for the paths the property quantifies over. -/

namespace Pyc.C16
open Pyc.Bip32 Pyc.Spec.Bip32Ed25519

variable {P : Type}

/-- `_tweak_bits` is the CIP-3 clamp of the first 32 bytes read as a little-endian integer: bits 0,1,2 cleared,
bit 255 cleared, bit 253 cleared, bit 254 set, all other bits and all bytes from 32 on untouched -/
theorem tweak_spec (seed s : Bytes) (h : tweakBits seed = some s) :
    s.length = seed.length ∧ s.drop 32 = seed.drop 32 ∧
    fromLE (s.take 32) = clamp (fromLE (seed.take 32)) ∧
    IsClampOf (fromLE (s.take 32)) (fromLE (seed.take 32)) ∧
    fromLE (s.take 32) % 8 = 0 ∧ 2 ^ 254 ≤ fromLE (s.take 32) ∧ fromLE (s.take 32) < 2 ^ 254 + 2 ^ 253 := by
  obtain ⟨a, b, c⟩ := tweak_take seed s h
  have r := clamp_range (fromLE (seed.take 32))
  refine ⟨a, b, c, ?_, ?_, ?_, ?_⟩
  · rw [c]; exact clamp_bits _
  · rw [c]; exact r.1
  · rw [c]; exact r.2.1
  · rw [c]; exact r.2.2

/-- `_tweak_bits` fails (IndexError) exactly on seeds shorter than 32 bytes -/
theorem tweak_defined (seed : Bytes) : tweakBits seed = none ↔ seed.length < 32 := by
  constructor
  · intro h
    by_cases hl : seed.length < 32
    · exact hl
    · rw [tweakBits_eq seed (by omega)] at h; contradiction
  · intro h; simp [tweakBits, h]

/-- the root derived from entropy and passphrase is the CIP-3 Icarus master key of the specification, it is a
well-formed node (public key = `kL·B`), and only entropies of 16/20/24/28/32 bytes are accepted -/
theorem root_refines (pr : Prims P) (hl : HashLen pr) (e p : Bytes) (root : Node)
    (h : fromEntropy pr e p = some root) :
    absPrv root = master (toSetting pr) e p ∧ WFNode pr root ∧ isEntropyLen e.length = true :=
  fromEntropy_refines pr hl e p root h

/-- the 4-byte little-endian child number is injective on `[0, 2^32)` -/
theorem index_le32_inj (i j : Nat) (hi : i < 2 ^ 32) (hj : j < 2 ^ 32) (h : leBytes 4 i = leBytes 4 j) : i = j := by
  have e : (256 : Nat) ^ 4 = 2 ^ 32 := by decide
  have := congrArg fromLE h
  rwa [fromLE_leBytes_of_lt (e ▸ hi), fromLE_leBytes_of_lt (e ▸ hj)] at this

/-- `derive(i, hardened=True)` is child `i + 2^31`, and child `j` is derived the hardened way (tags 0/1 over
`kL ‖ kR`) exactly when `2^31 ≤ j`, the soft way (tags 2/3 over the public key) exactly when `j < 2^31` -/
theorem hardened_threshold (pr : Prims P) (w : Node) (i : Int) (priv : Bool) (j : Nat) :
    derive pr w i priv true = derive pr w (i + 2 ^ 31) priv false ∧
    (j < 2 ^ 31 → preimages w j =
      ((0x02 : UInt8) :: (w.pub ++ leBytes 4 j), (0x03 : UInt8) :: (w.pub ++ leBytes 4 j))) ∧
    (2 ^ 31 ≤ j → preimages w j =
      ((0x00 : UInt8) :: ((w.xprv.take 32 ++ w.xprv.drop 32) ++ leBytes 4 j),
       (0x01 : UInt8) :: ((w.xprv.take 32 ++ w.xprv.drop 32) ++ leBytes 4 j))) :=
  ⟨derive_hardened pr w i priv, (preimages_tags w j).1, (preimages_tags w j).2⟩

/-- what a successful private step computes, as integers, with no hypothesis on the primitives:
`kL' = 8·Z[0:28] + kL` (exactly: the Python refuses instead of wrapping), `kR' = (Z[32:64] + kR) mod 2^256`,
chain code = right half of the second HMAC -/
theorem child_arith (pr : Prims P) (w w' : Node) (i : Int) (h : derivePrivChild pr w i = some w') :
    0 ≤ i ∧ i < 2 ^ 32 ∧ w'.xprv.length = 64 ∧
    kLNat w' = 8 * zLNat pr w i.toNat + kLNat w ∧
    kRNat w' = (zRNat pr w i.toNat + kRNat w) % 2 ^ 256 ∧
    w'.cc = (pr.hmac512 w.cc (preimages w i.toNat).2).drop 32 :=
  let ⟨a, b, c, d, e, f, _⟩ := derivePrivChild_some pr w w' i h
  ⟨a, b, c, d, e, f⟩

/-- **refinement**: on a well-formed node, for every child number, if the child scalar stays below `2^255` the
byte-level private derivation of the model *is* the BIP32-Ed25519 derivation of the specification (including when
the child does not exist), and the child is again well-formed -/
theorem child_refines (pr : Prims P) (hl : HashLen pr) (gl : GroupLaws pr) (w : Node) (i : Nat)
    (hw : WFNode pr w) (hi : i < 2 ^ 32) (hno : 8 * zLNat pr w i + kLNat w < 2 ^ 255) :
    (derivePrivChild pr w (i : Int)).map absPrv = childPriv (toSetting pr) (absPrv w) i ∧
    ∀ w', derivePrivChild pr w (i : Int) = some w' → WFNode pr w' :=
  ⟨derivePrivChild_refines pr hl gl w i hw hi hno,
   fun w' h => derivePrivChild_wf pr w w' i h (by rw [(child_arith pr w w' i h).2.2.2.1]; exact hno)⟩

/-- **public = private** for non-hardened children: if the private derivation of child `i < 2^31` succeeds then the
public-only derivation succeeds with the same public key and chain code.  Hypotheses forced by the code:
`kL' < 2^255` (libsodium clears bit 255 of the scalar) and `8·ZL ≢ 0 (mod L)` (libsodium refuses the zero scalar
and the neutral element; for edwards25519 this is `Z[0:28] ≠ 0`) -/
theorem pub_priv_agree (pr : Prims P) (gl : GroupLaws pr) (w w' : Node) (i : Nat)
    (hw : WFNode pr w) (hi : i < 2 ^ 31)
    (hno : 8 * zLNat pr w i + kLNat w < 2 ^ 255)
    (hz : (8 * zLNat pr w i) % pr.order ≠ 0)
    (h : derivePrivChild pr w (i : Int) = some w') :
    ∃ v, derivePubChild pr w (i : Int) = some v ∧ v.pub = w'.pub ∧ v.cc = w'.cc :=
  derivePub_agrees pr gl w w' i hw hi hno hz h

/-- hardened children are refused by public derivation: for every final index `≥ 2^31`, and for every
`derive(i, private=False, hardened=True)` with `i ≥ 0` -/
theorem pub_hardened_refused (pr : Prims P) (w : Node) (i : Int) :
    (2 ^ 31 ≤ i → derivePubChild pr w i = none) ∧ (0 ≤ i → derive pr w i false true = none) := by
  refine ⟨derivePubChild_hardened pr w i, fun h => ?_⟩
  simp only [derive, if_true]
  exact derivePubChild_hardened pr w _ (by omega)

/-- `kL ≡ 0 (mod 8)` is preserved by every private child derivation, and `kL` grows by less than `2^227` -/
theorem kL_mod8 (pr : Prims P) (w w' : Node) (i : Int) (h : derivePrivChild pr w i = some w') :
    kLNat w' % 8 = kLNat w % 8 ∧ kLNat w ≤ kLNat w' ∧ kLNat w' < kLNat w + 2 ^ 227 :=
  derivePrivChild_kL pr w w' i h

/-- along *any* private path from an Icarus root: `kL % 8 = 0` and `kL < 2^254 + 2^253 + |path|·2^227` -/
theorem kL_invariant (pr : Prims P) (hl : HashLen pr) (e p : Bytes) (root w : Node) (path : List (Int × Bool))
    (hroot : fromEntropy pr e p = some root) (h : deriveSteps pr true root path = some w) :
    kLNat w % 8 = 0 ∧ 2 ^ 254 ≤ kLNat w ∧ kLNat w < 2 ^ 254 + 2 ^ 253 + path.length * 2 ^ 227 := by
  obtain ⟨ha, _, _⟩ := fromEntropy_refines pr hl e p root hroot
  have hk : kLNat root = clamp (fromLE ((pr.pbkdf2 p e).take 32)) := congrArg XPrv.kL ha
  have r := clamp_range (fromLE ((pr.pbkdf2 p e).take 32))
  have s := deriveSteps_kL pr root w path h
  rw [← hk] at r
  exact ⟨s.1.trans r.1, Nat.le_trans r.2.1 s.2.1,
    Nat.lt_of_le_of_lt (Nat.le_of_lt_succ s.2.2) (Nat.add_lt_add_right r.2.2 _)⟩

/-- the "no overflow" hypothesis holds on every private path of fewer than `2^25` steps from an Icarus root: every
node on it is well-formed and its `kL` is below `2^255 - 2^227` -/
theorem no_overflow_on_paths (pr : Prims P) (hl : HashLen pr) (e p : Bytes) (root w : Node)
    (path : List (Int × Bool)) (hroot : fromEntropy pr e p = some root) (hlen : path.length < 2 ^ 25)
    (h : deriveSteps pr true root path = some w) :
    WFNode pr w ∧ ∀ z, z < 2 ^ 224 → 8 * z + kLNat w < 2 ^ 255 := by
  obtain ⟨_, hw, _⟩ := fromEntropy_refines pr hl e p root hroot
  have inv := (kL_invariant pr hl e p root w path hroot h).2.2
  have inv0 := (kL_invariant pr hl e p root root [] hroot rfl).2.2
  have room := path_room hlen
  constructor
  · refine deriveSteps_wf pr root w path hw ?_ h
    exact Nat.lt_of_lt_of_le (Nat.add_lt_add_right inv0 _) (Nat.le_trans (Nat.le_add_right _ _) room)
  · intro z hz
    have : 8 * z < 2 ^ 227 := by
      rw [show (2 : Nat) ^ 227 = 8 * 2 ^ 224 by decide]; exact Nat.mul_lt_mul_of_pos_left hz (by decide)
    rw [Nat.add_comm]
    exact Nat.lt_of_lt_of_le (Nat.add_lt_add inv this) room

/-- public = private on the paths the property quantifies over, with the overflow hypothesis discharged -/
theorem pub_priv_agree_on_paths (pr : Prims P) (hl : HashLen pr) (gl : GroupLaws pr) (e p : Bytes)
    (root w w' : Node) (path : List (Int × Bool)) (i : Nat)
    (hroot : fromEntropy pr e p = some root) (hlen : path.length < 2 ^ 25)
    (hpath : deriveSteps pr true root path = some w) (hi : i < 2 ^ 31)
    (hz : (8 * zLNat pr w i) % pr.order ≠ 0)
    (h : derive pr w (i : Int) true false = some w') :
    ∃ v, derive pr w (i : Int) false false = some v ∧ v.pub = w'.pub ∧ v.cc = w'.cc := by
  obtain ⟨hw, hb⟩ := no_overflow_on_paths pr hl e p root w path hroot hlen hpath
  have := hb (zLNat pr w i) (zLNat_lt pr w i)
  simpa [derive] using pub_priv_agree pr gl w w' i hw hi this hz (by simpa [derive] using h)

/-- **path strings**: `derive_from_path("m/" + "/".join(str(i) + ("'" if h else "")))` is the step-by-step
derivation `derive(i₁, h₁) … derive(iₙ, hₙ)`, for every non-empty list of components and both derivation modes
(including every failure); `renderPath` uses Lean's own decimal rendering `Nat.toDigits 10` -/
theorem path_eq_fold (pr : Prims P) (w : Node) (idxs : List (Nat × Bool)) (priv : Bool) (hne : idxs ≠ []) :
    deriveFromPath pr w (renderPath idxs) priv = deriveSteps pr priv w (idxs.map fun x => ((x.1 : Int), x.2)) := by
  unfold deriveFromPath
  rw [pathSegments_render idxs hne]
  simp only []
  clear hne
  induction idxs generalizing w with
  | nil => rfl
  | cons x xs ih =>
    simp only [List.map, deriveSegments, deriveSteps, parseComponent_render]
    cases derive pr w (x.1 : Int) priv x.2 with
    | none => rfl
    | some w' => exact ih w'

/-- the rendered component is what `toString` prints -/
theorem renderPath_toString (i : Nat) (h : Bool) :
    String.ofList (renderComponent (i, h)) = toString i ++ (if h then "'" else "") := by
  cases h <;> simp [renderComponent, Nat.repr, String.ofList_append]

/-- signatures made with any key derived on a path of fewer than `2^25` steps from an Icarus root verify under the
derived public key (RFC 8032 equation `S·B = R + H(R‖A‖M)·A`, `S < L`) -/
theorem derived_sig_valid [DecidableEq P] (pr : Prims P) (hl : HashLen pr) (gl : GroupLaws pr) (e p : Bytes)
    (root w : Node) (path : List (Int × Bool)) (msg sig : Bytes)
    (hroot : fromEntropy pr e p = some root) (hlen : path.length < 2 ^ 25)
    (hpath : deriveSteps pr true root path = some w) (hs : signWithNode pr w msg = some sig) :
    verify pr w.pub msg sig = true :=
  sign_verifies pr gl w (no_overflow_on_paths pr hl e p root w path hroot hlen hpath).1 msg sig hs

/-! ## non-vacuity -/

/-- the hypotheses on the primitives are jointly satisfiable -/
theorem hypotheses_satisfiable : HashLen toy ∧ GroupLaws toy := ⟨toy_hashLen, toy_groupLaws⟩

/-- in the toy instance: a root exists for a 16-byte entropy, the CIP-1852-shaped path `1852'/1815'/0'/0/7`
derives, the public derivation of the last (soft) step exists, and a signature with the derived key verifies -/
example :
    ((fromEntropy toy (leBytes 16 12347) [1, 2, 3]).bind fun r =>
      (deriveSteps toy true r [(1852, true), (1815, true), (0, true), (0, false)]).bind fun w =>
        (derive toy w 7 true false).bind fun w' =>
          (derive toy w 7 false false).bind fun v =>
            (signWithNode toy w' [9, 9]).map fun sig =>
              (decide (v.pub = w'.pub ∧ v.cc = w'.cc) && verify toy w'.pub [9, 9] sig)) = some true := by
  decide +kernel

/-- the rendered path of that example, and a few accepted / rejected path strings of the parser -/
example : renderPath [(1852, true), (1815, true), (0, true), (0, false), (7, false)] = "m/1852'/1815'/0'/0/7" := by
  decide +kernel
example : parsePath "m/1852'/ 0_1 /+7/-1'" = some [(1852, true), (1, false), (7, false), (-1, true)] := by
  decide +kernel
example : parsePath "m/m//0" = some [(0, false)] ∧ parsePath "m/" = none ∧ parsePath "m/0''" = none ∧
    parsePath "1/2" = none ∧ parsePath "m/0//1" = none := by decide +kernel

/-- `tweak_spec` on a concrete 96-byte seed of `0xFF` bytes -/
example : (tweakBits (List.replicate 96 0xFF)).map (fun s => (s.getD 0 0, s.getD 31 0, s.drop 32 == List.replicate 64 0xFF))
    = some (0xF8, 0x5F, true) := by decide +kernel

end Pyc.C16

#print axioms Pyc.C16.tweak_spec
#print axioms Pyc.C16.tweak_defined
#print axioms Pyc.C16.root_refines
#print axioms Pyc.C16.index_le32_inj
#print axioms Pyc.C16.hardened_threshold
#print axioms Pyc.C16.child_arith
#print axioms Pyc.C16.child_refines
#print axioms Pyc.C16.pub_priv_agree
#print axioms Pyc.C16.pub_hardened_refused
#print axioms Pyc.C16.kL_mod8
#print axioms Pyc.C16.kL_invariant
#print axioms Pyc.C16.no_overflow_on_paths
#print axioms Pyc.C16.pub_priv_agree_on_paths
#print axioms Pyc.C16.path_eq_fold
#print axioms Pyc.C16.renderPath_toString
#print axioms Pyc.C16.derived_sig_valid
#print axioms Pyc.C16.hypotheses_satisfiable
