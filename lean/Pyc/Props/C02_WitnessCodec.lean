import Pyc.Proofs.WitnessCodec

/-! # C02 (extension) — the witness side is written as the Conway CDDL prescribes

`Spec/WitnessCodec.lean` transliterates the CDDL rules `transaction_witness_set`, `nonempty_set`, `vkeywitness`,
`redeemers`, `redeemer_tag`, `ex_units` as functions from spec-level content to CBOR items, independently of the
model.  `Conf.absWS` reads the spec-level content off a model value (which field is present, which wire form a set
uses, the elements in order); the theorems say that what `to_primitive` builds (`wsItem`, the model of the code) IS the
item the CDDL rule builds for that content, for every witness set whose content is within the CDDL (`WSCddl`: sets not
empty, 32-byte keys, 64-byte signatures, `index : uint .size 4`, execution units in `uint`, tag and units present).
The differential harness (`checks/c02_ext_witnesscodec.py`) compares the implementation with the model AND with the
independent reference encoder `ref/conway.py`, and the Lean transliteration with that reference. -/

namespace Pyc.C02.WitnessCodec
open Pyc.Cbor Pyc.Custom Pyc.WitnessCodec Pyc.WitnessCodec.Conf
open Pyc.Spec.WitnessCodec

variable {N B D R : Type}

/-- `vkeywitness = [vkey, signature]` -/
theorem vkeywitness_conforms (w : VKW) (s : Bytes) (h : w.sig = .bytes s) : vkwItem w = vkeywitness (absVKW w) :=
  vkwItem_spec w s h

/-- `ex_units = [mem : uint, steps : uint]` -/
theorem ex_units_conforms (e : WitnessCodec.ExUnits) (h : ExCddl e) : exItem e = exUnits ⟨e.mem.toNat, e.steps.toNat⟩ :=
  exItem_spec e h

/-- `redeemer_tag = 0 .. 5` in the order spend, mint, cert, reward, voting, proposing; nothing else is a tag -/
theorem redeemer_tag_conforms (t : RTag) :
    (Item.uint t.code) = redeemerTag (specTag t) ∧ t.code ≤ 5 ∧ decTag (.uint t.code) = .ok t := by
  cases t <;> exact ⟨rfl, by decide, rfl⟩

theorem redeemer_tag_six_refused : decTag (.uint 6) = .crash := rfl

/-- list-form element `[tag, index, data, ex_units]` -/
theorem redeemer_conforms (L : Leaf R) (r : Redeemer R) (h : RedeemerCddl r) :
    redeemerItem L r = redeemerArrayEntry (absRedeemer L r) := redeemerItem_spec L r h

/-- `redeemers`, both forms: `[+ [tag, index, data, ex_units]]` and `{+ [tag, index] => [data, ex_units]}` -/
theorem redeemers_conform (L : Leaf R) (rs : Redeemers R) (h : RedeemersCddl rs) :
    redeemersItem L rs = redeemers (absRedeemers L rs).1 (absRedeemers L rs).2 := redeemersItem_spec L rs h

/-- the entries of the map form are written in canonical order of their encoded keys (length first, then bytewise),
and they are the entries of the map -/
theorem redeemer_map_canonical (m : RMap R) :
    (rmapSorted m).Pairwise (fun a b => lenLexLe (encode (rkeyItem a.1)) (encode (rkeyItem b.1)) = true) ∧
    (rmapSorted m).Perm m := ⟨rmapSorted_sorted m, rmapSorted_perm m⟩

/-- **`transaction_witness_set`**: every subset of the keys 0 .. 7, every set in the wire form it holds -/
theorem witness_set_conforms (L : Leaves N B D R) (x : WS N B D R) (h : WSCddl x) :
    wsItem L x = transactionWitnessSet (absWS L x) ∧ (absWS L x).Ok := ⟨wsItem_spec L x h, absWS_ok L x h⟩

/-- the keys of the struct map are written in strictly ascending order (for EVERY witness set) -/
theorem witness_set_keys_ascending (L : Leaves N B D R) (x : WS N B D R) :
    ∃ ks : List Nat, wsItem L x = .map (wsPairs L x) ∧ (wsPairs L x).map (·.1) = ks.map Item.uint ∧
      ks.Pairwise (· < ·) := by
  obtain ⟨ks, h1, h2⟩ := wsPairs_ascending L x
  exact ⟨ks, rfl, h1, h2⟩

/-- every constructed witness set writes `#6.258([+ a])` for vkey witnesses, native scripts and Plutus scripts -/
theorem constructed_sets_tagged (L : Leaves N B D R) (a : WS N B D R) (c : Coll VKW) (h : (mkWS L a).vkeys = some c) :
    ((absWS L (mkWS L a)).vkeys.map (·.1)) = some SetForm.tagged := by
  obtain ⟨xs, hx⟩ := (mkWS_tagged5 L a).1 c h
  simp [absWS, h, hx, absColl]

/-! ## non-vacuity -/

def natLeaf : Leaf Nat := ⟨fun n => .uint n, fun i => match i with | .uint n => .ok n | _ => .deser⟩
def exLeaves : Leaves Nat Nat Nat Nat := ⟨natLeaf, natLeaf, natLeaf, natLeaf⟩

def exW (b : UInt8) : VKW := ⟨mkKey .verification (List.replicate 32 b), .bytes (List.replicate 64 b)⟩

/-- all eight keys; redeemers in the list form with every width boundary of the index -/
def exFull : WS Nat Nat Nat Nat :=
  { vkeys := some (.oset true [exW 1, exW 2])
    native := some (.oset true [7])
    bootstrap := some (.list [5])
    v1 := some (.oset true [[1, 2, 3]])
    datums := some (.oset false [8, 9])
    redeemers := some (.list [⟨some .spend, .int 0, 1, some ⟨0, 0⟩⟩, ⟨some .proposing, .int 4294967295, 2, some ⟨18446744073709551615, 24⟩⟩])
    v2 := some (.oset true [[4]])
    v3 := some (.oset true [[5], [6]]) }

theorem exFull_cddl : WSCddl exFull := by
  refine ⟨?_, ?_, ?_, ?_, ?_, ?_, ?_, ?_⟩
  · intro c hc
    cases hc
    refine ⟨List.cons_ne_nil _ _, ?_⟩
    intro w hw
    simp only [Coll.elems, List.mem_cons, List.mem_nil_iff, or_false] at hw
    rcases hw with rfl | rfl <;> exact ⟨List.length_replicate, _, rfl, List.length_replicate⟩
  · intro c hc; cases hc; exact List.cons_ne_nil _ _
  · intro c hc; cases hc; exact List.cons_ne_nil _ _
  · intro c hc; cases hc; exact List.cons_ne_nil _ _
  · intro c hc; cases hc; exact List.cons_ne_nil _ _
  · intro r hr
    cases hr
    refine ⟨List.cons_ne_nil _ _, ?_⟩
    intro r hr
    simp only [List.mem_cons, List.mem_nil_iff, or_false] at hr
    rcases hr with rfl | rfl
    · exact ⟨rfl, ⟨0, rfl, by decide, by decide⟩, _, rfl, by decide, by decide, by decide, by decide⟩
    · exact ⟨rfl, ⟨4294967295, rfl, by decide, by decide⟩, _, rfl, by decide, by decide, by decide, by decide⟩
  · intro c hc; cases hc; exact List.cons_ne_nil _ _
  · intro c hc; cases hc; exact List.cons_ne_nil _ _

example : wsItem exLeaves exFull = transactionWitnessSet (absWS exLeaves exFull) :=
  (witness_set_conforms exLeaves exFull exFull_cddl).1

-- the kernel evaluates both sides to the same bytes, and those start a8 (eight keys) 00 d9 0102 82 (tagged, two witnesses)
example : encode (wsItem exLeaves exFull) = encode (transactionWitnessSet (absWS exLeaves exFull)) ∧
    (encode (wsItem exLeaves exFull)).take 6 = [0xa8, 0x00, 0xd9, 0x01, 0x02, 0x82] := by decide +kernel

/-- the map form -/
def exMap : WS Nat Nat Nat Nat :=
  { redeemers := some (.map [(⟨.spend, 256⟩, ⟨11, ⟨1, 2⟩⟩), (⟨.mint, 0⟩, ⟨12, ⟨3, 4⟩⟩), (⟨.cert, 23⟩, ⟨13, ⟨5, 6⟩⟩)]) }

example : encode (wsItem exLeaves exMap) = encode (transactionWitnessSet (absWS exLeaves exMap)) ∧
    encode (wsItem exLeaves exMap) =
      [0xa1, 0x05, 0xa3, 0x82, 0x01, 0x00, 0x82, 0x0c, 0x82, 0x03, 0x04, 0x82, 0x02, 0x17, 0x82, 0x0d, 0x82, 0x05, 0x06,
       0x82, 0x00, 0x19, 0x01, 0x00, 0x82, 0x0b, 0x82, 0x01, 0x02] := by decide +kernel

-- a changed key falsifies the conformance (non-vacuity of the comparison itself): key 6 and 7 swapped
example : encode (transactionWitnessSet { (absWS exLeaves exFull) with v2 := (absWS exLeaves exFull).v3, v3 := (absWS exLeaves exFull).v2 })
    ≠ encode (wsItem exLeaves exFull) := by decide +kernel

end Pyc.C02.WitnessCodec

#print axioms Pyc.C02.WitnessCodec.vkeywitness_conforms
#print axioms Pyc.C02.WitnessCodec.ex_units_conforms
#print axioms Pyc.C02.WitnessCodec.redeemer_tag_conforms
#print axioms Pyc.C02.WitnessCodec.redeemer_tag_six_refused
#print axioms Pyc.C02.WitnessCodec.redeemer_conforms
#print axioms Pyc.C02.WitnessCodec.redeemers_conform
#print axioms Pyc.C02.WitnessCodec.redeemer_map_canonical
#print axioms Pyc.C02.WitnessCodec.witness_set_conforms
#print axioms Pyc.C02.WitnessCodec.witness_set_keys_ascending
#print axioms Pyc.C02.WitnessCodec.constructed_sets_tagged
#print axioms Pyc.C02.WitnessCodec.exFull_cddl
