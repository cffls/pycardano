import Pyc.Proofs.Backends

/-! # C20 — chain-context adapters report UTxOs faithfully

Property theorems only.  The model (`Pyc/Model/Backends.lean`) has, for each of Blockfrost, Ogmios v5, Ogmios v6,
Kupo and cardano-cli, `render_X` (the service's response for a UTxO — the specification side) and `parse_X`
(a transliteration of what the adapter does with that response).  `WellFormed` is the ledger's domain: 32-byte
transaction id, 28-byte policies, names of at most 32 bytes, unique (policy, name) pairs, no empty policy,
positive quantities, at most one of datum hash / inline datum.  Every theorem is for bundles with any number of
policies and names (induction over the asset lists), including the empty name and several names per policy. -/

namespace Pyc.C20
open Pyc.Backends

/-- all observables the property names agree; assets compared as the map (policy, name) ↦ quantity -/
def Same (u' u : UTxOModel) : Prop :=
  u'.txId = u.txId ∧ u'.index = u.index ∧ u'.address = u.address ∧ u'.coin = u.coin ∧
  (∀ p n, MultiAsset.qty u'.ma p n = MultiAsset.qty u.ma p n) ∧
  u'.datumHash = u.datumHash ∧ u'.datum = u.datum ∧ u'.script = u.script

theorem Same.refl (u : UTxOModel) : Same u u := ⟨rfl, rfl, rfl, rfl, fun _ _ => rfl, rfl, rfl, rfl⟩

/-- Splitting a Blockfrost `unit` — the hex of a 28-byte policy followed by the hex of the name — after 56 hex
characters returns the two parts; and what the adapter does (decode the hex, cut after 28 bytes) yields the
policy and the name, for every name including the empty one. -/
theorem hexSplit_spec (p n : Bytes) (hp : p.length = 28) :
    (hexChars p ++ hexChars n).take 56 = hexChars p ∧ (hexChars p ++ hexChars n).drop 56 = hexChars n ∧
    fromHex (bfUnit p n) = .ok (p ++ n) ∧ (p ++ n).take 28 = p ∧ (p ++ n).drop 28 = n := by
  have hl : (hexChars p).length = 56 := by rw [hexChars_length, hp]
  refine ⟨?_, ?_, ?_, ?_, ?_⟩
  · rw [← hl]; exact List.take_left
  · rw [← hl]; exact List.drop_left
  · simp [fromHex, bfUnit, ofHexList_hexChars_append p (hexChars n) n (ofHexList_hexChars n)]
  · rw [← hp]; exact List.take_left
  · rw [← hp]; exact List.drop_left

/-! ## the five adapters return exactly the reported UTxO -/

/-- Blockfrost: `amount` list with `unit` strings, `data_hash` (also shown for an inline datum), `inline_datum`,
reference script through `/scripts/{hash}`; native and Plutus v1–v3 scripts. -/
theorem parse_render_blockfrost (aux : Aux) (u : UTxOModel) (hw : WellFormed u) (hd : bytesPayload u.datum = true)
    (hs : scriptOK [0, 1, 2, 3] u.script = true) (ha : aux.scriptHash.length = 28) :
    parse_blockfrost u.address (render_blockfrost aux u).2 (render_blockfrost aux u).1 = .ok u := by
  refine parse_blockfrost_members aux u _ hw hd hs ha
    (fun x hx => by simp [render_blockfrost, bfSide, hx, J.lookup]) ?_ ?_ ?_ ?_ ?_ ?_ <;> simp [bfMembers, J.lookup]

/-- Ogmios v5: `{"coins", "assets": {"policy.name" | "policy": q}}`, `datumHash`, `datum`, Plutus v1/v2 script. -/
theorem parse_render_ogmios_v5 (u : UTxOModel) (hw : WellFormed u) (hd : bytesPayload u.datum = true)
    (hs : scriptOK [1, 2] u.script = true) : parse_ogmios_v5 (render_ogmios_v5 u) = .ok u := by
  refine parse_ogmios_v5_members u _ _ hw hd hs ?_ ?_ ?_ ?_ ?_ ?_ ?_ <;> simp [J.lookup]

/-- Ogmios v6: `{"ada": {"lovelace": c}, policy: {name: q}}`, optional `datumHash` / `datum` / `script`; every
script language the service reports: Plutus v1–v3 (`{"language": "plutus:vN", "cbor"}`) and native scripts
(`{"language": "native", "json", "cbor"}`, language `0`, carried as the reported CBOR whatever JSON notation
`aux.nativeJson` accompanies it). -/
theorem parse_render_ogmios_v6 (aux : Aux) (u : UTxOModel) (hw : WellFormed u) (hd : bytesPayload u.datum = true)
    (hs : scriptBytesOK [0, 1, 2, 3] u.script = true) : parse_ogmios_v6 (render_ogmios_v6 aux u) = .ok u := by
  refine parse_ogmios_v6_members aux u hw hd hs ?_ ?_ ?_ ?_ ?_ ?_ ?_ <;>
    simp [J.getN, J.getD, J.lookup, lookup_append, lookup_optMember]
  cases u.datumHash <;> rfl

/-- cardano-cli: `"txid#ix"` key, `{"lovelace": c, policy: {name: q}}`, `datumhash`, inline datum as JSON next to
`inlineDatumhash`, Plutus v1–v3 reference script envelope (`PlutusScriptV1` / `PlutusScriptV2` / `PlutusScriptV3`). -/
theorem parse_render_cardano_cli (aux : Aux) (u : UTxOModel) (hw : WellFormed u) (hd : jsonPayload u.datum = true)
    (hs : scriptOK [1, 2, 3] u.script = true) (ha : aux.inlineHash.length = 32) :
    parse_cardano_cli (render_cardano_cli aux u).1 (render_cardano_cli aux u).2 = .ok u := by
  refine parse_cardano_cli_members aux u hw hd hs ha ?_ ?_ ?_ ?_ ?_ ?_ ?_ <;> simp [cliMembers, J.lookup]

/-- Kupo: `{"coins", "assets": {"policy.name" | "policy": q}}`, `datum_hash` + `datum_type`, datum and script
through `/datums/{h}` and `/scripts/{h}` (Plutus v1–v3).  The returned UTxO is `kupoImage aux u`: everything as
reported, except that an inline datum additionally keeps the hash under which Kupo lists it as `datum_hash`
(`datum_type` is not consulted by the adapter). -/
theorem parse_render_kupo (aux : Aux) (u : UTxOModel) (hw : WellFormed u) (hd : bytesPayload u.datum = true)
    (hs : scriptOK [1, 2, 3] u.script = true) (ha : aux.scriptHash.length = 28)
    (hi : u.datum.isSome → aux.inlineHash.length = 32) (hne : u.datum ≠ some (.bytes aux.inlineHash)) :
    parse_kupo u.address (render_kupo aux u).2 (render_kupo aux u).1 = .ok (some (kupoImage aux u)) := by
  refine parse_kupo_members aux u hw hd hs ha hi hne ?_ ?_ ?_ ?_ ?_ ?_ ?_ <;> simp [kupoMembers, J.lookup]

/-- Kupo, UTxOs without an inline datum: exactly the reported UTxO. -/
theorem parse_render_kupo_no_inline (aux : Aux) (u : UTxOModel) (hw : WellFormed u) (hd : u.datum = none)
    (hs : scriptOK [1, 2, 3] u.script = true) (ha : aux.scriptHash.length = 28) :
    parse_kupo u.address (render_kupo aux u).2 (render_kupo aux u).1 = .ok (some u) := by
  have h := parse_render_kupo aux u hw (by simp [hd, bytesPayload]) hs ha (by simp [hd]) (by simp [hd])
  rw [h]
  have : kupoImage aux u = u := by
    obtain ⟨_, _, _, _, _, dh, d, _⟩ := u
    simp only at hd
    subst hd
    cases dh <;> simp [kupoImage, shownHash]
  rw [this]

/-- a whole Ogmios response (any number of UTxOs, each with what the service shows besides it — a native script's
JSON notation differs from entry to entry): the same UTxOs, in the same order, none dropped or merged; native and
Plutus v1–v3 reference scripts carried over -/
theorem ogmios_v6_response (us : List (Aux × UTxOModel))
    (h : ∀ au ∈ us, WellFormed au.2 ∧ bytesPayload au.2.datum = true ∧
      scriptBytesOK [0, 1, 2, 3] au.2.script = true) :
    parseList parse_ogmios_v6 (us.map fun au => render_ogmios_v6 au.1 au.2) = .ok (us.map fun au => au.2) :=
  parseList_map' _ _ _ us fun au hu => parse_render_ogmios_v6 au.1 au.2 (h au hu).1 (h au hu).2.1 (h au hu).2.2

theorem ogmios_v5_response (us : List UTxOModel)
    (h : ∀ u ∈ us, WellFormed u ∧ bytesPayload u.datum = true ∧ scriptOK [1, 2] u.script = true) :
    parseList parse_ogmios_v5 (us.map render_ogmios_v5) = .ok us :=
  parseList_map _ _ us fun u hu => parse_render_ogmios_v5 u (h u hu).1 (h u hu).2.1 (h u hu).2.2

/-! ## the statement of the property: same reference, address, lovelace, quantity of every asset, datum, script -/

theorem blockfrost_faithful (aux : Aux) (u : UTxOModel) (hw : WellFormed u) (hd : bytesPayload u.datum = true)
    (hs : scriptOK [0, 1, 2, 3] u.script = true) (ha : aux.scriptHash.length = 28) :
    ∃ u', parse_blockfrost u.address (render_blockfrost aux u).2 (render_blockfrost aux u).1 = .ok u' ∧ Same u' u :=
  ⟨u, parse_render_blockfrost aux u hw hd hs ha, Same.refl u⟩

theorem ogmios_v5_faithful (u : UTxOModel) (hw : WellFormed u) (hd : bytesPayload u.datum = true)
    (hs : scriptOK [1, 2] u.script = true) : ∃ u', parse_ogmios_v5 (render_ogmios_v5 u) = .ok u' ∧ Same u' u :=
  ⟨u, parse_render_ogmios_v5 u hw hd hs, Same.refl u⟩

theorem ogmios_v6_faithful (aux : Aux) (u : UTxOModel) (hw : WellFormed u) (hd : bytesPayload u.datum = true)
    (hs : scriptBytesOK [0, 1, 2, 3] u.script = true) :
    ∃ u', parse_ogmios_v6 (render_ogmios_v6 aux u) = .ok u' ∧ Same u' u :=
  ⟨u, parse_render_ogmios_v6 aux u hw hd hs, Same.refl u⟩

theorem cardano_cli_faithful (aux : Aux) (u : UTxOModel) (hw : WellFormed u) (hd : jsonPayload u.datum = true)
    (hs : scriptOK [1, 2, 3] u.script = true) (ha : aux.inlineHash.length = 32) :
    ∃ u', parse_cardano_cli (render_cardano_cli aux u).1 (render_cardano_cli aux u).2 = .ok u' ∧ Same u' u :=
  ⟨u, parse_render_cardano_cli aux u hw hd hs ha, Same.refl u⟩

/-- Kupo: reference, address, lovelace, every asset quantity, inline datum bytes and script are as reported, for
UTxOs with or without an inline datum (the `datum_hash` field is characterised by `parse_render_kupo`). -/
theorem kupo_faithful (aux : Aux) (u : UTxOModel) (hw : WellFormed u) (hd : bytesPayload u.datum = true)
    (hs : scriptOK [1, 2, 3] u.script = true) (ha : aux.scriptHash.length = 28)
    (hi : u.datum.isSome → aux.inlineHash.length = 32) (hne : u.datum ≠ some (.bytes aux.inlineHash)) :
    ∃ u', parse_kupo u.address (render_kupo aux u).2 (render_kupo aux u).1 = .ok (some u') ∧
      u'.txId = u.txId ∧ u'.index = u.index ∧ u'.address = u.address ∧ u'.coin = u.coin ∧
      (∀ p n, MultiAsset.qty u'.ma p n = MultiAsset.qty u.ma p n) ∧ u'.datum = u.datum ∧ u'.script = u.script ∧
      (u.datum = none → u'.datumHash = u.datumHash) :=
  ⟨kupoImage aux u, parse_render_kupo aux u hw hd hs ha hi hne, rfl, rfl, rfl, rfl, fun _ _ => rfl, rfl, rfl, by
    intro h
    cases hh : u.datumHash <;> simp [kupoImage, shownHash, h, hh]⟩

/-! ## nothing merged, dropped or re-attributed — for entries reported in any order -/

/-- Entries with pairwise distinct (policy, name) pairs, accumulated in ANY order (not necessarily grouped by
policy) by the `setdefault(policy, Asset())[name] = q` step all five adapters share: each pair keeps exactly its
own quantity, and no other pair receives anything. -/
theorem no_merge_no_drop (es : List (Bytes × Bytes × Int)) (hd : (es.map entryKey).Nodup) :
    (∀ p n q, (p, n, q) ∈ es → MultiAsset.qty (putAll es []) p n = q) ∧
    (∀ p n, (p, n) ∉ es.map entryKey → MultiAsset.qty (putAll es []) p n = 0) := by
  refine ⟨fun p n q hm => qty_putAll_mem es [] p n q hd hm, fun p n hn => ?_⟩
  rw [qty_putAll_absent es [] p n hn]
  simp [MultiAsset.qty, Dict.getD, Asset.qty]

/-- the Blockfrost `amount` loop on the lovelace item followed by ANY list of asset items (any order, policies
interleaved) accumulates exactly those entries -/
theorem blockfrost_amount_any_order (c : Int) (es : List (Bytes × Bytes × Int))
    (h : ∀ e ∈ es, e.1.length = 28 ∧ e.2.1.length ≤ 32) :
    bfAmount (.obj [("unit", .str "lovelace"), ("quantity", .str (intStr c))] :: es.map bfEntry) (0, [])
      = .ok (c, putAll es []) := by
  simp only [bfAmount, bfItem_lovelace, ok_bind]
  rw [bfAmount_entries _ _ h]

/-- the Kupo / Ogmios v5 `assets` loop on ANY list of `policy.name` / bare-`policy` members -/
theorem dot_assets_any_order (es : List (Bytes × Bytes × Int))
    (h : ∀ e ∈ es, e.1.length = 28 ∧ e.2.1.length ≤ 32) :
    dotAssets (es.map dotEntry) [] = .ok (putAll es []) := dotAssets_entries es [] h

/-- `policy.name` identifiers: the split at the separator returns policy and name; a bare policy is the empty name -/
theorem dotSplit_spec (p n : Bytes) (hp : p.length = 28) (hn : n.length ≤ 32) :
    extractAssetInfo (dotKey p n) = .ok (p, n) := extractAssetInfo_dotKey p n hp hn

/-! ## the two repaired adapters: reference scripts that used to fail the whole address query

Before the repairs in /repo (`fix: restore PlutusV3 reference scripts in the cardano-cli chain context`, `fix: carry
native reference scripts over in the Ogmios v6 chain context`) the Ogmios v6 path raised `ValueError` on a native
script and the cardano-cli path handed a Plutus v3 text envelope to `NativeScript.from_dict` (`KeyError`).  On the
repaired code the statements below hold for every UTxO. -/

/-- Ogmios v6, a native reference script (reported as `{"language": "native", "json": …, "cbor": …}`): the UTxO is
returned with every observable as reported and exactly that script, whatever JSON notation accompanies the CBOR. -/
theorem ogmios_v6_native_script_carried (aux : Aux) (u : UTxOModel) (hw : WellFormed u)
    (hd : bytesPayload u.datum = true) (b : Bytes) (hs : u.script = some ⟨0, .bytes b⟩) :
    ∃ u', parse_ogmios_v6 (render_ogmios_v6 aux u) = .ok u' ∧ Same u' u ∧ u'.script = some ⟨0, .bytes b⟩ :=
  ⟨u, parse_render_ogmios_v6 aux u hw hd (by simp [hs, scriptBytesOK]), Same.refl u, hs⟩

/-- cardano-cli, a Plutus v3 reference script (text envelope `"type": "PlutusScriptV3"`): the UTxO is returned with
every observable as reported and exactly that script. -/
theorem cardano_cli_plutus_v3_script_carried (aux : Aux) (u : UTxOModel) (hw : WellFormed u)
    (hd : jsonPayload u.datum = true) (ha : aux.inlineHash.length = 32) (b : Bytes)
    (hs : u.script = some ⟨3, .bytes b⟩) :
    ∃ u', parse_cardano_cli (render_cardano_cli aux u).1 (render_cardano_cli aux u).2 = .ok u' ∧ Same u' u ∧
      u'.script = some ⟨3, .bytes b⟩ :=
  ⟨u, parse_render_cardano_cli aux u hw hd (by simp [hs, scriptOK]) ha, Same.refl u, hs⟩

/-- the languages the Ogmios v6 path has no branch for are still refused (`ValueError`), not mistaken for a native
or a Plutus script -/
theorem ogmios_v6_unknown_language_refused (lang : String) (rest : List (String × J))
    (h1 : startsPlutusV lang = false) (h2 : lang ≠ "native") :
    v6Script (.obj (("language", .str lang) :: rest)) = .error .value := by
  have hl : (J.obj (("language", .str lang) :: rest)).field "language" = .ok (.str lang) :=
    J.field_of_lookup (by simp [J.lookup])
  simp only [v6Script, J.truthy, List.isEmpty_cons, Bool.not_false, if_true, hl, ok_bind, J.asStr, h1, h2]
  rfl

/-- an ADA-only UTxO carrying a native reference script: `ScriptPubkey` of the key hash `33…33`, as CBOR
`82 00 58 1c 33…33` (the witness of finding KF-C20-ogmios6-native-refscript, fixed in /repo) -/
def nativeWitness : UTxOModel :=
  { txId := List.replicate 32 0xab, index := 0, address := "addr_test1vqqszqgp", coin := 2000000, ma := [],
    datumHash := none, datum := none,
    script := some ⟨0, .bytes ([0x82, 0x00, 0x58, 0x1c] ++ List.replicate 28 0x33)⟩ }

/-- what Ogmios shows besides `nativeWitness`: the script in its own notation -/
def nativeAux : Aux :=
  { inlineHash := List.replicate 32 0, scriptHash := List.replicate 28 0,
    nativeJson := .obj [("clause", .str "signature"), ("from", .str (hexStr (List.replicate 28 0x33)))] }

/-- an ADA-only UTxO carrying a Plutus v3 reference script (the witness of finding KF-C20-cli-plutusv3-refscript,
fixed in /repo) -/
def v3Witness : UTxOModel :=
  { txId := List.replicate 32 0xab, index := 0, address := "addr_test1vqqszqgp", coin := 2000000, ma := [],
    datumHash := none, datum := none, script := some ⟨3, .bytes [0x46, 1, 0, 0, 0x22, 0x24, 0x99]⟩ }

example : parse_ogmios_v6 (render_ogmios_v6 nativeAux nativeWitness) = .ok nativeWitness :=
  parse_render_ogmios_v6 nativeAux nativeWitness (by decide) (by decide) (by decide)

example : parse_cardano_cli (render_cardano_cli nativeAux v3Witness).1 (render_cardano_cli nativeAux v3Witness).2
    = .ok v3Witness :=
  parse_render_cardano_cli nativeAux v3Witness (by decide) (by decide) (by decide) (by decide)

/-! ## where the full statement fails on the code as it is (recorded finding) -/

/-- Kupo lists an inline datum by its hash with `datum_type = "inline"`; the adapter does not consult
`datum_type`, so the UTxO it returns carries the inline datum AND that hash as `datum_hash`, which the reported
output does not have. -/
theorem kupo_inline_datum_gets_datum_hash (aux : Aux) (u : UTxOModel) (hw : WellFormed u)
    (hd : bytesPayload u.datum = true) (hs : scriptOK [1, 2, 3] u.script = true) (ha : aux.scriptHash.length = 28)
    (hi : u.datum.isSome → aux.inlineHash.length = 32) (hne : u.datum ≠ some (.bytes aux.inlineHash))
    (hin : u.datum.isSome) :
    ∃ u', parse_kupo u.address (render_kupo aux u).2 (render_kupo aux u).1 = .ok (some u') ∧
      u'.datum = u.datum ∧ u.datumHash = none ∧ u'.datumHash = some aux.inlineHash := by
  have hdh : u.datumHash = none := by
    rcases hw.datum_cases hd with ⟨_, e⟩ | ⟨_, _, _, e⟩ | ⟨_, _, e, _⟩
    · simp [e] at hin
    · simp [e] at hin
    · exact e
  obtain ⟨d, hd'⟩ := Option.isSome_iff_exists.1 hin
  exact ⟨kupoImage aux u, parse_render_kupo aux u hw hd hs ha hi hne, rfl, hdh, by simp [kupoImage, shownHash, hdh, hd']⟩

/-! ## non-vacuity -/

/-- a concrete UTxO with three assets over two policies — the empty name and two names under one policy — and a
datum hash -/
def sample : UTxOModel :=
  { txId := List.replicate 32 0xab, index := 1, address := "addr_test1vqqszqgp", coin := 1500000,
    ma := [(List.replicate 28 1, [([], 7), ([0x61, 0x62], 9223372036854775808)]), (List.replicate 28 2, [([0xff], 1)])],
    datumHash := some (List.replicate 32 0xcd), datum := none, script := none }

example : WellFormed sample := by decide

example : parse_ogmios_v6 (render_ogmios_v6 nativeAux sample) = .ok sample :=
  parse_render_ogmios_v6 nativeAux sample (by decide) (by decide) (by decide)

example : MultiAsset.qty sample.ma (List.replicate 28 1) [] = 7 ∧
    MultiAsset.qty sample.ma (List.replicate 28 1) [0x61, 0x62] = 9223372036854775808 ∧
    MultiAsset.qty sample.ma (List.replicate 28 2) [] = 0 := by decide

end Pyc.C20

#print axioms Pyc.C20.hexSplit_spec
#print axioms Pyc.C20.parse_render_blockfrost
#print axioms Pyc.C20.parse_render_ogmios_v5
#print axioms Pyc.C20.parse_render_ogmios_v6
#print axioms Pyc.C20.parse_render_cardano_cli
#print axioms Pyc.C20.parse_render_kupo
#print axioms Pyc.C20.parse_render_kupo_no_inline
#print axioms Pyc.C20.blockfrost_faithful
#print axioms Pyc.C20.ogmios_v5_faithful
#print axioms Pyc.C20.ogmios_v6_faithful
#print axioms Pyc.C20.cardano_cli_faithful
#print axioms Pyc.C20.kupo_faithful
#print axioms Pyc.C20.no_merge_no_drop
#print axioms Pyc.C20.blockfrost_amount_any_order
#print axioms Pyc.C20.dot_assets_any_order
#print axioms Pyc.C20.dotSplit_spec
#print axioms Pyc.C20.Same.refl
#print axioms Pyc.C20.ogmios_v6_response
#print axioms Pyc.C20.ogmios_v5_response
#print axioms Pyc.C20.ogmios_v6_native_script_carried
#print axioms Pyc.C20.cardano_cli_plutus_v3_script_carried
#print axioms Pyc.C20.ogmios_v6_unknown_language_refused
#print axioms Pyc.C20.kupo_inline_datum_gets_datum_hash
