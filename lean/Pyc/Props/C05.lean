import Pyc.Proofs.Value

/-! # C05 — value arithmetic is exact component-wise integer arithmetic

Property theorems only.  The model (`Pyc/Model/Value.lean`) transliterates `Asset`, `MultiAsset`, `Value`
of pycardano/transaction.py; `Value.qty v p n` / `v.coin` is the abstraction to "map from asset to integer".
`WF` is the representation invariant of Python dicts (unique keys) — every dict satisfies it. -/

namespace Pyc.C05
open Pyc.Value

/-- sums are exact per asset, over unbounded integers -/
theorem add_exact (a b : Value) (ha : WF a) (hb : WF b) :
    (add a b).coin = a.coin + b.coin ∧ ∀ p n, qty (add a b) p n = qty a p n + qty b p n :=
  ⟨rfl, fun p n => MultiAsset.qty_add a.ma b.ma p n ha hb⟩

/-- differences are exact per asset -/
theorem sub_exact (a b : Value) (ha : WF a) (hb : WF b) :
    (sub a b).coin = a.coin - b.coin ∧ ∀ p n, qty (sub a b) p n = qty a p n - qty b p n :=
  ⟨rfl, fun p n => MultiAsset.qty_sub a.ma b.ma p n ha hb⟩

/-- results never contain zero-quantity entries or empty policies, whatever the operands contain -/
theorem results_normal (a b : Value) : Normal (add a b) ∧ Normal (sub a b) :=
  ⟨MultiAsset.normal_add _ _, MultiAsset.normal_sub _ _⟩

/-- results are again well-formed dicts -/
theorem results_wf (a b : Value) (ha : WF a) : WF (add a b) ∧ WF (sub a b) :=
  ⟨MultiAsset.wf_add _ _ ha, MultiAsset.wf_sub _ _ ha⟩

/-- `==` is component-wise equality of contents (an asset absent on either side counts as 0, a policy absent on either
side as an empty `Asset`) — for ALL operands: no well-formedness or normality hypothesis; repeated keys, empty
policies, stored zeros and negative quantities on either side included.  (`Asset.__eq__` / `MultiAsset.__eq__` compare
over the union of the keys, like the repaired `<=`; before the repair they compared the stored dicts — length, then
entry by entry — so `Value(5, {p: {n: 0}}) != Value(5)`.) -/
theorem eq_iff (a b : Value) :
    eq a b = true ↔ (a.coin = b.coin ∧ ∀ p n, qty a p n = qty b p n) := Value.eq_iff a b

/-- a second name for `eq_iff` -/
theorem eq_componentwise (a b : Value) :
    eq a b = true ↔ (a.coin = b.coin ∧ ∀ p n, qty a p n = qty b p n) := Value.eq_iff a b

/-- `==` is an equivalence relation on all operands -/
theorem eq_refl (a : Value) : eq a a = true := (eq_iff a a).2 ⟨rfl, fun _ _ => rfl⟩
theorem eq_symm (a b : Value) (h : eq a b = true) : eq b a = true := by
  rw [eq_iff] at h ⊢; exact ⟨h.1.symm, fun p n => (h.2 p n).symm⟩
theorem eq_trans (a b c : Value) (h1 : eq a b = true) (h2 : eq b c = true) : eq a c = true := by
  rw [eq_iff] at h1 h2 ⊢; exact ⟨h1.1.trans h2.1, fun p n => (h1.2 p n).trans (h2.2 p n)⟩

/-- the inputs on which `==` was not component-wise before the repair, now answered by content: a stored zero, an empty
policy, both on either side; and a genuine difference is still a difference -/
example : eq ⟨5, [([1], [([2], 0)])]⟩ ⟨5, []⟩ = true ∧ eq ⟨5, []⟩ ⟨5, [([1], [([2], 0)])]⟩ = true := by decide
example : eq ⟨5, [([1], [])]⟩ ⟨5, []⟩ = true ∧ eq ⟨5, [([1], [([2], 3), ([3], 0)])]⟩ ⟨5, [([4], []), ([1], [([2], 3)])]⟩ = true := by
  decide
example : eq ⟨5, [([1], [([2], 3)])]⟩ ⟨5, [([1], [([2], 4)])]⟩ = false ∧ eq ⟨5, [([1], [([2], 3)])]⟩ ⟨5, []⟩ = false ∧
    eq ⟨5, []⟩ ⟨5, [([1], [([2], -1)])]⟩ = false ∧ eq ⟨5, []⟩ ⟨6, []⟩ = false := by decide

/-- `<=` is the component-wise order (an asset absent on either side counts as 0) — for ALL operands: no
well-formedness, normality or sign hypothesis; repeated keys, empty policies, stored zeros and negative quantities
on either side included.  (`Asset.__le__` / `MultiAsset.__le__` compare over the union of the keys; before the
repair they iterated over the keys of the left operand only: KF-C05-le-negative.) -/
theorem le_iff (a b : Value) :
    Value.le a b = true ↔ a.coin ≤ b.coin ∧ ∀ p n, qty a p n ≤ qty b p n := Value.le_iff a b

/-- `<` is `<=` and not `==` — for ALL operands (`Value.__lt__` is exactly that composition) -/
theorem lt_iff_le_ne (a b : Value) :
    Value.lt a b = true ↔ (a.coin ≤ b.coin ∧ ∀ p n, qty a p n ≤ qty b p n) ∧ Value.eq a b = false :=
  Value.lt_iff_le_ne a b

/-- `<` is the strict component-wise order — for ALL operands -/
theorem lt_iff (a b : Value) :
    Value.lt a b = true ↔
      (a.coin ≤ b.coin ∧ ∀ p n, qty a p n ≤ qty b p n) ∧ ¬ (a.coin = b.coin ∧ ∀ p n, qty a p n = qty b p n) :=
  Value.lt_iff a b

/-- … i.e. `≤` everywhere and `<` somewhere -/
theorem lt_iff_strict (a b : Value) :
    Value.lt a b = true ↔
      (a.coin ≤ b.coin ∧ ∀ p n, qty a p n ≤ qty b p n) ∧ (a.coin < b.coin ∨ ∃ p n, qty a p n < qty b p n) := by
  rw [lt_iff a b]
  constructor
  · rintro ⟨hle, hne⟩
    refine ⟨hle, ?_⟩
    by_cases hc : a.coin = b.coin
    · right
      apply Classical.byContradiction
      intro hex
      apply hne
      refine ⟨hc, fun p n => ?_⟩
      have h1 := hle.2 p n
      have h2 : ¬ qty a p n < qty b p n := fun h => hex ⟨p, n, h⟩
      omega
    · left; have := hle.1; omega
  · rintro ⟨hle, hlt⟩
    refine ⟨hle, ?_⟩
    rintro ⟨hc, hq⟩
    rcases hlt with h | ⟨p, n, h⟩
    · omega
    · have := hq p n; omega

/-- the order the selectors and the change calculation rely on: `<=` is reflexive and transitive on all operands -/
theorem le_refl (a : Value) : le a a = true := (le_iff a a).2 ⟨Int.le_refl _, fun _ _ => Int.le_refl _⟩

theorem le_trans (a b c : Value) (h1 : le a b = true) (h2 : le b c = true) : le a c = true := by
  rw [le_iff] at h1 h2 ⊢
  exact ⟨Int.le_trans h1.1 h2.1, fun p n => Int.le_trans (h1.2 p n) (h2.2 p n)⟩

/-- the inputs on which `<=` was not component-wise before the repair (KF-C05-le-negative), now answered correctly:
a negative / a zero quantity stored on the left under a key the right lacks (`Value(0,{p:{n:-5}}) <= Value(0)`,
`Value(0,{p:{n:0}}) <= Value(0)`: True), a negative quantity stored on the right under a key the left lacks
(`Value(0) <= Value(0,{p:{n:-5}})`: False), and the same one level up (an empty policy on the left) -/
example : le ⟨0, [([1], [([2], -5)])]⟩ ⟨0, []⟩ = true := by decide
example : le ⟨0, [([1], [([2], 0)])]⟩ ⟨0, []⟩ = true := by decide
example : le ⟨0, []⟩ ⟨0, [([1], [([2], -5)])]⟩ = false := by decide
example : le ⟨0, [([1], [])]⟩ ⟨0, []⟩ = true := by decide
example : le ⟨0, [([1], [([2], 3)])]⟩ ⟨0, [([1], [([3], -1), ([2], 3)])]⟩ = false := by decide
example : lt ⟨0, [([1], [([2], -5)])]⟩ ⟨0, []⟩ = true ∧ lt ⟨0, []⟩ ⟨0, [([1], [([2], -5)])]⟩ = false := by decide
/-- **the repair changes no answer where pycardano uses `<=` on valid inputs**: on legal dicts of which the left stores
only positive quantities (and no empty policy) and the right only non-negative ones — every value of the ledger, every
request and selected amount of the selectors and of the change calculation on valid inputs — `<=` returns exactly what
the key-directed code before the repair (`Value.leOld`, Proofs/Value.lean) returned -/
theorem le_unchanged_on_positive (a b : Value) (ha : WF a) (hb : WF b)
    (pa : MultiAsset.Pos a.ma) (pb : MultiAsset.NonNeg b.ma) : le a b = leOld a b :=
  Value.le_eq_leOld a b ha hb pa pb

/-- … and outside that region the code before the repair gave the answers recorded as KF-C05-le-negative -/
example : leOld ⟨0, [([1], [([2], -5)])]⟩ ⟨0, []⟩ = false ∧ leOld ⟨0, [([1], [([2], 0)])]⟩ ⟨0, []⟩ = false ∧
    leOld ⟨0, []⟩ ⟨0, [([1], [([2], -5)])]⟩ = true := by decide

/-- on operands that store only positive quantities the answers are those of the old code -/
example : le ⟨1, [([1], [([2], 3)])]⟩ ⟨1, [([1], [([2], 3), ([3], 1)]), ([4], [([2], 9)])]⟩ = true ∧
    le ⟨1, [([1], [([2], 3)])]⟩ ⟨1, [([4], [([2], 9)])]⟩ = false ∧
    le ⟨1, [([1], [([2], 4)])]⟩ ⟨1, [([1], [([2], 3)])]⟩ = false := by decide

private theorem same_eq (x y : Value) (h : Same x y) : eq x y = true := (Value.eq_iff x y).2 h

/-- a + b == b + a -/
theorem add_comm (a b : Value) (ha : WF a) (hb : WF b) : eq (add a b) (add b a) = true := by
  apply same_eq
  refine ⟨?_, fun p n => ?_⟩
  · simp [add, Int.add_comm]
  · rw [(add_exact a b ha hb).2, (add_exact b a hb ha).2, Int.add_comm]

/-- (a + b) + c == a + (b + c) -/
theorem add_assoc (a b c : Value) (ha : WF a) (hb : WF b) (hc : WF c) :
    eq (add (add a b) c) (add a (add b c)) = true := by
  have hab := (results_wf a b ha).1
  have hbc := (results_wf b c hb).1
  apply same_eq
  refine ⟨?_, fun p n => ?_⟩
  · simp [add, Int.add_assoc]
  · rw [(add_exact _ c hab hc).2, (add_exact a b ha hb).2, (add_exact a _ ha hbc).2, (add_exact b c hb hc).2,
      Int.add_assoc]

/-- a + b - b == a  (for every well-formed `a`, normal or not: `==` compares contents) -/
theorem add_sub_cancel (a b : Value) (ha : WF a) (hb : WF b) :
    eq (sub (add a b) b) a = true := by
  have hab := (results_wf a b ha).1
  apply same_eq
  refine ⟨?_, fun p n => ?_⟩
  · simp [add, sub]
  · rw [(sub_exact _ b hab hb).2, (add_exact a b ha hb).2]; omega

/-- a - a == 0 -/
theorem sub_self (a : Value) (ha : WF a) : eq (sub a a) ⟨0, []⟩ = true := by
  apply same_eq
  refine ⟨?_, fun p n => ?_⟩
  · simp [sub]
  · rw [(sub_exact a a ha ha).2]; simp [qty, MultiAsset.qty, Dict.getD, Asset.qty]

/-- non-vacuity: a concrete well-formed, non-normal operand pair with overlapping policies and a
zero-crossing sum satisfies the hypotheses used above -/
example : WF ⟨5, [([1], [([2], 7), ([3], 0)]), ([4], [])]⟩ ∧ WF ⟨1, [([1], [([2], -7)])]⟩ ∧
    add ⟨5, [([1], [([2], 7), ([3], 0)]), ([4], [])]⟩ ⟨1, [([1], [([2], -7)])]⟩ = ⟨6, []⟩ := by decide

end Pyc.C05

#print axioms Pyc.C05.add_exact
#print axioms Pyc.C05.sub_exact
#print axioms Pyc.C05.results_normal
#print axioms Pyc.C05.results_wf
#print axioms Pyc.C05.eq_iff
#print axioms Pyc.C05.eq_componentwise
#print axioms Pyc.C05.eq_refl
#print axioms Pyc.C05.eq_symm
#print axioms Pyc.C05.eq_trans
#print axioms Pyc.C05.le_iff
#print axioms Pyc.C05.lt_iff_le_ne
#print axioms Pyc.C05.lt_iff
#print axioms Pyc.C05.lt_iff_strict
#print axioms Pyc.C05.le_refl
#print axioms Pyc.C05.le_trans
#print axioms Pyc.C05.le_unchanged_on_positive
#print axioms Pyc.C05.add_comm
#print axioms Pyc.C05.add_assoc
#print axioms Pyc.C05.add_sub_cancel
#print axioms Pyc.C05.sub_self
