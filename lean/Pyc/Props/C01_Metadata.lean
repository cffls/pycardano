import Pyc.Proofs.Metadata

/-! # C01 (extension) — transaction metadata and auxiliary data: decode ∘ encode, re-encoding, validation, dispatch

Property theorems only.  Model: `Pyc/Model/Metadata.lean` (`pycardano/metadata.py` with the parts of `serialization.py` it
runs through); lemmas: `Pyc/Proofs/Metadata.lean`; tied to /repo by `harness/checks/c01_ext_metadata.py` (driver ops `md.*`).
Native scripts inside auxiliary data are a leaf codec `L` assumed lawful (`L.dec (L.enc n) = ok n`), Plutus scripts are
byte strings.  No theorem bounds depth, width or the size of integers. -/

namespace Pyc.C01.Metadata
open Pyc.Cbor Pyc.Codec Pyc.Custom Pyc.Metadata

/-! ## metadatum values -/

/-- **every metadatum tree survives cbor2**: integers of either sign and ANY size (bignum tags beyond 64 bits), booleans,
byte and text strings of any length, lists and maps (keys of any metadatum kind) nested to any depth -/
theorem metadatum_roundtrip (v : Md) (h : plainV v = true) : mdOfItem (itemMd v) = v := mdOfItem_itemMd v h

/-! ## `Metadata._validate` -/

/-- **validation accepts exactly `Accepted`**: leaves reached through list items and map VALUES are integers / booleans or
strings of at most 64 bytes (text measured in UTF-8 bytes: `Md.text` holds the encoded string) -/
theorem validation_exact (v : Md) : validV v = true ↔ Accepted v := validV_iff v

/-- the constructor `Metadata(d)` succeeds iff every key of `d` is an `int` and every value is `Accepted` -/
theorem constructor_exact (kvs : List (Md × Md)) :
    (mkMetadata kvs).isSome = true ↔ ∀ p ∈ kvs, (∃ l, p.1 = .int l) ∧ Accepted p.2 := by
  rw [mkMetadata_some_iff, validateArgs_iff]

/-- **the keys of a nested map are never validated**: whatever the key, the verdict is that of the value -/
theorem validation_ignores_nested_keys (k v : Md) : validV (.map [(k, v)]) = validV v := by
  simp [validV, validP]

/-- what the ledger demands and the code does not: the goal "every accepted value is a `transaction_metadatum`" is FALSE -/
def validation_sound_goal : Prop := ∀ v : Md, validV v = true → specOkV v = true

/-- … but everything in the CDDL ranges is accepted (the check never refuses valid metadata) -/
theorem validation_complete_for_spec (v : Md) (h : specOkV v = true) : validV v = true := ((specOkV_iff v).1 h).1

/-- the partial result: what is accepted is a `transaction_metadatum` as soon as the parts `_validate` does not look at are
in range (`extraV`: 64-bit integers, no booleans, every map key a `transaction_metadatum`) -/
theorem validation_sound_partial (v : Md) (h : validV v = true) (he : extraV v = true) : specOkV v = true :=
  (specOkV_iff v).2 ⟨h, he⟩

/-- witnesses: a `True` value, an integer beyond 64 bits, a 65-byte key of a nested map -/
theorem validation_sound_counterexample : ¬ validation_sound_goal := by
  intro h
  have := h (.map [(.text (List.replicate 65 120), .int 1)]) (by decide)
  revert this
  decide

/-- **decoding does not validate**: `Metadata.from_cbor` returns an object the constructor refuses (here: a 65-byte text) -/
theorem decode_skips_validation :
    ∃ b m, decMetadataBytes b = .ok m ∧ validate m = false := by
  have hb : (match decMetadataBytes (encMetadata [(1, .text (List.replicate 65 120))]) with
      | .ok m => !validate m
      | _ => false) = true := by decide +kernel
  cases h : decMetadataBytes (encMetadata [(1, .text (List.replicate 65 120))]) with
  | ok m => rw [h] at hb; exact ⟨_, m, h, by simpa using hb⟩
  | deser => rw [h] at hb; simp at hb
  | crash => rw [h] at hb; simp at hb

/-! ## `Metadata` -/

/-- **decode ∘ encode** for every label map a Python dict can hold (distinct labels — of either sign and any size) whose
values have no foreign leaves: the result is the map in canonical (wire) order -/
theorem metadata_roundtrip (m : Metadata) (h : MetaOk m) : decMetadata (itemMetadata m) = .ok (canonSortInt m) :=
  decMetadata_itemMetadata m h.1 h.2

/-- **Python `==`** on `DictCBORSerializable` compares the dicts, and dict equality ignores insertion order: the decoded
object holds exactly the entries of the original -/
theorem metadata_roundtrip_pyeq (m : Metadata) (h : MetaOk m) :
    ∃ m', decMetadata (itemMetadata m) = .ok m' ∧ m'.Perm m :=
  ⟨_, metadata_roundtrip m h, canonSortInt_perm m⟩

/-- … at the byte level (`Metadata.from_cbor(m.to_cbor())`), for CBOR-representable sizes -/
theorem metadata_roundtrip_bytes (m : Metadata) (h : MetaOk m) (hw : Cbor.WF (itemMetadata m)) :
    decMetadataBytes (encMetadata m) = .ok (canonSortInt m) := by
  simp only [decMetadataBytes, encMetadata, decodeAll_encode _ hw, metadata_roundtrip m h]

/-- **re-encoding the decoded object gives the same item** — for EVERY label map (no hypothesis) -/
theorem metadata_reencode (m : Metadata) : itemMetadata (canonSortInt m) = itemMetadata m := itemMetadata_canon m

/-- **the bytes do not depend on insertion order**: the same entries in another order are written identically -/
theorem metadata_order_independent (m₁ m₂ : Metadata) (hd : (labels m₁).Nodup) (hw : LabelsWF m₁) (hp : m₁.Perm m₂) :
    encMetadata m₁ = encMetadata m₂ := by
  simp only [encMetadata, itemMetadata_perm m₁ m₂ hd hw hp]

/-- … in particular for all labels of at most 64 bits -/
theorem metadata_order_independent_64 (m₁ m₂ : Metadata) (hd : (labels m₁).Nodup)
    (h64 : ∀ p ∈ m₁, -(2^64 : Int) ≤ p.1 ∧ p.1 < 2^64) (hp : m₁.Perm m₂) : encMetadata m₁ = encMetadata m₂ :=
  metadata_order_independent m₁ m₂ hd (labelsWF_of_64 m₁ h64) hp

/-- the emitted labels are sorted by `(len(cbor(label)), cbor(label))` -/
theorem metadata_sorted (m : Metadata) :
    ∃ l : Metadata, itemMetadata m = .map (l.map (fun p => (ofInt p.1, itemMd p.2))) ∧ l.Perm m ∧
      l.Pairwise (fun a b => lenLexLe (encode (ofInt a.1)) (encode (ofInt b.1)) = true) :=
  ⟨canonSortInt m, rfl, canonSortInt_perm m, canonSortInt_sorted m⟩

/-! ## the three eras -/

variable {N : Type}

/-- **`ShelleyMarryMetadata(metadata, native_scripts)`** with a script list (empty or not) -/
theorem shelley_ma_roundtrip (L : Leaf N) (hL : L.Lawful) (m : Metadata) (ns : List N) (h : MetaOk m) :
    decShelleyMa L (itemShelleyMa L ⟨m, some ns⟩) = .ok ⟨canonSortInt m, some ns⟩ :=
  decShelleyMa_item_some L hL m ns h

/-- **`ShelleyMarryMetadata(metadata)`** — `native_scripts` not given: `__post_init__` makes it the empty list, which is
written `[metadata, []]` and decodes to the constructed object -/
theorem shelley_ma_default_roundtrip (L : Leaf N) (hL : L.Lawful) (m : Metadata) (h : MetaOk m) :
    normShelleyMa ⟨m, Option.none⟩ = (⟨m, some []⟩ : ShelleyMa N) ∧
    itemShelleyMa L (normShelleyMa ⟨m, Option.none⟩) = .array [itemMetadata m, .array []] ∧
    decShelleyMa L (itemShelleyMa L (normShelleyMa ⟨m, Option.none⟩)) = .ok ⟨canonSortInt m, some []⟩ :=
  ⟨rfl, rfl, decShelleyMa_item_some L hL m [] h⟩

/-- the one-item array `[metadata]` (never written by the library) is accepted: the constructor fills in the empty list -/
theorem shelley_ma_one_item_decodes (L : Leaf N) (m : Metadata) (h : MetaOk m) :
    decShelleyMa L (.array [itemMetadata m]) = .ok ⟨canonSortInt m, some []⟩ := by
  simp [decShelleyMa, listElems?, decMetadata_itemMetadata m h.1 h.2, Res.bind, normShelleyMa]

/-- a FOREIGN `[metadata, null]` — which is also what an object whose `native_scripts` was set to `None` AFTER construction
writes — still raises (`TypeError`: the hook iterates `None`), as a class and through `AuxiliaryData`; no constructed or
decoded object reaches this (`aux_norm_constructed`, `aux_decoded_constructed`) -/
theorem shelley_ma_foreign_null_crashes (L : Leaf N) (m : Metadata) (h : MetaOk m) :
    itemShelleyMa L ⟨m, Option.none⟩ = .array [itemMetadata m, .simple 22] ∧
    decShelleyMa L (.array [itemMetadata m, .simple 22]) = .crash ∧
    decAux L (.array [itemMetadata m, .simple 22]) = .crash :=
  ⟨rfl, decShelleyMa_item_none L m h, by
    show decAux L (itemShelleyMa L ⟨m, Option.none⟩) = .crash
    simp only [decAux, decAlonzo_itemShelleyMa, decShelleyMa_item_none L m h]⟩

/-- **`AlonzoMetadata`** with EVERY subset of its five optional fields (the structure quantifies over all 32) -/
theorem alonzo_roundtrip (L : Leaf N) (hL : L.Lawful) (a : Alonzo N) (h : AlonzoOk a) :
    decAlonzo L (itemAlonzo L a) = .ok { a with metadata := a.metadata.map canonSortInt } :=
  decAlonzo_itemAlonzo L hL a h

/-- the wire form of the Alonzo era: tag 259 around a map whose keys are exactly the fields that are set, ascending -/
theorem alonzo_shape (L : Leaf N) (a : Alonzo N) :
    ∃ kvs, itemAlonzo L a = .tag 259 (.map kvs) ∧
      kvs.map (·.1) = ((if a.metadata.isSome then [Item.uint 0] else []) ++ (if a.native.isSome then [Item.uint 1] else []) ++
        (if a.v1.isSome then [Item.uint 2] else []) ++ (if a.v2.isSome then [Item.uint 3] else []) ++
        (if a.v3.isSome then [Item.uint 4] else [])) := by
  refine ⟨_, rfl, ?_⟩
  simp only [alonzoFields, List.map_append, optField_keys, Option.isSome_map, List.append_assoc]

/-! ## `AuxiliaryData` -/

/-- **decode ∘ encode, FULL** — for EVERY auxiliary data object the constructors can be asked for (`normAux a`: what they
make of their arguments; `AuxOk`: distinct labels, no foreign leaves): the three eras, every subset of the Alonzo fields, the
Shelley-MA form with or without a script list.  The result is the constructed object with every label map in canonical order -/
theorem aux_roundtrip (L : Leaf N) (hL : L.Lawful) (a : Aux N) (h : AuxOk a) :
    decAux L (itemAux L (normAux a)) = .ok (canonAux (normAux a)) :=
  decAux_itemAux L hL (normAux a) (by cases a <;> exact h) (constructed_normAux a)

/-- … the same for any object that IS constructed (the Shelley-MA form holds a list) -/
theorem aux_roundtrip_constructed (L : Leaf N) (hL : L.Lawful) (a : Aux N) (h : AuxOk a) (hc : Constructed a) :
    decAux L (itemAux L a) = .ok (canonAux a) := decAux_itemAux L hL a h hc

/-- the constructor's normalisation is idempotent, its results are constructed objects and fixed points, and so is what the
decoder returns -/
theorem aux_norm_idempotent (a : Aux N) : normAux (normAux a) = normAux a := by cases a <;> rfl
theorem aux_norm_constructed (a : Aux N) : Constructed (normAux a) := constructed_normAux a
theorem aux_norm_fixed (a : Aux N) (h : Constructed a) : normAux a = a := by
  cases a with
  | shelley m => rfl
  | alonzo b => rfl
  | shelleyMa s =>
    obtain ⟨m, ns⟩ := s
    cases ns with
    | none => cases h
    | some ns => rfl
theorem aux_decoded_constructed (a : Aux N) : Constructed (canonAux (normAux a)) := by
  cases a <;> rfl

/-- a lawful leaf for the examples: a native script is a natural number -/
def natLeaf : Leaf Nat := ⟨fun n => .uint n, fun i => match i with | .uint n => .ok n | _ => .deser⟩
theorem natLeaf_lawful : natLeaf.Lawful := ⟨fun _ => rfl⟩

/-- … at the byte level -/
theorem aux_roundtrip_bytes (L : Leaf N) (hL : L.Lawful) (a : Aux N) (h : AuxOk a)
    (hw : Cbor.WF (itemAux L (normAux a))) : decAuxBytes L (encAux L (normAux a)) = .ok (canonAux (normAux a)) := by
  simp only [decAuxBytes, encAux, decodeAll_encode _ hw, aux_roundtrip L hL a h]

/-- **the dispatch is unambiguous**: on the image of the encoder each of the three decoders refuses
(`DeserializeException`) the forms of the other two eras, so the order in which `AuxiliaryData.from_primitive` tries them
does not matter, and each form decodes as itself -/
theorem aux_dispatch_exclusive (L : Leaf N) (m : Metadata) (s : ShelleyMa N) (a : Alonzo N) :
    decAlonzo L (itemMetadata m) = .deser ∧ decAlonzo L (itemShelleyMa L s) = .deser ∧
    decShelleyMa L (itemMetadata m) = .deser ∧ decShelleyMa L (itemAlonzo L a) = .deser ∧
    decMetadata (itemShelleyMa L s) = .deser ∧ decMetadata (itemAlonzo L a) = .deser :=
  ⟨rfl, rfl, rfl, rfl, rfl, rfl⟩

theorem aux_decodes_as_itself (L : Leaf N) (hL : L.Lawful) (a : Aux N) (h : AuxOk a) :
    ∃ a', decAux L (itemAux L (normAux a)) = .ok a' ∧
      (match a, a' with
        | .shelley _, .shelley _ => True
        | .shelleyMa _, .shelleyMa _ => True
        | .alonzo _, .alonzo _ => True
        | _, _ => False) := by
  refine ⟨canonAux (normAux a), aux_roundtrip L hL a h, ?_⟩
  cases a <;> simp [canonAux, normAux]

/-- **re-encoding the decoded object gives the same item** — for EVERY auxiliary data object -/
theorem aux_reencode (L : Leaf N) (a : Aux N) : encAux L (canonAux a) = encAux L a := by
  simp only [encAux, itemAux_canonAux]

/-- **same content ⇒ same bytes**: label maps that are permutations of each other -/
theorem aux_order_independent (L : Leaf N) (a₁ a₂ : Aux N) (h : AuxOk a₁) (hw : AuxLabelsWF a₁) (hp : PermAux a₁ a₂) :
    encAux L a₁ = encAux L a₂ := by
  simp only [encAux, itemAux_perm L a₁ a₂ h hw hp]

/-- the last field of a `Transaction` (`Optional[AuxiliaryData]`): `None` and every constructible object survive -/
theorem opt_aux_roundtrip (L : Leaf N) (hL : L.Lawful) (o : Option (Aux N)) (h : ∀ a, o = some a → AuxOk a) :
    decOptAux L (itemOptAux L (o.map normAux)) = .ok (o.map (fun a => canonAux (normAux a))) := by
  cases o with
  | none => rfl
  | some a => simp [itemOptAux, decOptAux, aux_roundtrip L hL a (h a rfl)]

/-! ## non-vacuity -/

/-- nesting, a bignum, a negative bignum, the 64-bit boundaries, 64-byte strings (32 two-byte characters), empty and
nested collections, map keys of several kinds -/
def exMd : Md :=
  .map [(.text [107], .list [.int 0, .int (-1), .int 18446744073709551615, .int 18446744073709551616,
           .int (-18446744073709551617), .int 3541774862152233910272]),
        (.int 7, .bytes (List.replicate 64 9)),
        (.bytes [1, 2], .text (List.replicate 32 195 |>.flatMap (fun c => [c, 169]))),
        (.list [.int 1, .int 2], .map [(.map [(.int 1, .int 2)], .list [])]),
        (.bool true, .bool false)]

/-- a value meeting the hypotheses of `validation_sound_partial` -/
def C02ex : Md := .map [(.text [107], .list [.int (-18446744073709551616), .bytes (List.replicate 64 1)]), (.list [.int 1], .text [])]

/-- labels whose length-first order differs from numeric insertion order, 0 / 23 / 24 / 2^32 / 2^64-1 / 2^64 / negative -/
def exMeta : Metadata :=
  [(4294967296, exMd), (24, .text []), (0, .int 5), (18446744073709551616, .list []), (23, .map []),
   (18446744073709551615, .bytes []), (-1, .int 0)]

theorem exMeta_ok : MetaOk exMeta := okM_sound _ (by decide +kernel)

example : plainV exMd = true ∧ validV exMd = true := by decide +kernel
example : validV C02ex = true ∧ extraV C02ex = true := by decide +kernel
example : decMetadata (itemMetadata exMeta) = .ok (canonSortInt exMeta) := metadata_roundtrip exMeta exMeta_ok
example : (canonSortInt exMeta).map (·.1) = [0, 23, -1, 24, 4294967296, 18446744073709551615, 18446744073709551616] := by
  decide +kernel
-- the kernel evaluates encoder, CBOR decoder and restoration: all seven labels come back in wire order, re-encoding
-- reproduces the bytes, and the reversed insertion order is written identically
example :
    (match decMetadataBytes (encMetadata exMeta) with
      | .ok m => m.map (·.1) == (canonSortInt exMeta).map (·.1) && encMetadata m == encMetadata exMeta &&
          encMetadata exMeta.reverse == encMetadata exMeta && validate m
      | _ => false) = true := by decide +kernel

def exAlonzo : Alonzo Nat := { metadata := some exMeta, native := some [3, 4], v2 := some [[1, 2, 3], []], v3 := some [] }
def exAuxes : List (Aux Nat) :=
  [.shelley exMeta, .shelleyMa ⟨exMeta, some [7]⟩, .shelleyMa ⟨[], some []⟩, .shelleyMa ⟨exMeta, Option.none⟩,
   .alonzo exAlonzo, .alonzo {}, .alonzo { v1 := some [[9]] }]

example : exAuxes.all auxOkB = true := by decide +kernel
example :
    exAuxes.all (fun a => match decAuxBytes natLeaf (encAux natLeaf (normAux a)) with
      | .ok a' => encAux natLeaf a' == encAux natLeaf (normAux a) && constructedB a' &&
          (match a, a' with
            | .shelley _, .shelley _ => true | .shelleyMa _, .shelleyMa _ => true | .alonzo _, .alonzo _ => true
            | _, _ => false)
      | _ => false) = true := by decide +kernel
-- `ShelleyMarryMetadata(Metadata())` is `82 a0 80`: since 68fc5c3 the constructor fills in the empty script list
example : encAux natLeaf (normAux (.shelleyMa ⟨[], Option.none⟩)) = [0x82, 0xa0, 0x80] := by decide +kernel
-- the foreign stream `82 a0 f6` (null where the list is prescribed) still raises, `81 a0` is completed by the constructor
example : (match decAuxBytes natLeaf [0x82, 0xa0, 0xf6] with | .crash => true | _ => false) = true ∧
    (match decAuxBytes natLeaf [0x81, 0xa0] with | .ok (.shelleyMa ⟨[], some []⟩) => true | _ => false) = true := by
  decide +kernel
-- the empty-metadata / empty-list stream `82 a0 80` is the Shelley-MA form, not a label map
example : (match decAuxBytes natLeaf [0x82, 0xa0, 0x80] with | .ok (.shelleyMa ⟨[], some []⟩) => true | _ => false) = true := by
  decide +kernel
-- the two other witnesses of `validation_sound_counterexample`
example : validV (.bool true) = true ∧ specOkV (.bool true) = false ∧
    validV (.int 18446744073709551616) = true ∧ specOkV (.int 18446744073709551616) = false := by decide

end Pyc.C01.Metadata

#print axioms Pyc.C01.Metadata.metadatum_roundtrip
#print axioms Pyc.C01.Metadata.validation_exact
#print axioms Pyc.C01.Metadata.constructor_exact
#print axioms Pyc.C01.Metadata.validation_ignores_nested_keys
#print axioms Pyc.C01.Metadata.validation_complete_for_spec
#print axioms Pyc.C01.Metadata.validation_sound_partial
#print axioms Pyc.C01.Metadata.validation_sound_counterexample
#print axioms Pyc.C01.Metadata.decode_skips_validation
#print axioms Pyc.C01.Metadata.metadata_roundtrip
#print axioms Pyc.C01.Metadata.metadata_roundtrip_pyeq
#print axioms Pyc.C01.Metadata.metadata_roundtrip_bytes
#print axioms Pyc.C01.Metadata.metadata_reencode
#print axioms Pyc.C01.Metadata.metadata_order_independent
#print axioms Pyc.C01.Metadata.metadata_order_independent_64
#print axioms Pyc.C01.Metadata.metadata_sorted
#print axioms Pyc.C01.Metadata.shelley_ma_roundtrip
#print axioms Pyc.C01.Metadata.shelley_ma_default_roundtrip
#print axioms Pyc.C01.Metadata.shelley_ma_one_item_decodes
#print axioms Pyc.C01.Metadata.shelley_ma_foreign_null_crashes
#print axioms Pyc.C01.Metadata.alonzo_roundtrip
#print axioms Pyc.C01.Metadata.alonzo_shape
#print axioms Pyc.C01.Metadata.aux_roundtrip
#print axioms Pyc.C01.Metadata.aux_roundtrip_constructed
#print axioms Pyc.C01.Metadata.aux_norm_idempotent
#print axioms Pyc.C01.Metadata.aux_norm_constructed
#print axioms Pyc.C01.Metadata.aux_norm_fixed
#print axioms Pyc.C01.Metadata.aux_decoded_constructed
#print axioms Pyc.C01.Metadata.natLeaf_lawful
#print axioms Pyc.C01.Metadata.aux_roundtrip_bytes
#print axioms Pyc.C01.Metadata.aux_dispatch_exclusive
#print axioms Pyc.C01.Metadata.aux_decodes_as_itself
#print axioms Pyc.C01.Metadata.aux_reencode
#print axioms Pyc.C01.Metadata.aux_order_independent
#print axioms Pyc.C01.Metadata.opt_aux_roundtrip
#print axioms Pyc.C01.Metadata.exMeta_ok
