import Pyc.Proofs.Metadata
import Pyc.Props.C17

/-! # C17 (extension) — the auxiliary-data hash is the BLAKE2b-256 digest of exactly the bytes `AuxiliaryData.to_cbor()` writes

Property theorems only.  The hash function `H : Nat → Bytes → Bytes` is a universally quantified parameter, as in
`Props/C17.lean`; there the auxiliary data is an arbitrary item, here it is the item the modelled serializer
(`Model/Metadata.lean`) produces for an `AuxiliaryData` object. -/

namespace Pyc.C17.Metadata
open Pyc.Cbor Pyc.Custom Pyc.Metadata Pyc.Ids

variable {N : Type}

/-- **the preimage**: `AuxiliaryData.hash()` is `H 32` of `encode (toItem aux)` — the bytes of `to_cbor()`, nothing else -/
theorem aux_hash_preimage (H : Nat → Bytes → Bytes) (L : Leaf N) (a : Aux N) :
    (auxHashId L a).len = 32 ∧ (auxHashId L a).pre = encAux L a ∧ auxHash H L a = H 32 (encAux L a) :=
  ⟨rfl, rfl, rfl⟩

/-- … which is the identifier the specification (`Spec/Ids.lean`: BLAKE2b-256 over the serialized auxiliary data) assigns -/
theorem aux_hash_spec (L : Leaf N) (a : Aux N) : auxHashId L a = Spec.Ids.idOf (.auxData (itemAux L a)) := by
  have h32 : Spec.Ids.octets Spec.Ids.HASH = 32 := by decide
  simp only [auxHashId, auxId, Spec.Ids.idOf, AUXILIARY_DATA_HASH_SIZE, h32]

/-- **the builder**: in the transaction `TransactionBuilder` ships, body key 7 is present iff auxiliary data is shipped, and
it is the hash (32, `to_cbor()`) of the very object in the transaction's last position -/
theorem aux_hash_in_built_tx (H : Nat → Bytes → Bytes) (L : Leaf N) (r : BodyRest) (ws : Item) (aux : Option (Aux N))
    (hb : lookupKey 7 r.before = none) (ha : lookupKey 7 r.after = none) :
    ∃ kvs, txParts (buildTx H r ws (aux.map (itemAux L))) = some (.map kvs, ws, .simple 21, itemOptAux L aux) ∧
      (aux = none → lookupKey 7 kvs = none) ∧
      (∀ a, aux = some a → lookupKey 7 kvs = some (.bytes (auxHash H L a))) := by
  obtain ⟨kvs, shipped, h1, h2, h3⟩ := C17.aux_hash_shipped H r ws (aux.map (itemAux L)) hb ha (by
    intro x hx
    cases aux with
    | none => cases hx
    | some a => cases hx; cases a <;> rfl)
  cases aux with
  | none =>
    have hs : shipped = .simple 22 := by
      simp only [Option.map, buildTx, txParts] at h1
      exact ((Prod.mk.inj (Prod.mk.inj (Prod.mk.inj (Option.some.inj h1)).2).2).2).symm
    subst hs
    exact ⟨kvs, h1, fun _ => (h2 rfl).2, fun a ha => by cases ha⟩
  | some a =>
    have hs : shipped = itemAux L a := by
      simp only [Option.map, buildTx, txParts] at h1
      exact ((Prod.mk.inj (Prod.mk.inj (Prod.mk.inj (Option.some.inj h1)).2).2).2).symm
    subst hs
    have hn : isNull (itemAux L a) = false := by cases a <;> rfl
    refine ⟨kvs, h1, (fun h => by cases h), ?_⟩
    intro a' ha'
    cases ha'
    exact (h3 hn).2.1

/-- **decoding does not change the hash**: the decoded object (label maps in wire order) hashes to the same digest -/
theorem aux_hash_decoded (H : Nat → Bytes → Bytes) (L : Leaf N) (a : Aux N) : auxHash H L (canonAux a) = auxHash H L a := by
  simp only [auxHash, auxHashId, itemAux_canonAux]

/-- **insertion order of the labels does not change the hash** -/
theorem aux_hash_order_independent (H : Nat → Bytes → Bytes) (L : Leaf N) (a₁ a₂ : Aux N) (h : AuxOk a₁)
    (hw : AuxLabelsWF a₁) (hp : PermAux a₁ a₂) : auxHash H L a₁ = auxHash H L a₂ := by
  simp only [auxHash, auxHashId, itemAux_perm L a₁ a₂ h hw hp]

/-- different (CBOR-representable) serializations have different preimages: for an `H` that does not collide on them the
hashes differ -/
theorem aux_hash_binds (H : Nat → Bytes → Bytes) (L : Leaf N) (a₁ a₂ : Aux N) (h1 : Cbor.WF (itemAux L a₁))
    (h2 : Cbor.WF (itemAux L a₂)) (hne : itemAux L a₁ ≠ itemAux L a₂)
    (hc : C17.NoCollision H 32 (encAux L a₁) (encAux L a₂)) : auxHash H L a₁ ≠ auxHash H L a₂ := by
  intro he
  exact hne (Cbor.encode_inj h1 h2 (hc he))

/-! ## non-vacuity -/

def natLeaf : Leaf Nat := ⟨fun n => .uint n, fun i => match i with | .uint n => .ok n | _ => .deser⟩

def exMeta : Metadata := [(674, .map [(.text [109, 115, 103], .list [.text [104, 105]])]), (0, .int (-5))]
def exAux : Aux Nat := .alonzo { metadata := some exMeta, native := some [3] }

-- the preimage, byte by byte: d9 0103 a2 00 a2 00 24 19 02a2 a1 63 6d7367 81 62 6869 01 81 03
example : (auxHashId natLeaf exAux).pre =
    [0xd9, 0x01, 0x03, 0xa2, 0x00, 0xa2, 0x00, 0x24, 0x19, 0x02, 0xa2, 0xa1, 0x63, 0x6d, 0x73, 0x67, 0x81, 0x62, 0x68, 0x69,
     0x01, 0x81, 0x03] := by decide +kernel
example : lookupKey 7 [(Item.uint 0, Item.array []), (.uint 1, .array []), (.uint 2, .uint 170000)] = none ∧
    lookupKey 7 [(Item.uint 9, Item.map [])] = none := by decide
-- a body built around it carries, under key 7, the digest (here `H` = identity) of the bytes shipped in the last position
example :
    (match txParts (buildTx (fun _ b => b) ⟨[(.uint 2, .uint 5)], []⟩ (.map []) ((some exAux).map (itemAux natLeaf))) with
      | some (.map kvs, _, _, shipped) =>
        (match lookupKey 7 kvs with
          | some (.bytes b) => b == encode shipped && b == encAux natLeaf exAux
          | _ => false)
      | _ => false) = true := by decide +kernel

end Pyc.C17.Metadata

#print axioms Pyc.C17.Metadata.aux_hash_preimage
#print axioms Pyc.C17.Metadata.aux_hash_spec
#print axioms Pyc.C17.Metadata.aux_hash_in_built_tx
#print axioms Pyc.C17.Metadata.aux_hash_decoded
#print axioms Pyc.C17.Metadata.aux_hash_order_independent
#print axioms Pyc.C17.Metadata.aux_hash_binds
