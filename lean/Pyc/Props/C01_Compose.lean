import Pyc.Proofs.Compose
import Pyc.Props.C01
import Pyc.Props.C01_Leaves
import Pyc.Props.C01_NativeScript
import Pyc.Props.C01_Gov
import Pyc.Props.C01_Pool
import Pyc.Props.C01_Metadata
import Pyc.Props.C01_WitnessCodec

/-! # C01 (extension) — the table-driven codec COMPOSED with the hand-modelled leaf codecs

`codec_roundtrip` (Props/C01.lean) carries every class with hand-written codec code as an opaque primitive that the
model never refuses; the leaves have their own round-trip theorems (`cred_roundtrip`, `ns_roundtrip`,
`output_roundtrip_closed`, …).  That a table-driven parent with modelled leaves round-trips AS A WHOLE is one theorem:

* `fromPrimL S L` (Model/ComposeCore.lean) is `fromPrim S` in which a class with its own codec — and an `object_hook` field —
  is restored by the leaf's item normaliser `L n` = "`from_primitive`, then `to_primitive` of the result"; a leaf's
  `DeserializeException` moves an enclosing `Union` on, any other exception aborts, as in `_restore_typed_primitive`;
* `compose_conservative`: with no leaf modelled it IS `fromPrim`;
* `compose_roundtrip`: for every table `S`, every leaf environment `L` and every value typed by `HasTypeL S L` (= `HasType`
  with the rule for a class with its own codec strengthened to "the primitive is a fixed point of the leaf's normaliser",
  and the union side condition stated for `fromPrimL`): decoding the encoding returns the value;
* `leaf_fixed_*`: per modelled leaf the fixed-point premise is a corollary of the leaf's own round-trip theorem;
* on the REAL regenerated table with the REAL leaves: `utxo_roundtrip` (every well-formed output: any address kind, native
  reference scripts of any depth) and a concrete transaction body with outputs, certificates (also one declared AFTER
  `PoolRegistration` in the certificate union, which the leaf-blind model could not type), a collateral return and a mint. -/

namespace Pyc.C01.Compose
open Pyc.Cbor Pyc.Schema Pyc.Codec Pyc.Custom Pyc.Compose Pyc.Generated

/-- **conservativity**: without modelled leaves the composed restoration is the generic one -/
theorem compose_conservative (S : List ClassDef) : fromPrimL S noLeaves = fromPrim S := fromPrimL_noLeaves S

/-- fuel only ever turns an out-of-fuel crash into the real answer: an answer other than `crash` persists -/
theorem compose_fuel_monotone (S : List ClassDef) (L : LeafEnv) (t : Ty) (i : Item) (n m : Nat) (r : Res Val)
    (h : fromPrimL S L n t i = r) (hr : r ≠ .crash) (hm : n ≤ m) : fromPrimL S L m t i = r :=
  fromPrimL_mono S L t i n m r h hr hm

/-- **THE COMPOSED ROUND TRIP** (any table, any leaf environment, any typed value, any size and nesting):
decode ∘ encode = id, the leaves' own decoders included -/
theorem compose_roundtrip (S : List ClassDef) (L : LeafEnv) (t : Ty) (v : Val) (h : HasTypeL S L t v) :
    ∃ N, ∀ fuel, N ≤ fuel → fromPrimL S L fuel t (toPrim S v) = .ok v := rt_allL h

/-- … and serializing the decoded object again yields the same bytes -/
theorem compose_reencode (S : List ClassDef) (L : LeafEnv) (t : Ty) (v : Val) (h : HasTypeL S L t v) :
    ∃ N, ∀ fuel, N ≤ fuel → ∃ v', fromPrimL S L fuel t (toPrim S v) = .ok v' ∧ encodeVal S v' = encodeVal S v := by
  obtain ⟨N, hN⟩ := rt_allL h
  exact ⟨N, fun fuel hf => ⟨v, hN fuel hf, rfl⟩⟩

/-- soundness of the executable typing check (union side conditions and leaf fixed points decided by evaluation) -/
theorem compose_typed_check_sound (S : List ClassDef) (L : LeafEnv) (fuel : Nat) (t : Ty) (v : Val)
    (h : typedBL S L fuel t v = true) : HasTypeL S L t v := typedBL_sound S L fuel t v h

/-- one evaluation of an earlier union alternative that ends in `DeserializeException` provides the union premise -/
theorem compose_union_premise (S : List ClassDef) (L : LeafEnv) (t : Ty) (i : Item) (n : Nat)
    (h : fromPrimL S L n t i = .deser) : ∃ N, ∀ fuel, N ≤ fuel → fromPrimL S L fuel t i = .deser :=
  deser_stableL S L t i n h

/-! ## refinement: what the leaf-blind model says where the composed one succeeds -/

/-- the naive refinement "where the composed restoration succeeds, the leaf-blind one does not fail" -/
def refinement_goal : Prop :=
  ∀ (S : List ClassDef) (L : LeafEnv) (fuel : Nat) (t : Ty) (i : Item) (v : Val),
    fromPrimL S L fuel t i = .ok v → ∃ v', fromPrim S fuel t i = .ok v'

def cexSchema : List ClassDef :=
  [{ name := "H", kind := .cbytes 1 1, overrides := [], fields := [] },
   { name := "X", kind := .custom, overrides := [], fields := [] }]
def cexLeaves : LeafEnv := fun n => if n = "X" then some (fun _ => .deser) else Option.none
def cexTy : Ty := .union [.tuple [.cls "X", .cls "H"], .any]
def cexItem : Item := .array [.uint 0, .bytes []]
def resClass {α : Type} : Res α → Nat | .ok _ => 0 | .deser => 1 | .crash => 2

/-- … is FALSE: a leaf that refuses ends its `Union` alternative early; the leaf-blind model accepts the leaf, goes on
inside the same alternative and meets a crash (a hash of the wrong size) that Python never reaches -/
theorem refinement_counterexample : ¬ refinement_goal := by
  intro h
  have h1 : fromPrimL cexSchema cexLeaves 5 cexTy cexItem = .ok (.opaque cexItem) := rfl
  obtain ⟨v', hv⟩ := h cexSchema cexLeaves 5 cexTy cexItem _ h1
  have h2 : fromPrim cexSchema 5 cexTy cexItem = .crash := rfl
  rw [h2] at hv; cases hv

/-- the same effect on the REAL table (class level): `[2, [5, h], <27 bytes>]` offered to the certificate union.  Python
and the composed model: `StakeCredential.from_primitive` refuses code 5 with `DeserializeException`, `StakeDelegation` is
abandoned, no alternative fits: `DeserializeException`.  The leaf-blind model accepts the credential, restores the pool key
hash and crashes on its size. -/
def exBadDelegation : Item := .array [.uint 2, .array [.uint 5, .bytes (List.replicate 28 1)], .bytes (List.replicate 27 2)]
example : resClass (fromPrimL repoSchema realLeaves 20 (.union (C01.namedUnion "Certificate")) exBadDelegation) = 1 ∧
    resClass (fromPrim repoSchema 20 (.union (C01.namedUnion "Certificate")) exBadDelegation) = 2 := by decide +kernel

/-- what IS true in general: the composed restoration of a typed value's image succeeds, and so does the leaf-blind one
whenever the value is also typed without leaves (`HasType`) — both return the value itself -/
theorem refinement_partial (S : List ClassDef) (L : LeafEnv) (t : Ty) (v : Val) (h : HasTypeL S L t v)
    (h0 : HasType S t v) :
    ∃ N, ∀ fuel, N ≤ fuel → fromPrimL S L fuel t (toPrim S v) = .ok v ∧ fromPrim S fuel t (toPrim S v) = .ok v := by
  obtain ⟨N1, h1⟩ := rt_allL h
  obtain ⟨N2, h2⟩ := rt_all h0
  exact ⟨max N1 N2, fun fuel hf => ⟨h1 fuel (by omega), h2 fuel (by omega)⟩⟩

/-! ## the fixed-point premise per modelled leaf — corollaries of the leaves' own round-trip theorems -/

theorem leaf_fixed_Address (a : Addr.Address) (h : AddrLeaf.validB a = true) :
    ∀ f, realLeaves "Address" = some f → f (AddrLeaf.addrEnc a) = .ok (AddrLeaf.addrEnc a) := by
  have h1 := C01.Leaves.addr_leaf_lawful.rt ⟨a, h⟩
  have h2 := C01.Leaves.addr_leaf_faithful (AddrLeaf.addrEnc a)
  change AddrLeaf.addrLeaf.dec (AddrLeaf.addrEnc a) = _ at h1
  rw [h1] at h2
  exact fixed_of_leaf (g := addrNorm) rfl (normOf_fixed _ _ a h2.symm)

/-- `NativeScript` and its six subclasses share `from_primitive` -/
theorem leaf_fixed_NativeScript (s : Ids.NScript) (hw : NativeScript.wfB s = true) (n : String)
    (hn : n ∈ ["NativeScript", "ScriptPubkey", "ScriptAll", "ScriptAny", "ScriptNofK", "InvalidBefore", "InvalidHereAfter"]) :
    ∀ f, realLeaves n = some f → f (NativeScript.toItem s) = .ok (NativeScript.toItem s) := by
  have e : realLeaves n = some nsNorm := by
    simp only [List.mem_cons, List.not_mem_nil, or_false] at hn
    rcases hn with rfl | rfl | rfl | rfl | rfl | rfl | rfl <;> rfl
  exact fixed_of_leaf e (normOf_fixed nsLeafC.dec nsLeafC.enc ⟨s, hw⟩ (C01.NativeScript.nsLeaf_lawful.rt ⟨s, hw⟩))

/-- `StakeCredential` / `DRepCredential` / `CommitteeColdCredential` -/
theorem leaf_fixed_Credential (c : Gov.Cred) (h : c.wf = true) (n : String)
    (hn : n ∈ ["StakeCredential", "DRepCredential", "CommitteeColdCredential"]) :
    ∀ f, realLeaves n = some f → f c.toItem = .ok c.toItem := by
  have e : realLeaves n = some credNorm := by
    simp only [List.mem_cons, List.not_mem_nil, or_false] at hn
    rcases hn with rfl | rfl | rfl <;> rfl
  exact fixed_of_leaf e (normOf_fixed _ _ c (C01.Gov.cred_roundtrip c h))

theorem leaf_fixed_DRep (d : Gov.DRep) (ht : d.typed = true) (hc : d.coherent = true) :
    ∀ f, realLeaves "DRep" = some f → f d.toItem = .ok d.toItem :=
  fixed_of_leaf (g := drepNorm) rfl (normOf_fixed _ _ d (C01.Gov.drep_roundtrip_partial d ht hc))

theorem leaf_fixed_Voter (v : Gov.Voter) (h : v.wf = true) :
    ∀ f, realLeaves "Voter" = some f → f v.toItem = .ok v.toItem :=
  fixed_of_leaf (g := voterNorm) rfl (normOf_fixed _ _ v (C01.Gov.voter_roundtrip v h))

theorem leaf_fixed_VotingProcedure (p : Gov.VotingProcedure) (h : p.wf = true) :
    ∀ f, realLeaves "VotingProcedure" = some f → f p.toItem = .ok p.toItem :=
  fixed_of_leaf (g := vpNorm) rfl (normOf_fixed _ _ p (C01.Gov.vp_roundtrip p h))

theorem leaf_fixed_GovActionId (g : Gov.GovActionId) (h : g.wf = true) :
    ∀ f, realLeaves "GovActionId" = some f → f g.toItem = .ok g.toItem :=
  fixed_of_leaf (g := gaidNorm) rfl (normOf_fixed _ _ g (C01.Gov.gaid_roundtrip g h))

theorem leaf_fixed_HardForkInitiationAction (x : Gov.HardFork) (h : x.wf = true) :
    ∀ f, realLeaves "HardForkInitiationAction" = some f → f x.toItem = .ok x.toItem :=
  fixed_of_leaf (g := hardForkNorm) rfl (normOf_fixed _ _ x (C01.Gov.hardfork_roundtrip x h))

/-- the Gov leaves are idempotent on EVERYTHING they accept (`cred_reencode` …): whatever the normaliser returns is a
fixed point, so a decoded credential always meets the premise -/
theorem leaf_stable_Credential (i j : Item) (h : credNorm i = .ok j) : credNorm j = .ok j :=
  normOf_stable _ _ C01.Gov.cred_reencode i j h

theorem leaf_fixed_Value (v : Value) (h : ValueOk v) :
    ∀ f, realLeaves "Value" = some f → f (itemValue v) = .ok (itemValue v) :=
  fixed_of_leaf (g := valueNorm) rfl (normOf_fixed_norm _ _ v (normValue v) (C01.value_roundtrip v h) (itemValue_normValue v))

/-- the output leaves of this extension are the closed leaves of Props/C01_Leaves.lean -/
theorem outLeaves_eq : outLeaves = C01.Leaves.realLeaves NativeScript.nsLeaf := rfl

/-- `TransactionOutput` — every well-formed output: legacy or map form, datum hash / inline datum / reference script of
any language, any address kind, native scripts of any depth (`output_reencode_closed`) -/
theorem leaf_fixed_TransactionOutput (o : Output AddrLeaf.VAddr Item WScript) (h : OutputOk outLeaves o) :
    ∀ f, realLeaves "TransactionOutput" = some f → f (itemOutput outLeaves o) = .ok (itemOutput outLeaves o) := by
  obtain ⟨o', h1, h2⟩ := C01.Leaves.output_reencode_closed o h
  exact fixed_of_leaf (g := outputNorm) rfl (normOf_fixed_norm (decOutput outLeaves) (itemOutput outLeaves) o o' h1 h2)

/-- the `object_hook` of `TransactionBody.outputs` (`list_hook(TransactionOutput)`): any list of well-formed outputs -/
theorem leaf_fixed_outputs_hook (os : List (Output AddrLeaf.VAddr Item WScript)) (h : ∀ o ∈ os, OutputOk outLeaves o) :
    ∀ f, realLeaves "TransactionBody.outputs" = some f →
      f (.array (os.map (itemOutput outLeaves))) = .ok (.array (os.map (itemOutput outLeaves))) := by
  refine fixed_of_leaf (g := listHookNorm outputNorm) rfl (listHookNorm_fixed outputNorm _ fun x hx => ?_)
  obtain ⟨o, ho, rfl⟩ := List.mem_map.1 hx
  exact leaf_fixed_TransactionOutput o (h o ho) outputNorm rfl

theorem leaf_fixed_PoolRegistration (p : Pool.PoolParams) (h : Pool.paramsOk p = true) :
    ∃ i, Pool.encRegistration p = some i ∧ ∀ f, realLeaves "PoolRegistration" = some f → f i = .ok i := by
  obtain ⟨hc, ht⟩ := (C01.Pool.params_ok_iff p).mp h
  obtain ⟨i, h1, h2⟩ := C01.Pool.registration_roundtrip p hc ht
  exact ⟨i, h1, fixed_of_leaf (g := poolRegNorm) rfl
    (normOfOpt_fixed _ _ (Pool.normParams p) i h2 (by rw [C01.Pool.registration_reencode]; exact h1))⟩

theorem leaf_fixed_AuxiliaryData (a : Metadata.Aux WScript) (h : Pyc.Metadata.AuxOk a) (hc : Pyc.Metadata.Constructed a) :
    ∀ f, realLeaves "AuxiliaryData" = some f → f (Metadata.itemAux nsLeafC a) = .ok (Metadata.itemAux nsLeafC a) :=
  fixed_of_leaf (g := auxNorm) rfl
    (normOf_fixed_norm _ _ a (Metadata.canonAux a)
      (C01.Metadata.aux_roundtrip_constructed nsLeafC C01.NativeScript.nsLeaf_lawful a h hc) (Pyc.Metadata.itemAux_canonAux nsLeafC a))

theorem leaf_fixed_VerificationKeyWitness (w : WitnessCodec.VKW) (h : w.sig.Canon) :
    ∀ f, realLeaves "VerificationKeyWitness" = some f → f (WitnessCodec.vkwItem w) = .ok (WitnessCodec.vkwItem w) :=
  fixed_of_leaf (g := vkwNorm) rfl
    (normOf_fixed_norm _ _ w (WitnessCodec.decodedVKW w) (C01.WitnessCodec.vkw_roundtrip_general w h)
      (C01.WitnessCodec.vkw_reencode w))

theorem wsLeaves_lawful : wsLeaves.Lawful :=
  ⟨C01.NativeScript.nsLeaf_lawful, ⟨fun _ => rfl⟩, ⟨fun x => by obtain ⟨i, hi⟩ := x; show (if h : datumOkB i = true then Res.ok (⟨i, h⟩ : DatumItem) else .deser) = _; rw [dif_pos hi]⟩, ⟨fun _ => rfl⟩⟩

/-- `TransactionWitnessSet` — every well-formed constructed witness set without duplicates -/
theorem leaf_fixed_TransactionWitnessSet (x : WitnessCodec.WS WScript Item DatumItem Item) (h : WitnessCodec.WSOk x)
    (ht : WitnessCodec.Tagged5 x) (hd : WitnessCodec.WSDistinct wsLeaves x) :
    ∀ f, realLeaves "TransactionWitnessSet" = some f →
      f (WitnessCodec.wsItem wsLeaves x) = .ok (WitnessCodec.wsItem wsLeaves x) :=
  fixed_of_leaf (g := wsNorm) rfl
    (normOf_fixed_norm _ _ x (WitnessCodec.decodedWS wsLeaves x)
      (C01.WitnessCodec.ws_roundtrip wsLeaves wsLeaves_lawful x h) (C01.WitnessCodec.ws_reencode_partial wsLeaves x ht hd))

/-! ## the REAL regenerated table with the REAL leaves -/

def exAddrBase : Addr.Address := ⟨.vkh (List.replicate 28 7), .sh (List.replicate 28 9), .mainnet⟩
def exAddrPtr : Addr.Address := ⟨.sh (List.replicate 28 1), .ptr (2 ^ 40) 129 0, .testnet⟩
def exVBase : AddrLeaf.VAddr := ⟨exAddrBase, by decide +kernel⟩
def exVPtr : AddrLeaf.VAddr := ⟨exAddrPtr, by decide +kernel⟩
/-- a native script nested two deep (the in-range example of Props/C01_NativeScript.lean) -/
def exNS : WScript := ⟨C01.NativeScript.exInRange, by decide⟩
/-- a legacy output with a base address; a map-form output with a pointer address, a multi-asset amount (two policies, a
bignum quantity), an inline datum and a NATIVE reference script -/
def exOut1 : Output AddrLeaf.VAddr Item WScript := ⟨exVBase, ⟨2000000, []⟩, Option.none, Option.none, Option.none, false⟩
def exOut2 : Output AddrLeaf.VAddr Item WScript :=
  ⟨exVPtr, C01.exValue, Option.none, some (.array [.uint 42, .bytes [1, 2]]), some (.native exNS), true⟩
def exCredKey : Gov.Cred := ⟨true, .bytes (List.replicate 28 1)⟩
def exCredScript : Gov.Cred := ⟨false, .bytes (List.replicate 28 2)⟩
def exDRep : Gov.DRep := ⟨.keyHash, some (true, .bytes (List.replicate 28 3))⟩
def exMint : MultiAsset := [(List.replicate 28 4, [([116, 107], -5), ([], 7)])]

/-- certificates with REAL credentials; the last two are declared AFTER `PoolRegistration` in the certificate union: with the
leaf-blind model they could only be typed at the coded part of the union (`PoolRegistration` accepted every primitive) -/
def exCerts : List Val :=
  [.obj "StakeRegistration" [.opaque exCredKey.toItem],
   .obj "StakeRegistrationConway" [.opaque exCredScript.toItem, .int 2000000],
   .obj "VoteDelegation" [.opaque exCredKey.toItem, .opaque exDRep.toItem],
   .obj "UnregDRepCertificate" [.opaque exCredScript.toItem, .int 500000000]]

/-- a body of the REAL table, built from the table's own field list (a new optional field does not disturb it) -/
def exBodyL : Val :=
  match lookup repoSchema "TransactionBody" with
  | some cd => .obj "TransactionBody" (cd.fields.map (fun f =>
      if f.name == "inputs" then .oset true [C01.exInput]
      else if f.name == "outputs" then .opaque (.array [itemOutput outLeaves exOut1, itemOutput outLeaves exOut2])
      else if f.name == "fee" then .int 170000
      else if f.name == "certificates" then .list exCerts
      else if f.name == "mint" then .opaque (itemMultiAsset (primMultiAsset exMint))
      else if f.name == "collateral_return" then .opaque (itemOutput outLeaves exOut1)
      else if f.name == "network_id" then .opaque (.uint 1)
      else .none))
  | Option.none => .none

/-- the body is within the composed theorem: every leaf primitive in it is a fixed point of its leaf's normaliser, every
union side condition holds for `fromPrimL` (decided by the sound check) -/
theorem exBodyL_typed : HasTypeL repoSchema realLeaves (.cls "TransactionBody") exBodyL :=
  typedBL_sound _ _ 40 _ _ (by decide +kernel)

/-- **so it round-trips through the composed codec, by the theorem**: table-driven body, real addresses, multi-asset
amounts, a native reference script, real credentials inside certificates inside a list inside a union -/
theorem exBodyL_roundtrip : ∃ N, ∀ fuel, N ≤ fuel →
    fromPrimL repoSchema realLeaves fuel (.cls "TransactionBody") (toPrim repoSchema exBodyL) = .ok exBodyL :=
  compose_roundtrip _ _ _ _ exBodyL_typed

/-- the leaf-blind typing relation does NOT type the same body at the full table type (the alternatives after
`PoolRegistration` are unreachable for it) — the composed theorem covers strictly more -/
example : typedB repoSchema 40 (.cls "TransactionBody") exBodyL = false := by decide +kernel

-- the kernel also evaluates the whole trip through the bytes: CBOR decoder, composed restoration, re-encoding
example :
    (match decodeAll (encodeVal repoSchema exBodyL) with
      | some i => (match fromPrimL repoSchema realLeaves 40 (.cls "TransactionBody") i with
          | .ok v' => encodeVal repoSchema v' == encodeVal repoSchema exBodyL
          | _ => false)
      | Option.none => false) = true := by decide +kernel

/-- … the same body with a 27-byte credential in its second certificate: Python's `ScriptHash(values[1])` asserts the
size (AssertionError, not a `DeserializeException`: the `Union` does not go on) -/
def badCred : Item := .array [.uint 1, .bytes (List.replicate 27 2)]
def exBodyBad : Val :=
  match exBodyL, lookup repoSchema "TransactionBody" with
  | .obj n fs, some cd => .obj n ((cd.fields.zip fs).map (fun p =>
      if p.1.name == "certificates" then .list [.obj "StakeRegistrationConway" [.opaque badCred, .int 2000000]] else p.2))
  | v, _ => v

/-- **a leaf REFUSES inside a certificate inside a body**: the composed model says `crash`, the leaf-blind model said `ok` -/
example : resClass (fromPrimL repoSchema realLeaves 40 (.cls "TransactionBody") (toPrim repoSchema exBodyBad)) = 2 ∧
    resClass (fromPrim repoSchema 40 (.cls "TransactionBody") (toPrim repoSchema exBodyBad)) = 0 := by decide +kernel

/-- a credential with kind code 5: `DeserializeException` from the leaf; every alternative of the certificate union is
tried and refuses, then `None` refuses: the body is refused with `DeserializeException` (leaf-blind: `ok`) -/
def badCredCode : Item := .array [.uint 5, .bytes (List.replicate 28 2)]
def exBodyBadCode : Val :=
  match exBodyL, lookup repoSchema "TransactionBody" with
  | .obj n fs, some cd => .obj n ((cd.fields.zip fs).map (fun p =>
      if p.1.name == "certificates" then .list [.obj "StakeRegistrationConway" [.opaque badCredCode, .int 2000000]] else p.2))
  | v, _ => v
example : resClass (fromPrimL repoSchema realLeaves 40 (.cls "TransactionBody") (toPrim repoSchema exBodyBadCode)) = 1 ∧
    resClass (fromPrim repoSchema 40 (.cls "TransactionBody") (toPrim repoSchema exBodyBadCode)) = 0 := by decide +kernel

/-- an output whose address has a Byron header (`0x80…`) inside `outputs`: the hook is not inside a `Union`, the
`DeserializeException` of `Address.from_primitive` surfaces as the body's -/
def exBodyBadAddr : Val :=
  match exBodyL, lookup repoSchema "TransactionBody" with
  | .obj n fs, some cd => .obj n ((cd.fields.zip fs).map (fun p =>
      if p.1.name == "outputs" then .opaque (.array [.array [.bytes (0x80 :: List.replicate 28 0), .uint 1000000]]) else p.2))
  | v, _ => v
example : resClass (fromPrimL repoSchema realLeaves 40 (.cls "TransactionBody") (toPrim repoSchema exBodyBadAddr)) = 1 ∧
    resClass (fromPrim repoSchema 40 (.cls "TransactionBody") (toPrim repoSchema exBodyBadAddr)) = 0 := by decide +kernel

/-! ### for ALL well-formed outputs: a table-driven parent over the output leaf, by theorem -/

/-- **every `UTxO` with a well-formed output round-trips through the composed codec on the real table** — any address kind,
any multi-asset amount, datum hash / inline datum, native reference scripts of any depth: the table-driven parent, the
hash class and the hand-written output codec together -/
theorem utxo_typed (txid : Bytes) (ix : Int) (o : Output AddrLeaf.VAddr Item WScript) (ht : txid.length = 32)
    (hi : IntOk ix) (ho : OutputOk outLeaves o) :
    HasTypeL repoSchema realLeaves (.cls "UTxO")
      (.obj "UTxO" [.obj "TransactionInput" [.cb txid, .int ix], .opaque (itemOutput outLeaves o)]) :=
  utxo_typed_of_shape (by decide +kernel) ht hi (leaf_fixed_TransactionOutput o ho)

theorem utxo_roundtrip (txid : Bytes) (ix : Int) (o : Output AddrLeaf.VAddr Item WScript) (ht : txid.length = 32)
    (hi : IntOk ix) (ho : OutputOk outLeaves o) :
    ∃ N, ∀ fuel, N ≤ fuel → fromPrimL repoSchema realLeaves fuel (.cls "UTxO")
      (toPrim repoSchema (.obj "UTxO" [.obj "TransactionInput" [.cb txid, .int ix], .opaque (itemOutput outLeaves o)])) =
      .ok (.obj "UTxO" [.obj "TransactionInput" [.cb txid, .int ix], .opaque (itemOutput outLeaves o)]) :=
  compose_roundtrip _ _ _ _ (utxo_typed txid ix o ht hi ho)

/-- non-vacuity: the map-form output with a pointer address, multi-asset amount, inline datum and native reference script
meets `OutputOk` -/
theorem exOut2_ok : OutputOk outLeaves exOut2 := by
  refine ⟨C01.exValue_ok, ?_, ?_, ?_⟩
  · intro hh e; cases e
  · intro d e; cases e; simp [outLeaves, Leaf.raw, Cbor.WF, Cbor.WFList]
  · intro s e
    cases e
    exact Pyc.Ids.item_wf C01.NativeScript.exInRange
      (Pyc.NativeScript.validNative_of_inRange C01.NativeScript.exInRange (by decide))

example : ∃ N, ∀ fuel, N ≤ fuel → fromPrimL repoSchema realLeaves fuel (.cls "UTxO")
      (toPrim repoSchema (.obj "UTxO" [.obj "TransactionInput" [.cb (List.replicate 32 7), .int 4294967296],
        .opaque (itemOutput outLeaves exOut2)])) =
      .ok (.obj "UTxO" [.obj "TransactionInput" [.cb (List.replicate 32 7), .int 4294967296], .opaque (itemOutput outLeaves exOut2)]) :=
  utxo_roundtrip _ _ exOut2 (by simp) (by unfold IntOk; omega) exOut2_ok

end Pyc.C01.Compose

#print axioms Pyc.C01.Compose.compose_conservative
#print axioms Pyc.C01.Compose.compose_fuel_monotone
#print axioms Pyc.C01.Compose.compose_roundtrip
#print axioms Pyc.C01.Compose.compose_reencode
#print axioms Pyc.C01.Compose.compose_typed_check_sound
#print axioms Pyc.C01.Compose.compose_union_premise
#print axioms Pyc.C01.Compose.refinement_counterexample
#print axioms Pyc.C01.Compose.refinement_partial
#print axioms Pyc.C01.Compose.leaf_fixed_Address
#print axioms Pyc.C01.Compose.leaf_fixed_NativeScript
#print axioms Pyc.C01.Compose.leaf_fixed_Credential
#print axioms Pyc.C01.Compose.leaf_fixed_DRep
#print axioms Pyc.C01.Compose.leaf_fixed_Voter
#print axioms Pyc.C01.Compose.leaf_fixed_VotingProcedure
#print axioms Pyc.C01.Compose.leaf_fixed_GovActionId
#print axioms Pyc.C01.Compose.leaf_fixed_HardForkInitiationAction
#print axioms Pyc.C01.Compose.leaf_stable_Credential
#print axioms Pyc.C01.Compose.leaf_fixed_Value
#print axioms Pyc.C01.Compose.outLeaves_eq
#print axioms Pyc.C01.Compose.leaf_fixed_TransactionOutput
#print axioms Pyc.C01.Compose.leaf_fixed_outputs_hook
#print axioms Pyc.C01.Compose.leaf_fixed_PoolRegistration
#print axioms Pyc.C01.Compose.leaf_fixed_AuxiliaryData
#print axioms Pyc.C01.Compose.leaf_fixed_VerificationKeyWitness
#print axioms Pyc.C01.Compose.wsLeaves_lawful
#print axioms Pyc.C01.Compose.leaf_fixed_TransactionWitnessSet
#print axioms Pyc.C01.Compose.exBodyL_typed
#print axioms Pyc.C01.Compose.exBodyL_roundtrip
#print axioms Pyc.C01.Compose.utxo_typed
#print axioms Pyc.C01.Compose.utxo_roundtrip
#print axioms Pyc.C01.Compose.exOut2_ok
