import Pyc.Proofs.Gov

/-! # C01 (extension `Gov`) — credentials and governance items: decoding an encoded object returns an equal object

Model: `Model/Gov.lean` (transliteration of certificate.py `StakeCredential` / `DRepCredential`, `DRep`, `Anchor`;
governance.py `CommitteeColdCredential`, `GovActionId`, `VotingProcedure`, `Voter`, `GovActionIdToVotingProcedure`,
`VotingProcedures`, `HardForkInitiationAction`; pool_params.py `PoolId`).  In the generic codec model these classes are
opaque leaves; here they have their own round-trip theorems.  Every theorem is for ALL values; the hypotheses are the
decidable predicates `X.wf` ("what the constructors enforce of an object built from `bytes` / `int`": hash sizes, the
16-bit index, the staking-pool rule, major version 1..10) — for a `dict` class also its representation invariant (no
two equal keys).

Per class `X`:
* `X_roundtrip`        `X.fromItem x.toItem = ok x` (structural equality; for these classes it is Python's `==`, see below)
* `X_roundtrip_bytes`  the same through `to_cbor` / `from_cbor` (CBOR bytes, `serialization.loads`)
* `X_reencode`         for EVERY primitive `i` the decoder accepts — ill-typed payloads included — the decoded object is a
                       fixed point: it is written as an item that decodes to it again (so re-encoding a decoded object
                       is stable from the first re-encoding on)
* `X_injective`        different objects are written differently

Python equality.  The dataclass `__eq__` of these classes compares all fields, and `ConstrainedBytes.__eq__` compares the
PAYLOADS only, not the hash classes.  For `StakeCredential`, `Voter` the class of the hash object is determined by the
compared `_CODE`, so `==` is structural equality of the model.  For `DRep` it is weaker: `DRep(kind, ScriptHash(b)) ==
DRep(kind, VerificationKeyHash(b))`; `DRep.PyEq` is that relation and `drep_*_pyeq` say which theorem uses it.  The
`DRep` constructor relates `kind` and `credential` in no way: the full round-trip statement is FALSE of the code
(`drep_roundtrip_counterexample`), it holds for coherent objects (`drep_roundtrip_partial`) and up to `==` whenever kind
and arity agree (`drep_roundtrip_pyeq`).  `DictCBORSerializable.__eq__` is `dict` equality (order-free): `GovVotes.PyEq`,
`VotingProcedures.PyEq`. -/

namespace Pyc.C01.Gov
open Pyc.Cbor Pyc.Codec Pyc.Gov

/-! ## `StakeCredential` / `DRepCredential` / `CommitteeColdCredential` -/

theorem cred_roundtrip (c : Cred) (h : c.wf = true) : Cred.fromItem c.toItem = .ok c := cred_rt c h

theorem cred_roundtrip_bytes (c : Cred) (h : c.wf = true) : fromBytes Cred.fromItem (encode c.toItem) = .ok c :=
  (fromBytes_encode _ (cred_item_loadable c h)).trans (cred_rt c h)

theorem cred_reencode (i : Item) (c : Cred) (h : Cred.fromItem i = .ok c) : Cred.fromItem c.toItem = .ok c :=
  let ⟨_, hp⟩ := Cred.fromItem_ok h
  Cred.fromItem_toItem c (hashCtor_stable hp)

theorem cred_injective (a b : Cred) (h : a.toItem = b.toItem) : a = b := cred_inj a b h

theorem cred_injective_bytes (a b : Cred) (ha : a.wf = true) (hb : b.wf = true) (h : encode a.toItem = encode b.toItem) :
    a = b :=
  cred_inj a b (Cbor.encode_inj (cred_item_loadable a ha).1 (cred_item_loadable b hb).1 h)

/-- the kind code is the one the class of the hash object prescribes, in both directions -/
theorem cred_code (c : Cred) (h : c.wf = true) :
    ∃ b, c.toItem = .array [.uint (if c.isKey then 0 else 1), .bytes b] ∧ b.length = 28 := by
  obtain ⟨k, b, rfl, hb⟩ := Cred.wf_iff.1 h
  exact ⟨b, rfl, hb⟩

/-! ## `DRep` -/

/-- the full statement: every `DRep` the constructor accepts (a kind, and `None` or a hash object) round-trips -/
def drep_roundtrip_goal : Prop := ∀ d : DRep, d.typed = true → DRep.fromItem d.toItem = .ok d

/-- … it does for the objects whose credential is the one the kind calls for -/
theorem drep_roundtrip_partial (d : DRep) (ht : d.typed = true) (hc : d.coherent = true) : DRep.fromItem d.toItem = .ok d :=
  drep_rt d ht hc

/-- `DRep(DRepKind.ALWAYS_ABSTAIN, VerificationKeyHash(bytes(28)))`: written as `[2, h]`, read back without credential -/
def exAbstainWithCred : DRep := ⟨.alwaysAbstain, some (true, .bytes (List.replicate 28 0))⟩
/-- `DRep(DRepKind.VERIFICATION_KEY_HASH)`: written as `[0]`, which the decoder cannot index -/
def exKeyWithoutCred : DRep := ⟨.keyHash, Option.none⟩

theorem drep_roundtrip_counterexample : ¬ drep_roundtrip_goal := by
  intro h
  have := h exAbstainWithCred rfl
  simp [exAbstainWithCred, DRep.toItem, DRep.fromItem, DRepKind.code, DRepKind.ofNum?] at this

/-- the other way the statement fails: `IndexError` -/
theorem drep_roundtrip_crash : exKeyWithoutCred.typed = true ∧ DRep.fromItem exKeyWithoutCred.toItem = .crash := by
  simp [exKeyWithoutCred, DRep.typed, DRep.toItem, DRep.fromItem, DRepKind.code, DRepKind.ofNum?]

/-- under Python's `==` (payloads compared, hash classes not): kind and arity agree ⇒ the decoded object equals the
original, and it is the coherent one -/
theorem drep_roundtrip_pyeq (d : DRep) (ht : d.typed = true) (ha : d.arityOk = true) :
    ∃ d', DRep.fromItem d.toItem = .ok d' ∧ DRep.PyEq d' d ∧ d'.coherent = true := drep_rt_arity d ht ha

theorem drep_roundtrip_bytes (d : DRep) (ht : d.typed = true) (hc : d.coherent = true) :
    fromBytes DRep.fromItem (encode d.toItem) = .ok d :=
  (fromBytes_encode _ (drep_item_loadable d ht)).trans (drep_rt d ht hc)

theorem drep_reencode (i : Item) (d : DRep) (h : DRep.fromItem i = .ok d) : DRep.fromItem d.toItem = .ok d :=
  DRep.fromItem_toItem d (DRep.fromItem_ok h).1 fun k p e =>
    let ⟨_, hp⟩ := (DRep.fromItem_ok h).2 k p e
    hashCtor_stable hp

/-- whatever the decoder returns is coherent -/
theorem drep_decoded_coherent (i : Item) (d : DRep) (h : DRep.fromItem i = .ok d) : d.coherent = true :=
  (DRep.fromItem_ok h).1

/-- two `DRep`s are written alike exactly when they are `==` (for ALL objects, coherent or not) -/
theorem drep_injective_pyeq (a b : DRep) : a.toItem = b.toItem ↔ DRep.PyEq a b := drep_item_eq_iff a b

/-- … hence equal when both are coherent -/
theorem drep_injective (a b : DRep) (ha : a.coherent = true) (hb : b.coherent = true) (h : a.toItem = b.toItem) : a = b := by
  obtain ⟨h1, h2⟩ := (drep_item_eq_iff a b).1 h
  have e : a.cred = b.cred := by rw [DRep.coherent_cred ha, DRep.coherent_cred hb, h1, h2]
  obtain ⟨ka, ca⟩ := a
  obtain ⟨kb, cb⟩ := b
  cases h1
  cases e
  rfl

/-! ## `Voter` -/

theorem voter_roundtrip (v : Voter) (h : v.wf = true) : Voter.fromItem v.toItem = .ok v := voter_rt v h

theorem voter_roundtrip_bytes (v : Voter) (h : v.wf = true) : fromBytes Voter.fromItem (encode v.toItem) = .ok v :=
  (fromBytes_encode _ (voter_item_loadable v h).1).trans (voter_rt v h)

theorem voter_reencode (i : Item) (v : Voter) (h : Voter.fromItem i = .ok v) : Voter.fromItem v.toItem = .ok v :=
  let ⟨⟨_, hp⟩, hc⟩ := Voter.fromItem_ok h
  Voter.fromItem_toItem v (hashCtor_stable hp) hc

/-- whatever the decoder returns is an object the constructor accepts (a staking-pool voter holds a key hash) -/
theorem voter_decoded_constructible (i : Item) (v : Voter) (h : Voter.fromItem i = .ok v) :
    (v.vtype != .stakingPool || v.isKey) = true := (Voter.fromItem_ok h).2

theorem voter_injective (a b : Voter) (ha : a.wf = true) (hb : b.wf = true) (h : a.toItem = b.toItem) : a = b := by
  obtain ⟨ta, ka, pa, rfl, _, ca⟩ := Voter.wf_iff.1 ha
  obtain ⟨tb, kb, pb, rfl, _, cb⟩ := Voter.wf_iff.1 hb
  simp only [Voter.toItem, Item.array.injEq, List.cons.injEq, Item.uint.injEq, and_true] at h
  obtain ⟨hc, hp⟩ := h
  obtain ⟨_, ta', ka'⟩ := Voter.table_code ta ka (.bytes pa) ca _ rfl
  obtain ⟨_, tb', kb'⟩ := Voter.table_code tb kb (.bytes pb) cb _ rfl
  rw [hc] at ta' ka'
  cases ta'.symm.trans tb'
  cases ka'.symm.trans kb'
  cases hp
  rfl

/-- the five kinds are written with five different codes: the code table is a bijection on constructible voters -/
theorem voter_code_table (v : Voter) (h : v.wf = true) :
    v.code = (match v.vtype, v.isKey with
      | .committeeHot, true => 0 | .committeeHot, false => 1 | .drep, true => 2 | .drep, false => 3
      | .stakingPool, _ => 4) := by
  obtain ⟨t, k, p⟩ := v
  cases t <;> cases k <;> rfl

/-! ## `Anchor`, `VotingProcedure`, `GovActionId` -/

theorem anchor_roundtrip (a : Anchor) (h : a.wf = true) : Anchor.fromItem a.toItem = .ok a := anchor_rt a h

theorem anchor_roundtrip_bytes (a : Anchor) (h : a.wf = true) (hu : a.url.length < 2 ^ 64) :
    fromBytes Anchor.fromItem (encode a.toItem) = .ok a :=
  (fromBytes_encode _ (anchor_item_loadable a h hu)).trans (anchor_rt a h)

theorem anchor_reencode (i : Item) (a : Anchor) (h : Anchor.fromItem i = .ok a) : Anchor.fromItem a.toItem = .ok a :=
  anchor_rt a (anchor_decoded_wf i a h)

theorem anchor_injective (a b : Anchor) (h : a.toItem = b.toItem) : a = b := anchor_inj a b h

theorem vp_roundtrip (p : VotingProcedure) (h : p.wf = true) : VotingProcedure.fromItem p.toItem = .ok p := vp_rt p h

theorem vp_roundtrip_bytes (p : VotingProcedure) (h : p.wf = true) (hu : ∀ a, p.anchor = some a → a.url.length < 2 ^ 64) :
    fromBytes VotingProcedure.fromItem (encode p.toItem) = .ok p :=
  (fromBytes_encode _ (vp_item_loadable p h hu)).trans (vp_rt p h)

theorem vp_reencode (i : Item) (p : VotingProcedure) (h : VotingProcedure.fromItem i = .ok p) :
    VotingProcedure.fromItem p.toItem = .ok p := vp_rt p (vp_decoded_wf i p h)

theorem vp_injective (a b : VotingProcedure) (h : a.toItem = b.toItem) : a = b := by
  obtain ⟨va, aa⟩ := a
  obtain ⟨vb, ab⟩ := b
  simp only [VotingProcedure.toItem, Item.array.injEq, List.cons.injEq, Item.uint.injEq, and_true] at h
  cases vote_code_inj _ _ h.1
  rcases aa with _ | x <;> rcases ab with _ | y
  · rfl
  · cases h.2
  · cases h.2
  · rw [anchor_inj x y h.2]

/-- the anchor is on the wire whatever the vote, `None` as null -/
theorem vp_anchor_kept (p : VotingProcedure) :
    p.toItem = .array [.uint p.vote.code, match p.anchor with | some a => a.toItem | Option.none => .simple 22] := rfl

theorem gaid_roundtrip (g : GovActionId) (h : g.wf = true) : GovActionId.fromItem g.toItem = .ok g := gaid_rt g h

theorem gaid_roundtrip_bytes (g : GovActionId) (h : g.wf = true) : fromBytes GovActionId.fromItem (encode g.toItem) = .ok g :=
  (fromBytes_encode _ (gaid_item_loadable g h).1).trans (gaid_rt g h)

theorem gaid_reencode (i : Item) (g : GovActionId) (h : GovActionId.fromItem i = .ok g) :
    GovActionId.fromItem g.toItem = .ok g := gaid_stable i g h

theorem gaid_injective (a b : GovActionId) (h : a.toItem = b.toItem) : a = b := gaid_inj a b h

/-! ## `HardForkInitiationAction` -/

theorem hardfork_roundtrip (x : HardFork) (h : x.wf = true) : HardFork.fromItem x.toItem = .ok x := hardfork_rt x h

/-- the minor version may be a Python int of any size or sign (cbor2 writes bignum tags beyond 64 bits): still a round trip -/
theorem hardfork_roundtrip_anyint (p : Option GovActionId) (n : Nat) (v : Int)
    (hp : ∀ g, p = some g → g.wf = true) (hn : 1 ≤ n ∧ n ≤ 10) :
    HardFork.fromItem (HardFork.toItem ⟨p, .uint n, ofInt v⟩) = .ok ⟨p, .uint n, ofInt v⟩ := hardfork_rt_int p n v hp hn

theorem hardfork_roundtrip_bytes (x : HardFork) (h : x.wf = true) : fromBytes HardFork.fromItem (encode x.toItem) = .ok x :=
  (fromBytes_encode _ (hardfork_item_loadable x h)).trans (hardfork_rt x h)

theorem hardfork_reencode (i : Item) (x : HardFork) (h : HardFork.fromItem i = .ok x) : HardFork.fromItem x.toItem = .ok x :=
  let ⟨⟨_, hp⟩, ⟨_, hv⟩, hm⟩ := HardFork.fromItem_ok h
  HardFork.fromItem_toItem x (fun _ e => gaid_stable _ _ (restoreOptGaid_eq_some (e ▸ hp))) (restoreVersion_stable hv) hm

theorem hardfork_injective (a b : HardFork) (h : a.toItem = b.toItem) : a = b := by
  obtain ⟨pa, xa, ya⟩ := a
  obtain ⟨pb, xb, yb⟩ := b
  simp only [HardFork.toItem, Item.array.injEq, List.cons.injEq, and_true, true_and] at h
  obtain ⟨hp, rfl, rfl⟩ := h
  rcases pa with _ | g <;> rcases pb with _ | g'
  · rfl
  · cases hp
  · cases hp
  · rw [gaid_inj g g' hp]

/-! ## `GovActionIdToVotingProcedure`, `VotingProcedures` -/

/-- decoding the encoding of a dict returns its entries in canonical (wire) order -/
theorem votes_roundtrip (m : GovVotes) (hw : GovVotes.wf m = true) (hd : DistinctKeys GovActionId.toItem m) :
    GovVotes.fromItem (GovVotes.toItem m) = .ok (GovVotes.canon m) := votes_rt m hw hd

/-- **combined theorem**: a map voter → (map action id → procedure), every entry well-formed, the `dict` invariant at
both levels: decoding the encoding returns the canonical reordering at both levels … -/
theorem vps_roundtrip (m : VotingProcedures) (hw : VotingProcedures.wf m = true) (hd : VotingProcedures.Distinct m) :
    VotingProcedures.fromItem (VotingProcedures.toItem m) = .ok (VotingProcedures.canon m) := vps_rt m hw hd

/-- … which is equal to the original under the equality Python uses (`dict` equality at both levels) -/
theorem vps_roundtrip_pyeq (m : VotingProcedures) (hw : VotingProcedures.wf m = true) (hd : VotingProcedures.Distinct m) :
    ∃ m', VotingProcedures.fromItem (VotingProcedures.toItem m) = .ok m' ∧ VotingProcedures.PyEq m' m :=
  ⟨_, vps_rt m hw hd, vps_canon_pyeq m⟩

theorem vps_roundtrip_bytes (m : VotingProcedures) (hw : VotingProcedures.wf m = true) (hd : VotingProcedures.Distinct m)
    (hs : VotingProcedures.Sized m) :
    fromBytes VotingProcedures.fromItem (encode (VotingProcedures.toItem m)) = .ok (VotingProcedures.canon m) :=
  (fromBytes_encode _ (vps_item_loadable m hw hs)).trans (vps_rt m hw hd)

/-- re-encoding the decoded dict gives the same item (hence the same bytes) -/
theorem vps_reencode (m : VotingProcedures) :
    VotingProcedures.toItem (VotingProcedures.canon m) = VotingProcedures.toItem m := Pyc.Gov.vps_reencode m

/-- the emitted item does not depend on insertion order, at either level: `==` dicts are written alike -/
theorem vps_order_independent (a b : VotingProcedures) (hd : VotingProcedures.Distinct a) (h : VotingProcedures.PyEq a b) :
    VotingProcedures.toItem a = VotingProcedures.toItem b := Pyc.Gov.vps_order_independent a b hd h

/-- canonical key order as the code emits it: the keys of the outer map, and of every inner map, are strictly
increasing in the order (length of the encoded key, encoded key) -/
theorem vps_canonical_order (m : VotingProcedures) (hd : VotingProcedures.Distinct m) :
    (∃ kvs, VotingProcedures.toItem m = .map kvs ∧ StrictlySorted kvs ∧ kvs.length = m.length) ∧
    ∀ p ∈ m, ∃ kvs, GovVotes.toItem p.2 = .map kvs ∧ StrictlySorted kvs ∧ kvs.length = p.2.length :=
  ⟨encDict_sorted _ _ m hd.1, fun p hp => encDict_sorted _ _ p.2 (hd.2 p hp)⟩

/-- dicts written alike have the same canonical form (so they are `==`) -/
theorem vps_injective (a b : VotingProcedures) (ha : VotingProcedures.wf a = true) (hb : VotingProcedures.wf b = true)
    (da : VotingProcedures.Distinct a) (db : VotingProcedures.Distinct b)
    (h : VotingProcedures.toItem a = VotingProcedures.toItem b) : VotingProcedures.canon a = VotingProcedures.canon b := by
  have h1 := vps_rt a ha da
  have h2 := vps_rt b hb db
  rw [h, h2] at h1
  exact (Res.ok.inj h1).symm

theorem votes_injective (a b : GovVotes) (ha : GovVotes.wf a = true) (hb : GovVotes.wf b = true)
    (da : DistinctKeys GovActionId.toItem a) (db : DistinctKeys GovActionId.toItem b)
    (h : GovVotes.toItem a = GovVotes.toItem b) : GovVotes.PyEq a b := by
  have h1 := votes_rt a ha da
  have h2 := votes_rt b hb db
  rw [h, h2] at h1
  have hc : GovVotes.canon b = GovVotes.canon a := Res.ok.inj h1
  exact ((votes_canon_pyeq a).symm.trans (hc ▸ List.Perm.refl _)).trans (votes_canon_pyeq b)

/-! ## `PoolId` (text form: a bech32 string with a prefix that starts with `pool`) -/

theorem poolid_roundtrip (p : PoolId) (h : p.wf = true) : PoolId.fromItem p.toItem = .ok p := poolid_rt p h

theorem poolid_roundtrip_bytes (p : PoolId) (h : p.wf = true) (hl : p.value.length < 2 ^ 64) :
    fromBytes PoolId.fromItem (encode p.toItem) = .ok p :=
  (fromBytes_encode _ (poolid_item_loadable p hl)).trans (poolid_rt p h)

theorem poolid_injective (a b : PoolId) (ha : a.wf = true) (hb : b.wf = true) (h : a.toItem = b.toItem) : a = b := by
  obtain ⟨s⟩ := a
  obtain ⟨t⟩ := b
  simp only [PoolId.toItem, Item.text.injEq] at h
  have := bytes_of_chars_inj s t (fun c hc => Nat.lt_of_le_of_lt (isPoolId_ascii s ha c hc).2 (by decide))
    (fun c hc => Nat.lt_of_le_of_lt (isPoolId_ascii t hb c hc).2 (by decide)) h
  simp [this]

/-- an accepted pool id is printable ASCII (one byte per character on the wire) -/
theorem poolid_ascii (p : PoolId) (h : p.wf = true) : ∀ c ∈ p.value, 33 ≤ c.toNat ∧ c.toNat ≤ 126 :=
  isPoolId_ascii p.value h

/-- text form of every key hash: the library's bech32 encoder with the prefix `pool` yields a string that `PoolId`
accepts, and that string decodes (bech32) to the bytes (`Bech32.decode_encode`, C15) -/
theorem poolid_of_bytes (bs : Bytes) (h2 : 2 ≤ bs.length) :
    ∃ s, Bech32.encode "pool".toList bs = some s ∧ (PoolId.mk s).wf = true ∧
      Bech32.decode s = .ok (bs.map UInt8.toNat) := by
  obtain ⟨s, he, hp⟩ := Pyc.Gov.poolid_of_bytes bs
  exact ⟨s, he, hp, Bech32.decode_encode _ bs Bech32.hrpOk_pool h2 s he⟩

/-! ## non-vacuity: concrete values meeting the hypotheses -/

def exHash28 : Bytes := List.replicate 28 7
def exHash32 : Bytes := List.replicate 32 9
def exCredKey : Cred := ⟨true, .bytes exHash28⟩
def exCredScript : Cred := ⟨false, .bytes exHash28⟩
def exDRepScript : DRep := ⟨.scriptHash, some (false, .bytes exHash28)⟩
def exDRepMismatch : DRep := ⟨.scriptHash, some (true, .bytes exHash28)⟩       -- `DRep(SCRIPT_HASH, VerificationKeyHash(h))`
def exVoterPool : Voter := ⟨.stakingPool, true, .bytes exHash28⟩
def exVoterDrepScript : Voter := ⟨.drep, false, .bytes exHash28⟩
def exAnchor : Anchor := ⟨[104, 116, 116, 112], exHash32⟩
def exVP : VotingProcedure := ⟨.abstain, some exAnchor⟩
def exGaid : GovActionId := ⟨.bytes exHash32, .uint 65535⟩
def exGaid2 : GovActionId := ⟨.bytes exHash32, .uint 5⟩
def exHardFork : HardFork := ⟨some exGaid, .uint 10, .uint 4294967296⟩
def exVotes : GovVotes := [(exGaid, exVP), (exGaid2, ⟨.no, Option.none⟩)]
def exVPs : VotingProcedures := [(exVoterPool, exVotes), (exVoterDrepScript, [])]

example : exCredKey.wf = true ∧ exCredScript.wf = true := by decide
example : exCredKey.toItem ≠ exCredScript.toItem := by simp [exCredKey, exCredScript, Cred.toItem, Cred.code]
example : exDRepScript.typed = true ∧ exDRepScript.coherent = true := by decide
example : exDRepMismatch.typed = true ∧ exDRepMismatch.arityOk = true ∧ exDRepMismatch.coherent = false := by decide
example : exAbstainWithCred.typed = true ∧ exAbstainWithCred.arityOk = false := by decide
example : exVoterPool.wf = true ∧ exVoterDrepScript.wf = true := by decide
example : (⟨.stakingPool, false, .bytes exHash28⟩ : Voter).wf = false := by decide
example : exVP.wf = true ∧ exGaid.wf = true ∧ exHardFork.wf = true := by decide
example : (⟨.bytes exHash32, .uint 65536⟩ : GovActionId).wf = false := by decide
example : VotingProcedures.wf exVPs = true := by decide
example : VotingProcedures.Distinct exVPs := by
  refine ⟨by unfold DistinctKeys; decide, ?_⟩
  intro p hp
  simp only [exVPs, List.mem_cons, List.mem_nil_iff, or_false] at hp
  rcases hp with rfl | rfl <;> (unfold DistinctKeys; decide)
/-- the canonical order differs from the insertion order (index 5 is written before index 65535, the drep voter before
the pool voter): the round trip of this value is a genuine reordering -/
example : (VotingProcedures.canon exVPs).map (fun p => p.1.code) = [3, 4] ∧
    (GovVotes.canon exVotes).map (fun p => encode p.1.idx) = [[5], [0x19, 0xff, 0xff]] := by decide
example : (PoolId.mk "pool1ntausa".toList).wf = true := by decide +kernel

end Pyc.C01.Gov

#print axioms Pyc.C01.Gov.cred_roundtrip
#print axioms Pyc.C01.Gov.cred_roundtrip_bytes
#print axioms Pyc.C01.Gov.cred_reencode
#print axioms Pyc.C01.Gov.cred_injective
#print axioms Pyc.C01.Gov.cred_injective_bytes
#print axioms Pyc.C01.Gov.cred_code
#print axioms Pyc.C01.Gov.drep_roundtrip_partial
#print axioms Pyc.C01.Gov.drep_roundtrip_counterexample
#print axioms Pyc.C01.Gov.drep_roundtrip_crash
#print axioms Pyc.C01.Gov.drep_roundtrip_pyeq
#print axioms Pyc.C01.Gov.drep_roundtrip_bytes
#print axioms Pyc.C01.Gov.drep_reencode
#print axioms Pyc.C01.Gov.drep_decoded_coherent
#print axioms Pyc.C01.Gov.drep_injective_pyeq
#print axioms Pyc.C01.Gov.drep_injective
#print axioms Pyc.C01.Gov.voter_roundtrip
#print axioms Pyc.C01.Gov.voter_roundtrip_bytes
#print axioms Pyc.C01.Gov.voter_reencode
#print axioms Pyc.C01.Gov.voter_decoded_constructible
#print axioms Pyc.C01.Gov.voter_injective
#print axioms Pyc.C01.Gov.voter_code_table
#print axioms Pyc.C01.Gov.anchor_roundtrip
#print axioms Pyc.C01.Gov.anchor_roundtrip_bytes
#print axioms Pyc.C01.Gov.anchor_reencode
#print axioms Pyc.C01.Gov.anchor_injective
#print axioms Pyc.C01.Gov.vp_roundtrip
#print axioms Pyc.C01.Gov.vp_roundtrip_bytes
#print axioms Pyc.C01.Gov.vp_reencode
#print axioms Pyc.C01.Gov.vp_injective
#print axioms Pyc.C01.Gov.vp_anchor_kept
#print axioms Pyc.C01.Gov.gaid_roundtrip
#print axioms Pyc.C01.Gov.gaid_roundtrip_bytes
#print axioms Pyc.C01.Gov.gaid_reencode
#print axioms Pyc.C01.Gov.gaid_injective
#print axioms Pyc.C01.Gov.hardfork_roundtrip
#print axioms Pyc.C01.Gov.hardfork_roundtrip_anyint
#print axioms Pyc.C01.Gov.hardfork_roundtrip_bytes
#print axioms Pyc.C01.Gov.hardfork_reencode
#print axioms Pyc.C01.Gov.hardfork_injective
#print axioms Pyc.C01.Gov.votes_roundtrip
#print axioms Pyc.C01.Gov.vps_roundtrip
#print axioms Pyc.C01.Gov.vps_roundtrip_pyeq
#print axioms Pyc.C01.Gov.vps_roundtrip_bytes
#print axioms Pyc.C01.Gov.vps_reencode
#print axioms Pyc.C01.Gov.vps_order_independent
#print axioms Pyc.C01.Gov.vps_canonical_order
#print axioms Pyc.C01.Gov.vps_injective
#print axioms Pyc.C01.Gov.votes_injective
#print axioms Pyc.C01.Gov.poolid_roundtrip
#print axioms Pyc.C01.Gov.poolid_roundtrip_bytes
#print axioms Pyc.C01.Gov.poolid_injective
#print axioms Pyc.C01.Gov.poolid_ascii
#print axioms Pyc.C01.Gov.poolid_of_bytes
