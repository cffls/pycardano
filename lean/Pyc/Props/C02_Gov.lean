import Pyc.Proofs.Gov

/-! # C02 (extension `Gov`) — credentials and governance items are written as the Conway CDDL prescribes

`Spec/Gov.lean` is a hand transliteration of the CDDL rules `credential`, `drep`, `voter`, `anchor`, `vote`,
`voting_procedure`, `gov_action_id`, `voting_procedures`, `hard_fork_initiation_action`, written independently of the
model (`Model/Gov.lean`, which transliterates the Python): each rule as an encoder from the rule's abstract syntax and as
a recogniser of items.  For every class `X`:

* `X_conforms`      `x.toItem = (abs x).enc` and `(abs x).ok`: the item the code writes for a well-formed object is the
                    one the rule denotes for the object's content, and that content is within the rule's size limits
* `X_valid`         the recogniser accepts what the code writes
* `X_accepts_cddl`  the decoder accepts EVERY item the rule admits, returns a well-formed object, and that object is
                    written back as the same item (no conforming item is refused or altered)
* `spec_X_iff`      the two renderings of the rule in the specification agree (recogniser = image of the encoder)

Where the library enforces less than the CDDL, the unrestricted statement is false of the code and is kept as a
`…_goal` with a counterexample: `DRep` (kind and credential unrelated), `Anchor` (`url = text .size (0 .. 128)` is not
checked), `VotingProcedures` (`{+ …}`: the library writes empty maps). -/

namespace Pyc.C02.Gov
open Pyc.Cbor Pyc.Gov

/-! ## credential = [0, addr_keyhash // 1, script_hash] -/

theorem cred_conforms (c : Cred) (h : c.wf = true) : c.toItem = (Cred.abs c).enc ∧ (Cred.abs c).ok = true := cred_abs c h

theorem cred_valid (c : Cred) (h : c.wf = true) : Spec.Gov.isCredential c.toItem = true :=
  (Spec.Gov.isCredential_iff _).2 ⟨_, (cred_abs c h).2, (cred_abs c h).1.symm⟩

theorem cred_accepts_cddl (i : Item) (h : Spec.Gov.isCredential i = true) :
    ∃ c : Cred, c.wf = true ∧ Cred.fromItem i = .ok c ∧ c.toItem = i :=
  complete_of Cred.ofSpec (fun s => by cases s <;> rfl) (fun s => by cases s <;> exact id) cred_rt
    ((Spec.Gov.isCredential_iff i).1 h)

theorem spec_credential_iff (i : Item) :
    Spec.Gov.isCredential i = true ↔ ∃ x : Spec.Gov.Credential, x.ok = true ∧ x.enc = i :=
  Spec.Gov.isCredential_iff i

/-- the decoder is more lenient than the rule (a boolean for the kind, extra items): accepted, not conforming -/
theorem cred_decoder_lenient :
    (∃ c, Cred.fromItem (.array [.simple 20, .bytes (List.replicate 28 0)]) = .ok c) ∧
    Spec.Gov.isCredential (.array [.simple 20, .bytes (List.replicate 28 0)]) = false ∧
    (∃ c, Cred.fromItem (.array [.uint 1, .bytes (List.replicate 28 0), .uint 9]) = .ok c) ∧
    Spec.Gov.isCredential (.array [.uint 1, .bytes (List.replicate 28 0), .uint 9]) = false := by
  exact ⟨⟨⟨true, .bytes (List.replicate 28 0)⟩, rfl⟩, by decide, ⟨⟨false, .bytes (List.replicate 28 0)⟩, rfl⟩, by decide⟩

/-! ## drep = [0, addr_keyhash // 1, script_hash // 2 // 3] -/

/-- the full statement: whatever `DRep` the constructor accepts is written as a `drep` -/
def drep_conformance_goal : Prop := ∀ d : DRep, d.typed = true → Spec.Gov.isDRep d.toItem = true

/-- … it is when the kind decides whether there is a credential (its class is not on the wire) -/
theorem drep_conforms (d : DRep) (ht : d.typed = true) (ha : d.arityOk = true) :
    d.toItem = (DRep.abs d).enc ∧ (DRep.abs d).ok = true := drep_abs d ht ha

theorem drep_valid_partial (d : DRep) (ht : d.typed = true) (ha : d.arityOk = true) : Spec.Gov.isDRep d.toItem = true :=
  (Spec.Gov.isDRep_iff _).2 ⟨_, (drep_abs d ht ha).2, (drep_abs d ht ha).1.symm⟩

/-- `DRep(ALWAYS_ABSTAIN, VerificationKeyHash(…))` is written `[2, h]`, `DRep(VERIFICATION_KEY_HASH)` is written `[0]` -/
theorem drep_conformance_counterexample : ¬ drep_conformance_goal := by
  intro h
  have := h ⟨.alwaysAbstain, some (true, .bytes (List.replicate 28 0))⟩ rfl
  simp [DRep.toItem, DRepKind.code, Spec.Gov.isDRep] at this

theorem drep_conformance_counterexample_short :
    (⟨.keyHash, Option.none⟩ : DRep).typed = true ∧ Spec.Gov.isDRep (⟨.keyHash, Option.none⟩ : DRep).toItem = false := by
  decide

/-- exactly the arity condition: a typed `DRep` is written as a `drep` iff kind and arity agree -/
theorem drep_valid_iff (d : DRep) (ht : d.typed = true) : Spec.Gov.isDRep d.toItem = true ↔ d.arityOk = true := by
  constructor
  · intro h
    obtain ⟨k, c⟩ := d
    rcases c with _ | ⟨key, p⟩ <;> cases k <;> first | rfl | exact Bool.noConfusion h
  · exact drep_valid_partial d ht

theorem drep_accepts_cddl (i : Item) (h : Spec.Gov.isDRep i = true) :
    ∃ d : DRep, d.typed = true ∧ d.coherent = true ∧ DRep.fromItem i = .ok d ∧ d.toItem = i :=
  let ⟨d, ⟨ht, hc⟩, hr⟩ := complete_of (wf := fun d : DRep => d.typed = true ∧ d.coherent = true) DRep.ofSpec
    (fun s => by cases s <;> rfl) (fun s hs => by cases s <;> exact ⟨hs, rfl⟩) (fun d hd => drep_rt d hd.1 hd.2)
    ((Spec.Gov.isDRep_iff i).1 h)
  ⟨d, ht, hc, hr⟩

theorem spec_drep_iff (i : Item) : Spec.Gov.isDRep i = true ↔ ∃ x : Spec.Gov.DRep, x.ok = true ∧ x.enc = i :=
  Spec.Gov.isDRep_iff i

/-! ## voter = [0 / 1 committee key / script, 2 / 3 drep key / script, 4 stake pool key; hash28] -/

theorem voter_conforms (v : Voter) (h : v.wf = true) : v.toItem = (Voter.abs v).enc ∧ (Voter.abs v).ok = true := voter_abs v h

theorem voter_valid (v : Voter) (h : v.wf = true) : Spec.Gov.isVoter v.toItem = true :=
  (Spec.Gov.isVoter_iff _).2 ⟨_, (voter_abs v h).2, (voter_abs v h).1.symm⟩

theorem voter_accepts_cddl (i : Item) (h : Spec.Gov.isVoter i = true) :
    ∃ v : Voter, v.wf = true ∧ Voter.fromItem i = .ok v ∧ v.toItem = i :=
  complete_of Voter.ofSpec (fun s => by cases s <;> rfl)
    (fun s hs => by cases s <;> exact Bool.and_eq_true_iff.2 ⟨hs, rfl⟩) voter_rt ((Spec.Gov.isVoter_iff i).1 h)

theorem spec_voter_iff (i : Item) : Spec.Gov.isVoter i = true ↔ ∃ x : Spec.Gov.Voter, x.ok = true ∧ x.enc = i :=
  Spec.Gov.isVoter_iff i

/-! ## anchor = [url, hash32], voting_procedure = [vote, anchor / nil] -/

/-- the full statement: every anchor the library serializes is an `anchor` -/
def anchor_conformance_goal : Prop := ∀ a : Anchor, a.wf = true → Spec.Gov.isAnchor a.toItem = true

theorem anchor_conforms (a : Anchor) (h : a.wf = true) (hu : a.urlOk = true) :
    a.toItem = (Anchor.abs a).enc ∧ (Anchor.abs a).ok = true := anchor_abs a h hu

theorem anchor_valid_partial (a : Anchor) (h : a.wf = true) (hu : a.urlOk = true) : Spec.Gov.isAnchor a.toItem = true :=
  (Spec.Gov.isAnchor_iff _).2 ⟨_, (anchor_abs a h hu).2, (anchor_abs a h hu).1.symm⟩

/-- `url = text .size (0 .. 128)`: a url of 129 bytes is accepted by the constructor, `validate` and the encoder -/
theorem anchor_conformance_counterexample : ¬ anchor_conformance_goal :=
  fun h => absurd (h ⟨List.replicate 129 120, List.replicate 32 0⟩ rfl) (by decide +kernel)

theorem anchor_accepts_cddl (i : Item) (h : Spec.Gov.isAnchor i = true) :
    ∃ a : Anchor, a.wf = true ∧ Anchor.fromItem i = .ok a ∧ a.toItem = i :=
  complete_of Anchor.ofSpec (fun _ => rfl) (fun _ hs => (Bool.and_eq_true_iff.1 hs).2) anchor_rt
    ((Spec.Gov.isAnchor_iff i).1 h)

theorem spec_anchor_iff (i : Item) : Spec.Gov.isAnchor i = true ↔ ∃ x : Spec.Gov.Anchor, x.ok = true ∧ x.enc = i :=
  Spec.Gov.isAnchor_iff i

theorem vp_conforms (p : VotingProcedure) (h : p.wf = true) (hu : p.urlOk = true) :
    p.toItem = (VotingProcedure.abs p).enc ∧ (VotingProcedure.abs p).ok = true := vp_abs p h hu

theorem vp_valid (p : VotingProcedure) (h : p.wf = true) (hu : p.urlOk = true) : Spec.Gov.isVotingProcedure p.toItem = true :=
  (Spec.Gov.isVotingProcedure_iff _).2 ⟨_, (vp_abs p h hu).2, (vp_abs p h hu).1.symm⟩

theorem vp_accepts_cddl (i : Item) (h : Spec.Gov.isVotingProcedure i = true) :
    ∃ p : VotingProcedure, p.wf = true ∧ VotingProcedure.fromItem i = .ok p ∧ p.toItem = i :=
  complete_of VotingProcedure.ofSpec (fun ⟨v, a⟩ => by cases a <;> cases v <;> rfl)
    (fun ⟨v, a⟩ hs => by
      cases a with
      | none => rfl
      | some a => exact (Bool.and_eq_true_iff.1 hs).2)
    vp_rt ((Spec.Gov.isVotingProcedure_iff i).1 h)

theorem spec_vp_iff (i : Item) :
    Spec.Gov.isVotingProcedure i = true ↔ ∃ x : Spec.Gov.VotingProcedure, x.ok = true ∧ x.enc = i :=
  Spec.Gov.isVotingProcedure_iff i

/-! ## gov_action_id = [transaction_id, uint .size 2] -/

theorem gaid_conforms (g : GovActionId) (h : g.wf = true) : g.toItem = (GovActionId.abs g).enc ∧ (GovActionId.abs g).ok = true :=
  gaid_abs g h

theorem gaid_valid (g : GovActionId) (h : g.wf = true) : Spec.Gov.isGovActionId g.toItem = true :=
  (Spec.Gov.isGovActionId_iff _).2 ⟨_, (gaid_abs g h).2, (gaid_abs g h).1.symm⟩

theorem gaid_accepts_cddl (i : Item) (h : Spec.Gov.isGovActionId i = true) :
    ∃ g : GovActionId, g.wf = true ∧ GovActionId.fromItem i = .ok g ∧ g.toItem = i :=
  complete_of GovActionId.ofSpec (fun _ => rfl) GovActionId.ofSpec_wf gaid_rt ((Spec.Gov.isGovActionId_iff i).1 h)

theorem spec_gaid_iff (i : Item) :
    Spec.Gov.isGovActionId i = true ↔ ∃ x : Spec.Gov.GovActionId, x.ok = true ∧ x.enc = i :=
  Spec.Gov.isGovActionId_iff i

/-- the index is written in full: two ids that differ in the index are written differently, up to 65535 -/
theorem gaid_index_not_truncated (t : Item) (i j : Nat) (h : (⟨t, .uint i⟩ : GovActionId).toItem = (⟨t, .uint j⟩ : GovActionId).toItem) :
    i = j := by
  simpa [GovActionId.toItem] using h

/-! ## hard_fork_initiation_action = (1, gov_action_id / nil, [major, uint]) -/

theorem hardfork_conforms (x : HardFork) (h : x.wf = true) : x.toItem = (HardFork.abs x).enc ∧ (HardFork.abs x).ok = true :=
  hardfork_abs x h

theorem hardfork_valid (x : HardFork) (h : x.wf = true) : Spec.Gov.isHardFork x.toItem = true :=
  (Spec.Gov.isHardFork_iff _).2 ⟨_, (hardfork_abs x h).2, (hardfork_abs x h).1.symm⟩

/-- every conforming item whose major version is in the range the library supports (1..10) is accepted -/
theorem hardfork_accepts_cddl (i : Item) (h : Spec.Gov.isHardFork i = true)
    (hm : ∀ c p ma mi, i = .array [c, p, .array [.uint ma, mi]] → 1 ≤ ma ∧ ma ≤ 10) :
    ∃ x : HardFork, x.wf = true ∧ HardFork.fromItem i = .ok x ∧ x.toItem = i := by
  obtain ⟨s, hs, rfl⟩ := (Spec.Gov.isHardFork_iff i).1 h
  refine complete_of (ok := fun s : Spec.Gov.HardFork => s.ok = true ∧ 1 ≤ s.major ∧ s.major ≤ 10) HardFork.ofSpec
    (fun ⟨p, _, _⟩ => by cases p <;> rfl) (fun ⟨p, ma, mi⟩ ⟨hs, hr⟩ => ?_) hardfork_rt ⟨s, ⟨hs, hm _ _ _ _ rfl⟩, rfl⟩
  simp only [Spec.Gov.HardFork.ok, Bool.and_eq_true, decide_eq_true_eq] at hs
  refine HardFork.wf_iff.2 ⟨_, _, _, rfl, fun g e => ?_, hr, hs.2⟩
  cases p with
  | none => cases e
  | some g' =>
    cases e
    exact GovActionId.ofSpec_wf g' hs.1.1

theorem spec_hardfork_iff (i : Item) : Spec.Gov.isHardFork i = true ↔ ∃ x : Spec.Gov.HardFork, x.ok = true ∧ x.enc = i :=
  Spec.Gov.isHardFork_iff i

/-! ## voting_procedures = {+ voter => {+ gov_action_id => voting_procedure}} -/

/-- the full statement: every well-formed dict of dicts is written as `voting_procedures` -/
def vps_conformance_goal : Prop :=
  ∀ m : VotingProcedures, VotingProcedures.wf m = true → VotingProcedures.Distinct m →
    Spec.Gov.isVotingProcedures (VotingProcedures.toItem m) = true

/-- … it is when neither level is empty and the urls respect the size limit: a map without repeated keys, every key
a `voter` / `gov_action_id`, every value a `voting_procedure` -/
theorem vps_valid_partial (m : VotingProcedures) (hw : VotingProcedures.wf m = true) (hd : VotingProcedures.Distinct m)
    (hne : m ≠ []) (hne' : ∀ p ∈ m, p.2 ≠ []) (hu : ∀ p ∈ m, ∀ q ∈ p.2, q.2.urlOk = true) :
    Spec.Gov.isVotingProcedures (VotingProcedures.toItem m) = true := by
  unfold Spec.Gov.isVotingProcedures VotingProcedures.toItem
  apply table_valid _ _ _ _ m hne hd.1
  intro p hp
  have hwp := all_and_mem hw p hp
  refine ⟨voter_valid p.1 hwp.1, ?_⟩
  unfold GovVotes.toItem
  apply table_valid _ _ _ _ p.2 (hne' p hp) (hd.2 p hp)
  intro q hq
  have hwq := all_and_mem hwp.2 q hq
  exact ⟨gaid_valid q.1 hwq.1, vp_valid q.2 hwq.2 (hu p hp q hq)⟩

/-- the library writes an empty `VotingProcedures` as the empty map, which `{+ …}` does not admit -/
theorem vps_conformance_counterexample : ¬ vps_conformance_goal := by
  intro h
  have := h [] rfl ⟨by unfold DistinctKeys; decide, fun p hp => by cases hp⟩
  revert this
  decide

/-! ## non-vacuity -/

example : (⟨true, .bytes (List.replicate 28 7)⟩ : Cred).wf = true := by decide
example : Spec.Gov.isCredential (.array [.uint 1, .bytes (List.replicate 28 7)]) = true := by decide
example : Spec.Gov.isCredential (.array [.uint 2, .bytes (List.replicate 28 7)]) = false := by decide
example : Spec.Gov.isDRep (.array [.uint 3]) = true ∧ Spec.Gov.isDRep (.array [.uint 3, .bytes (List.replicate 28 7)]) = false := by decide
example : Spec.Gov.isVoter (.array [.uint 4, .bytes (List.replicate 28 7)]) = true ∧
    Spec.Gov.isVoter (.array [.uint 5, .bytes (List.replicate 28 7)]) = false := by decide
example : Spec.Gov.isGovActionId (.array [.bytes (List.replicate 32 1), .uint 65535]) = true ∧
    Spec.Gov.isGovActionId (.array [.bytes (List.replicate 32 1), .uint 65536]) = false := by decide
def exVPs : VotingProcedures :=
  [(⟨.drep, false, .bytes (List.replicate 28 7)⟩, [(⟨.bytes (List.replicate 32 1), .uint 300⟩, ⟨.yes, Option.none⟩)])]

example : Spec.Gov.isVotingProcedures (VotingProcedures.toItem exVPs) = true :=
  vps_valid_partial exVPs (by decide)
    ⟨by unfold DistinctKeys; decide, fun p hp => by
      simp only [exVPs, List.mem_cons, List.mem_nil_iff, or_false] at hp; subst hp; unfold DistinctKeys; decide⟩
    (by simp [exVPs]) (by simp [exVPs]) (by simp [exVPs, VotingProcedure.urlOk])

end Pyc.C02.Gov

#print axioms Pyc.C02.Gov.cred_conforms
#print axioms Pyc.C02.Gov.cred_valid
#print axioms Pyc.C02.Gov.cred_accepts_cddl
#print axioms Pyc.C02.Gov.spec_credential_iff
#print axioms Pyc.C02.Gov.cred_decoder_lenient
#print axioms Pyc.C02.Gov.drep_conforms
#print axioms Pyc.C02.Gov.drep_valid_partial
#print axioms Pyc.C02.Gov.drep_conformance_counterexample
#print axioms Pyc.C02.Gov.drep_conformance_counterexample_short
#print axioms Pyc.C02.Gov.drep_valid_iff
#print axioms Pyc.C02.Gov.drep_accepts_cddl
#print axioms Pyc.C02.Gov.spec_drep_iff
#print axioms Pyc.C02.Gov.voter_conforms
#print axioms Pyc.C02.Gov.voter_valid
#print axioms Pyc.C02.Gov.voter_accepts_cddl
#print axioms Pyc.C02.Gov.spec_voter_iff
#print axioms Pyc.C02.Gov.anchor_conforms
#print axioms Pyc.C02.Gov.anchor_valid_partial
#print axioms Pyc.C02.Gov.anchor_conformance_counterexample
#print axioms Pyc.C02.Gov.anchor_accepts_cddl
#print axioms Pyc.C02.Gov.spec_anchor_iff
#print axioms Pyc.C02.Gov.vp_conforms
#print axioms Pyc.C02.Gov.vp_valid
#print axioms Pyc.C02.Gov.vp_accepts_cddl
#print axioms Pyc.C02.Gov.spec_vp_iff
#print axioms Pyc.C02.Gov.gaid_conforms
#print axioms Pyc.C02.Gov.gaid_valid
#print axioms Pyc.C02.Gov.gaid_accepts_cddl
#print axioms Pyc.C02.Gov.spec_gaid_iff
#print axioms Pyc.C02.Gov.gaid_index_not_truncated
#print axioms Pyc.C02.Gov.hardfork_conforms
#print axioms Pyc.C02.Gov.hardfork_valid
#print axioms Pyc.C02.Gov.hardfork_accepts_cddl
#print axioms Pyc.C02.Gov.spec_hardfork_iff
#print axioms Pyc.C02.Gov.vps_valid_partial
#print axioms Pyc.C02.Gov.vps_conformance_counterexample
