import Pyc.Proofs.Redeemers

/-! # C11 — redeemers point at the items they unlock; scripts and datums are supplied

Model: `Pyc/Model/Redeemers.lean` (the sort of the selected inputs, `_set_redeemer_index`, the `add_*` methods,
`all_scripts` / `scripts` / `build_witness_set`, the automatic validity interval).  Specification:
`Pyc/Spec/Ranks.lean` (`rank` = number of strictly smaller elements in the ledger's order of the body field).

`build net st sel ev` is the part of `TransactionBuilder.build` after coin selection: `st` is the builder state after
the `add_*` calls, `sel` the additionally selected inputs, `ev` the evaluated execution units.  `bodyInputs st'.inputs`
and `bodyPolicies st'.mint` are what `_build_tx_body` makes the ledger see of the final state `st'`.

The model mirrors the code after two repairs (findings KF-C11-duplicate-input, KF-C11-zero-mint-policy): `add_input` /
`add_script_input` do not append a UTxO that is already an input, and `_set_redeemer_index` ranks the minting policies
over the normalised mint.  `spend_index_body` and `mint_index_body` are therefore stated for every call sequence and
every stored mint; `spend_index_needs_nodup` / `mint_index_needs_minted` keep the regression witnesses. -/

namespace Pyc.C11
open Pyc.Rd Pyc.Spec.Ranks

/-- lexicographic order of the lowercase-hex strings `str(transaction_id)` = bytewise order of the ids -/
theorem hex_order_iff_byte_order (a b : Bytes) : strLt (hexChars a) (hexChars b) = bytesLt a b :=
  Rd.hex_order_iff_byte_order a b

/-- the builder's sort key `(str(transaction_id), index)` induces the ledger's order of `TxIn` -/
theorem input_key_is_ledger_order (a b : TxIn) : keyLt a b = inLt a.toPair b.toPair := keyLt_eq_ledger a b

theorem sortInputs_perm (l : List TxIn) : (sortInputs l).Perm l := isort_perm _ _

/-- the inputs come out in non-decreasing ledger order -/
theorem sortInputs_sorted (l : List TxIn) :
    (sortInputs l).Pairwise (fun a b => inLt b.toPair a.toPair = false) := by
  rw [sortInputs_eq]
  exact sortBy_sorted inLt TxIn.toPair inLt_strictTotal l

/-- policy ids are hashes of one length (28 bytes), so their CBOR encodings share the head `58 1c`: the order of the
sort keys `x.to_cbor()` is the bytewise order of the hashes -/
theorem policy_key_order (a b : Bytes) (hl : a.length = b.length) :
    bytesLt (policyKey a) (policyKey b) = bytesLt a b := policyKey_order a b hl

/-- after `build`, the redeemer attached to input `u` carries the rank of `u` among *all* inputs of the transaction
(added by hand or selected), in the ledger's order — for any builder state whose input list together with the selection
names no UTxO twice (`hn`).  `spend_index_body` discharges `hn` for every state the calls can produce. -/
theorem spend_index (net : Nat) (st st' : St) (sel : List TxIn) (ev : Nat → Nat → Option (Int × Int))
    (hb : build net st sel ev = some st') (hn : (st.inputs ++ sel).Nodup) (u : TxIn) (r : Rdm)
    (hr : (u, r) ∈ st'.inRedeemers) (hu : u ∈ st.inputs ++ sel) :
    r.index = rank inLt u.toPair ((st.inputs ++ sel).map TxIn.toPair) := by
  obtain ⟨r0, _, h0⟩ := (build_some hb).spend u r hr
  rw [h0, spendIndex_sorted _ hn u hu]
  rfl

/-- **every call sequence keeps `self.inputs` free of repetitions** (repaired `add_input` / `add_script_input`):
whatever is added, however often and through whichever of the two methods -/
theorem inputs_nodup (ops : List Op) (st : St) (hr : run {} ops = some st) : st.inputs.Nodup := by
  rw [(run_effect ops {} st hr).inputs]
  exact nodup_foldl_addIfAbsent _ _ List.nodup_nil

/-- … and holds exactly the UTxOs that were added -/
theorem inputs_mem (ops : List Op) (st : St) (hr : run {} ops = some st) (u : TxIn) :
    u ∈ st.inputs ↔ u ∈ ops.flatMap opInputs := by
  rw [(run_effect ops {} st hr).inputs, mem_foldl_addIfAbsent]
  exact or_iff_right List.not_mem_nil

/-- every spending redeemer of the state belongs to an input: `add_script_input` registers the UTxO it is given -/
theorem redeemer_inputs (ops : List Op) (st : St) (hr : run {} ops = some st) :
    ∀ p ∈ st.inRedeemers, p.1 ∈ st.inputs := fun p hp =>
  ((run_effect ops {} st hr).inRedeemers p hp).elim (fun h => nomatch h) (inputs_mem ops st hr p.1).2

/-- **spending redeemers, for every call sequence**: after any `add_*` calls `ops` (a UTxO may be added any number of
times, by `add_input`, by `add_script_input`, or both) and `build`, every spending redeemer of the final state belongs
to an input of the body and carries the rank of that input among the inputs the body shows, in the ledger's order.
`hs` / `hd` describe the selection, not the calls: `build` offers the selectors a duplicate-free pool from which the
UTxOs already in `self.inputs` are removed (C09: `Pyc.C09.pool_spec`), and a selector returns a duplicate-free part of
its pool (`Pyc.C09.chain_ok`). -/
theorem spend_index_body (net : Nat) (ops : List Op) (st st' : St) (sel : List TxIn)
    (ev : Nat → Nat → Option (Int × Int)) (hr : run {} ops = some st) (hb : build net st sel ev = some st')
    (hs : sel.Nodup) (hd : ∀ u ∈ sel, u ∉ st.inputs) (u : TxIn) (r : Rdm) (hm : (u, r) ∈ st'.inRedeemers) :
    u ∈ bodyInputs st'.inputs ∧ r.index = rank inLt u.toPair ((bodyInputs st'.inputs).map TxIn.toPair) := by
  have hn : (st.inputs ++ sel).Nodup := by
    rw [List.nodup_append]
    exact ⟨inputs_nodup ops st hr, hs, fun a ha b hb e => hd b hb (e ▸ ha)⟩
  have hp : (sortInputs (st.inputs ++ sel)).Perm (st.inputs ++ sel) := sortInputs_perm _
  obtain ⟨r0, h0, _⟩ := (build_some hb).spend u r hm
  have hu : u ∈ st.inputs ++ sel := List.mem_append_left _ (redeemer_inputs ops st hr (u, r0) h0)
  rw [(build_some hb).inputs, bodyInputs_of_nodup _ (hp.symm.nodup hn)]
  refine ⟨hp.symm.subset hu, ?_⟩
  rw [rank_perm _ _ _ _ (hp.map TxIn.toPair)]
  exact spend_index net st st' sel ev hb hn u r hm hu

/-- regression witness of KF-C11-duplicate-input: `_set_redeemer_index` itself still numbers by position in the list,
so the statement rests on the list being free of repetitions.  On `[k, k, u]` (what `add_input(k)` twice and a script
input `u` after `k` left behind before the repair) the index is the list position 2, the body has two inputs and the
rank of `u` is 1. -/
theorem spend_index_needs_nodup :
    ¬ ∀ (l : List TxIn) (u : TxIn), u ∈ l →
      spendIndex u (sortInputs l) = some (rank inLt u.toPair ((bodyInputs l).map TxIn.toPair)) := by
  intro h
  have := h [⟨[0], 1⟩, ⟨[0], 1⟩, ⟨[0x5c], 0⟩] ⟨[0x5c], 0⟩ (by simp)
  revert this
  decide +kernel

/-- **minting redeemers, for every stored mint**: the index is the rank of the script's policy among the policies of
the body's mint field — the stored `self.mint` may hold policies without any non-zero quantity (assigned directly),
they are neither in the body nor counted.  `hw`: `self.mint` is a dict (distinct keys); `hl`: its keys are 28-byte
hashes (`ScriptHash`).  A minting redeemer whose policy the body does not mint makes `build` fail (`ValueError`), so
`build … = some st'` also yields that the policy is minted. -/
theorem mint_index (net : Nat) (st st' : St) (sel : List TxIn) (ev : Nat → Nat → Option (Int × Int))
    (hb : build net st sel ev = some st') (hw : Dict.WF st.mint) (hl : ∀ k ∈ Dict.keys st.mint, k.length = 28)
    (s : Script) (r : Rdm) (hr : (s, some r) ∈ st'.minting) :
    s.hash ∈ bodyPolicies st.mint ∧ r.index = rank policyLt s.hash (bodyPolicies st.mint) := by
  have hi := (build_some hb).minting s r hr
  have hmem : s.hash ∈ bodyPolicies st.mint := (isort_perm _ _).subset (indexOf?_mem _ _ _ hi)
  rw [mintIndex_rank 28 (bodyPolicies st.mint) (bodyPolicies_nodup _ hw)
    (fun k hk => hl k ((bodyPolicies_sublist st.mint).subset hk)) s.hash hmem] at hi
  exact ⟨hmem, (Option.some.inj hi).symm⟩

/-- the same against the final state, whose `mint` field is what `_build_tx_body` hands to the body -/
theorem mint_index_body (net : Nat) (st st' : St) (sel : List TxIn) (ev : Nat → Nat → Option (Int × Int))
    (hb : build net st sel ev = some st') (hw : Dict.WF st.mint) (hl : ∀ k ∈ Dict.keys st.mint, k.length = 28)
    (s : Script) (r : Rdm) (hr : (s, some r) ∈ st'.minting) :
    s.hash ∈ bodyPolicies st'.mint ∧ r.index = rank policyLt s.hash (bodyPolicies st'.mint) := by
  rw [(build_some hb).mint]
  exact mint_index net st st' sel ev hb hw hl s r hr

/-- the insertion order of the stored mint and its zero-quantity entries do not matter: two stored mints with the same
entries in any order give every policy the same index -/
theorem mint_index_insertion_order (m₁ m₂ : MultiAsset) (hp : m₁.Perm m₂) (hw : Dict.WF m₁)
    (hl : ∀ k ∈ Dict.keys m₁, k.length = 28) (h : Bytes) (hh : h ∈ bodyPolicies m₁) :
    mintIndex (bodyPolicies m₁) h = mintIndex (bodyPolicies m₂) h := by
  have pb := bodyPolicies_perm m₁ m₂ hp
  have pk : (Dict.keys m₁).Perm (Dict.keys m₂) := hp.map _
  have hw2 : Dict.WF m₂ := pk.nodup_iff.1 hw
  have hl2 : ∀ k ∈ Dict.keys m₂, k.length = 28 := fun k hk => hl k (pk.symm.subset hk)
  rw [mintIndex_rank 28 _ (bodyPolicies_nodup _ hw) (fun k hk => hl k ((bodyPolicies_sublist m₁).subset hk)) h hh,
    mintIndex_rank 28 _ (bodyPolicies_nodup _ hw2) (fun k hk => hl2 k ((bodyPolicies_sublist m₂).subset hk)) h
      (pb.subset hh),
    rank_perm _ _ _ _ pb]

/-- regression witness of KF-C11-zero-mint-policy: ranking over the *stored* keys (`sorted(self.mint.keys())`, the
expression before the repair) is not the rank in the body — a stored policy `01…` with quantity 0 is counted but is not
in the body, so the redeemer of policy `02…` would get index 1 instead of rank 0 -/
theorem mint_index_needs_minted :
    ¬ ∀ (mint : MultiAsset) (h : Bytes), Dict.WF mint → h ∈ bodyPolicies mint →
      mintIndex (Dict.keys mint) h = some (rank policyLt h (bodyPolicies mint)) := by
  intro h
  have := h [(List.replicate 28 1, [([0x61], 0)]), (List.replicate 28 2, [([0x61], 5)])] (List.replicate 28 2)
    (by unfold Dict.WF Dict.keys; decide +kernel) (by decide +kernel)
  revert this
  decide +kernel

/-- **reward redeemers**: the index is the rank of the script's reward account among *all* withdrawal keys in
bytewise order (which is the ledger's order when all accounts have one credential kind, see `Spec/Ranks.lean`) -/
theorem reward_index (net : Nat) (st st' : St) (sel : List TxIn) (ev : Nat → Nat → Option (Int × Int))
    (hb : build net st sel ev = some st') (hn : st.wdrlKeys.Nodup)
    (s : Script) (r : Rdm) (hr : (s, some r) ∈ st'.withdrawal) :
    rewardAccount net s.hash ∈ st.wdrlKeys ∧ r.index = rank accountLt (rewardAccount net s.hash) st.wdrlKeys := by
  have hi := (build_some hb).withdrawal s r hr
  have hmem : rewardAccount net s.hash ∈ st.wdrlKeys := (isort_perm _ _).subset (indexOf?_mem _ _ _ hi)
  rw [rewardIndex_rank net st.wdrlKeys hn s.hash hmem] at hi
  exact ⟨hmem, (Option.some.inj hi).symm⟩

/-- nothing is lost: every minting / withdrawal redeemer that was attached is present after `_set_redeemer_index` -/
theorem redeemers_kept (net : Nat) (st st' : St) (h : setRedeemerIndex net st = some st')
    (s : Script) (ra : Rdm) :
    ((s, some ra) ∈ st.minting → ∃ i, (s, some { ra with index := i }) ∈ st'.minting) ∧
    ((s, some ra) ∈ st.withdrawal → ∃ i, (s, some { ra with index := i }) ∈ st'.withdrawal) := by
  obtain ⟨m, w, hm, hw, rfl⟩ := setRedeemerIndex_some h
  constructor <;> intro hmem
  · obtain ⟨_, h2, i, _, rfl⟩ := Upd.mem_left (setIdx_upd _ _ _ hm) hmem; exact ⟨i, h2⟩
  · obtain ⟨_, h2, i, _, rfl⟩ := Upd.mem_left (setIdx_upd _ _ _ hw) hmem; exact ⟨i, h2⟩

/-- **certificate redeemers**: after any sequence of calls and `build`, the certificate redeemers (execution units
blanked) are exactly `certTrace`: the k-th `add_certificate_script` redeemer points at the certificate that was the
last one when the call was made (`certTrace_at` spells this out) -/
theorem cert_index (net : Nat) (ops : List Op) (st st' : St) (sel : List TxIn)
    (ev : Nat → Nat → Option (Int × Int)) (hr : run {} ops = some st) (hb : build net st sel ev = some st') :
    eraseUnits st'.certificate = certTrace 0 ops := by
  rw [(build_some hb).certificate, (run_effect ops {} st hr).eraseUnits_certificate]
  rfl

/-- reading of `certTrace`: a call `add_certificate_script(s, redeemer)` made after the calls `pre` contributes the
entry number `|certificate-script calls in pre|` with index `(number of certificates appended in pre) - 1`; a run
in which such a call is made with no certificate present does not exist (`run` fails, the Python asserts) -/
theorem certTrace_at (pre post : List Op) (s : Script) (ref : Option TxIn) (rd : Rdm) :
    certTrace 0 (pre ++ .certificateScript s ref (some rd) :: post) =
      certTrace 0 pre ++
        (s, some { tag := 2, index := pre.countP opIsCert - 1, data := rd.data, mem := 0, steps := 0 }) ::
        certTrace (pre.countP opIsCert) post := by
  rw [certTrace_append, Nat.zero_add]
  rfl

theorem cert_needs_certificate (st : St) (s : Script) (ref : Option TxIn) (rd : Rdm) (h : st.nCerts = 0) :
    apply st (.certificateScript s ref (some rd)) = none := by
  simp [apply, h]

/-- **order independence**: any permutation of the calls leaves the set of inputs and accounts — hence every spend /
reward index — unchanged; a permutation that keeps the relative order of the assignments to `builder.mint` (the last
one wins) leaves every mint index unchanged (`mint_index_insertion_order`: so does re-ordering the entries of the
mint); a permutation that keeps the relative order of the certificate-related calls also leaves the certificate
redeemers unchanged -/
theorem order_indep (ops₁ ops₂ : List Op) (hp : ops₁.Perm ops₂) (s₁ s₂ : St)
    (h1 : run {} ops₁ = some s₁) (h2 : run {} ops₂ = some s₂) (sel : List TxIn) (net : Nat)
    (hs : sel.Nodup) (hd : ∀ u ∈ sel, u ∉ s₁.inputs) :
    (∀ u ∈ s₁.inputs ++ sel,
        spendIndex u (sortInputs (s₁.inputs ++ sel)) = spendIndex u (sortInputs (s₂.inputs ++ sel))) ∧
    (ops₁.filter isMintSet = ops₂.filter isMintSet →
        ∀ h, mintIndex (bodyPolicies s₁.mint) h = mintIndex (bodyPolicies s₂.mint) h) ∧
    (∀ h, rewardAccount net h ∈ s₁.wdrlKeys → rewardIndex net s₁.wdrlKeys h = rewardIndex net s₂.wdrlKeys h) ∧
    (ops₁.filter certRelated = ops₂.filter certRelated →
        eraseUnits s₁.certificate = eraseUnits s₂.certificate) := by
  have n1 := inputs_nodup ops₁ s₁ h1
  have n2 := inputs_nodup ops₂ s₂ h2
  have pi : s₁.inputs.Perm s₂.inputs := by
    rw [List.perm_ext_iff_of_nodup n1 n2]
    intro u; rw [inputs_mem ops₁ s₁ h1, inputs_mem ops₂ s₂ h2, (hp.flatMap_right opInputs).mem_iff]
  have pin : (s₁.inputs ++ sel).Perm (s₂.inputs ++ sel) := pi.append_right sel
  have hn : (s₁.inputs ++ sel).Nodup := by
    rw [List.nodup_append]
    exact ⟨n1, hs, fun a ha b hb e => hd b hb (e ▸ ha)⟩
  have e1 := run_effect ops₁ {} s₁ h1
  have e2 := run_effect ops₂ {} s₂ h2
  have w1 : s₁.wdrlKeys.Nodup := by rw [e1.wdrlKeys]; exact nodup_foldl_addIfAbsent _ _ List.nodup_nil
  have w2 : s₂.wdrlKeys.Nodup := by rw [e2.wdrlKeys]; exact nodup_foldl_addIfAbsent _ _ List.nodup_nil
  have pw : s₁.wdrlKeys.Perm s₂.wdrlKeys := by
    rw [List.perm_ext_iff_of_nodup w1 w2]
    intro k
    rw [e1.wdrlKeys, e2.wdrlKeys, mem_foldl_addIfAbsent, mem_foldl_addIfAbsent, (hp.flatMap_right opWdrl).mem_iff]
  refine ⟨?_, ?_, ?_, ?_⟩
  · intro u hu
    rw [spendIndex_sorted _ hn u hu, spendIndex_sorted _ (pin.nodup_iff.1 hn) u (pin.subset hu)]
    rw [rank_perm _ _ _ _ (pin.map TxIn.toPair)]
  · intro hf h
    rw [e1.mint, e2.mint, ← mintTrace_filter _ ops₁, ← mintTrace_filter _ ops₂, hf]
  · intro h hh
    rw [rewardIndex_rank net _ w1 h hh, rewardIndex_rank net _ w2 h (pw.subset hh), rank_perm _ _ _ _ pw]
  · intro hf
    rw [e1.eraseUnits_certificate, e2.eraseUnits_certificate, ← certTrace_filter _ ops₁, ← certTrace_filter _ ops₂, hf]

/-- **every needed script exactly once**: a script hash the transaction needs (`all_scripts`) is in the witness set
exactly once — under the language list of its own kind — unless a reference input or (with `remove_dup_script`, as
`build_and_sign` calls it) a spent input carries it, in which case it is not in the witness set at all -/
theorem script_once (st : St) (useMap removeDup : Bool) (carried : TxIn → Option Script) (h : Bytes)
    (hh : Dict.has (allScripts st) h = true) :
    let w := buildWitnessSet st useMap removeDup carried
    (w.hashes.count h =
      if (st.refScripts.any fun s => s.hash == h) || (carriedHashes st removeDup carried).contains h then 0 else 1) ∧
    (∀ s ∈ w.native, s.kind = .native) ∧ (∀ s ∈ w.v1, s.kind = .v1 ∨ s.kind = .raw) ∧
    (∀ s ∈ w.v2, s.kind = .v2) ∧ (∀ s ∈ w.v3, s.kind = .v3) := by
  refine ⟨witness_count st useMap removeDup carried h hh, ?_, ?_, ?_, ?_⟩ <;>
    intro s hs <;> simp only [buildWitnessSet, List.mem_filter] at hs <;> simpa using hs.2

/-- **datums supplied**: the datum passed to any `add_script_input` call is a key of the datum dict of the final
state, and that dict is what the witness set ships under key 4 -/
theorem datums_present (net : Nat) (ops : List Op) (st st' : St) (sel : List TxIn)
    (ev : Nat → Nat → Option (Int × Int)) (hr : run {} ops = some st) (hb : build net st sel ev = some st')
    (u : TxIn) (s : Script) (src : Src) (d : Bytes × Bytes) (r : Option Rdm)
    (hop : .scriptInput u s src (some d) r ∈ ops) (useMap removeDup : Bool) (carried : TxIn → Option Script) :
    Dict.has st'.datums d.1 = true ∧
      (buildWitnessSet st' useMap removeDup carried).plutusData = some (encDatums st'.datums) := by
  have hd' : Dict.has st'.datums d.1 = true := by
    rw [(build_some hb).datums, (run_effect ops {} st hr).datums, Dict.has_foldl_set, Bool.or_eq_true]
    exact Or.inr (List.any_eq_true.2 ⟨d, List.mem_filterMap.2 ⟨_, hop, rfl⟩, decide_eq_true rfl⟩)
  refine ⟨hd', ?_⟩
  have hne : st'.datums.isEmpty = false := by
    cases hx : st'.datums with
    | nil => rw [hx] at hd'; cases hd'
    | cons _ _ => rfl
  show (if st'.datums.isEmpty then none else some (encDatums st'.datums)) = _
  rw [hne]
  rfl

/-- **validity interval**: set automatically (smart transaction, nothing given by the user) it is
`[max 0 (slot - 1000), slot + 10000]` and contains the current slot -/
theorem validity_contains_slot (slot : Int) (hs : 0 ≤ slot) :
    ∃ a b, autoInterval true none none none none slot = (some a, some b) ∧
      a = max 0 (slot - 1000) ∧ b = slot + 10000 ∧ a ≤ slot ∧ slot ≤ b := by
  refine ⟨max 0 (slot - 1000), slot + 10000, ?_, rfl, rfl, Int.max_le.2 ⟨hs, Int.sub_le_self slot (by decide)⟩,
    Int.le_add_of_nonneg_right (by decide)⟩
  show (some (max 0 (slot + -1000)), some (max 0 (slot + 10000))) = _
  rw [Int.max_eq_right (a := 0) (b := slot + 10000) (Int.add_nonneg hs (by decide))]
  rfl

/-- with user-supplied offsets the slot is still inside as long as the start offset is ≤ 0 ≤ the ttl offset -/
theorem validity_contains_slot_offsets (isSmart : Bool) (slot oS oT : Int) (hs : 0 ≤ slot) (h1 : oS ≤ 0) (h2 : 0 ≤ oT) :
    ∃ a b, autoInterval isSmart none none (some oS) (some oT) slot = (some a, some b) ∧ a ≤ slot ∧ slot ≤ b := by
  refine ⟨max 0 (slot + oS), max 0 (slot + oT), ?_, Int.max_le.2 ⟨hs, Int.le_trans (Int.add_le_add_left h1 slot) (Int.le_of_eq (Int.add_zero slot))⟩,
    Int.le_trans (Int.le_add_of_nonneg_right h2) (Int.le_max_right _ _)⟩
  simp only [autoInterval, Option.isSome_some, Bool.or_true, Option.isNone_none, Bool.and_self, if_true,
    Option.getD_some]

/-- the interval is set exactly for smart transactions: `is_smart = bool(all_scripts)` -/
theorem validity_only_smart (slot : Int) : autoInterval false none none none none slot = (none, none) := by
  simp [autoInterval]

/-! ## non-vacuity: a concrete run with three inputs whose call order differs from the ledger order, a key input in
between that is added twice, a script input that is first added as a plain input, a stored mint with two minted policies
and one zero-quantity policy that sorts first, two withdrawals and a certificate script -/

def exScript (k : Kind) (b : UInt8) : Script := ⟨k, List.replicate 28 b⟩
def exIn (b : UInt8) (i : Nat) : TxIn := ⟨List.replicate 32 b, i⟩
def exR (d : UInt8) : Rdm := ⟨0, 0, [d], 0, 0⟩

def exOps : List Op :=
  [ .addInput (exIn 0x5c 0), .addInput (exIn 0xab 1),
    .scriptInput (exIn 0xab 1) (exScript .v2 1) .witness (some ([7], [0x18, 0x2a])) (some (exR 1)),
    .mintSet [(List.replicate 28 9, [([0x61], 2)]), (List.replicate 28 1, [([0x7a], 0)]),
              (List.replicate 28 3, [([], 0), ([0x62], -1)])],
    .addInput (exIn 0x5c 0),
    .mintingScript (exScript .v1 9) none (some (exR 2)),
    .scriptInput (exIn 0x0f 2) (exScript .v3 2) (.ref (exIn 0x77 0)) none (some (exR 3)),
    .withdraw (rewardAccount 0 (List.replicate 28 8)), .withdraw (rewardAccount 0 (List.replicate 28 4)),
    .withdrawalScript (exScript .v2 8) none (some (exR 4)),
    .cert, .cert, .certificateScript (exScript .v2 1) none (some (exR 5)) ]

def exResult : Option (List (List Nat)) :=
  match run {} exOps with
  | none => none
  | some st =>
    match build 0 st [exIn 0xab 0] (fun _ _ => some (10, 20)) with
    | none => none
    | some st' =>
      some [st'.inRedeemers.flatMap (fun p => [p.1.ix, p.2.index]), st'.minting.map (fun p => (p.2.map (·.index)).getD 99),
            st'.withdrawal.map (fun p => (p.2.map (·.index)).getD 99),
            st'.certificate.map (fun p => (p.2.map (·.index)).getD 99),
            (redeemerList st').flatMap (fun r => [r.mem.toNat, r.steps.toNat]),
            (buildWitnessSet st' true true (fun _ => none)).hashes.map (fun h => (h.headD 0).toNat)]

/-- the run succeeds, the hypotheses of `spend_index_body` / `mint_index_body` / `reward_index` hold for it, and the
indices are the ranks: inputs in ledger order are 0f…#2, 5c…#0 (key input, added twice, one input), ab…#0 (selected),
ab…#1 (added by `add_input` and by `add_script_input`, one input); minted policies are 03…, 09… (01… holds only a zero) -/
example : exResult = some [[1, 3, 2, 0], [1], [1], [1], [10, 20, 10, 20, 10, 20, 10, 20, 10, 20], [9, 1, 8]] := by
  decide +kernel

example : ∃ st, run {} exOps = some st ∧ st.inputs.length = 3 ∧ [exIn 0xab 0].Nodup ∧
    (∀ u ∈ [exIn 0xab 0], u ∉ st.inputs) ∧ Dict.WF st.mint ∧ (∀ k ∈ Dict.keys st.mint, k.length = 28) ∧
    bodyPolicies st.mint = [List.replicate 28 9, List.replicate 28 3] ∧ st.wdrlKeys.Nodup ∧ st.nCerts = 2 := by
  refine ⟨_, rfl, ?_, ?_, ?_, ?_, ?_, ?_, ?_, ?_⟩ <;> (try unfold Dict.WF Dict.keys) <;> decide +kernel

/-- the recorded witnesses of the two repaired findings, as call sequences (harness: `DUPLICATE_INPUT`,
`ZERO_MINT_POLICY`): `add_input(0a…#1)` twice, then the script input `5c…#0`, then `ff…#0` — the body has three inputs
and the redeemer says 1; a stored mint `{01…: {7a: 0}, 02…: {61: 1}}` and the policy script `02…` — the redeemer says 0 -/
def exWitness : Option (List Nat × List Nat) :=
  match run {} [ .addInput (exIn 0x0a 1), .addInput (exIn 0x0a 1),
                 .scriptInput (exIn 0x5c 0) (exScript .v2 1) .witness (some ([7], [0x18, 0x2a])) (some (exR 1)),
                 .addInput (exIn 0xff 0),
                 .mintSet [(List.replicate 28 1, [([0x7a], 0)]), (List.replicate 28 2, [([0x61], 1)])],
                 .mintingScript (exScript .v2 2) none (some (exR 2)) ] with
  | none => none
  | some st =>
    match build 0 st [] (fun _ _ => some (10, 20)) with
    | none => none
    | some st' =>
      some ((bodyInputs st'.inputs).map (·.ix) ++ st'.inRedeemers.map (·.2.index),
            [(bodyPolicies st'.mint).length] ++ st'.minting.map (fun p => (p.2.map (·.index)).getD 99))

example : exWitness = some ([1, 0, 0, 1], [1, 0]) := by decide +kernel

end Pyc.C11

#print axioms Pyc.C11.hex_order_iff_byte_order
#print axioms Pyc.C11.input_key_is_ledger_order
#print axioms Pyc.C11.sortInputs_perm
#print axioms Pyc.C11.sortInputs_sorted
#print axioms Pyc.C11.policy_key_order
#print axioms Pyc.C11.spend_index
#print axioms Pyc.C11.inputs_nodup
#print axioms Pyc.C11.inputs_mem
#print axioms Pyc.C11.redeemer_inputs
#print axioms Pyc.C11.spend_index_body
#print axioms Pyc.C11.spend_index_needs_nodup
#print axioms Pyc.C11.mint_index
#print axioms Pyc.C11.mint_index_body
#print axioms Pyc.C11.mint_index_insertion_order
#print axioms Pyc.C11.mint_index_needs_minted
#print axioms Pyc.C11.reward_index
#print axioms Pyc.C11.redeemers_kept
#print axioms Pyc.C11.cert_index
#print axioms Pyc.C11.certTrace_at
#print axioms Pyc.C11.cert_needs_certificate
#print axioms Pyc.C11.order_indep
#print axioms Pyc.C11.script_once
#print axioms Pyc.C11.datums_present
#print axioms Pyc.C11.validity_contains_slot
#print axioms Pyc.C11.validity_contains_slot_offsets
#print axioms Pyc.C11.validity_only_smart
