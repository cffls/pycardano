import Pyc.Proofs.Typed
import Pyc.Proofs.CustomCodec
import Pyc.Generated.Schema

/-! # C01 — decoding an encoded ledger object returns an equal object

* **T1 obligations**: the table `repoSchema` is regenerated from /repo's live classes on every run; the kernel
  re-checks that it is well-formed and that the big unions dispatch unambiguously.
* **generic theorem**: for *every* schema table `S` and every value typed by `HasType S` (integers in the 64-bit
  ranges, bytes, text, bool, `None`, rationals, lists, ordered sets with their tag flag, ordered unions, hash
  classes, enums, array / coded / map classes restored by the generic code, classes with their own codec as opaque
  primitives), decoding the encoding returns the value and re-encoding returns the bytes — with no bound on size or
  nesting.  The side condition of an ordered union (every alternative before the typing one answers
  `DeserializeException` on the value's image) is a premise of the typing rule `HasType.union`, per value;
  `unionOK_coded` provides it for unions of coded classes with distinct codes (the certificate and governance-action
  unions) and the executable check `typedB` discharges it for any concrete value by running those alternatives.
Classes with a hand-written codec are opaque in the generic theorem; `Value` / `MultiAsset` / `Asset`,
`TransactionOutput` and the decode-time normalisation of `TransactionBody` have their own models and theorems below
(`Model/CustomCodec.lean`, `Proofs/CustomCodec.lean`). -/

namespace Pyc.C01
open Pyc.Codec Pyc.Cbor Pyc.Schema Pyc.Generated Pyc.Custom

/-- the regenerated table is well-formed: class names unique, map keys unique per class, optional positional fields
trailing, every referenced class defined -/
theorem repo_schema_wf : wf repoSchema = true := by decide +kernel

/-- names of non-codec types occurring in a type term -/
def namedIn : Ty → List String
  | .named n => [n]
  | .list t => namedIn t
  | .dict k v => namedIn k ++ namedIn v
  | .oset t _ => namedIn t
  | .tuple ts => namedInList ts
  | .union ts => namedInList ts
  | _ => []
where namedInList : List Ty → List String
  | [] => []
  | t :: ts => namedIn t ++ namedInList ts

/-- every type hint of the regenerated table is one the typed restorer understands: the only non-codec type names are
the three it special-cases. A hint it does not understand (e.g. a PEP 604 `X | None`, which has no `__origin__`) is
rendered by the translator as another `named` type — the field could then be written but never read back -/
theorem repo_hints_understood :
    (repoSchema.all fun cd => cd.fields.all fun f =>
      (namedIn f.ty).all fun n => ["CBORTag", "IndefiniteList", "RawCBOR", "ByteString"].contains n) = true := by
  decide +kernel

def namedUnion (n : String) : List Ty :=
  match repoUnions.find? (fun r => r.1 == n) with
  | some (_, .union ts) => ts
  | _ => []

/-- the certificate union consists of coded classes with pairwise distinct codes -/
theorem certificate_union_unambiguous : codedUnionOK repoSchema (namedUnion "Certificate") = true := by decide +kernel
/-- … and so does the governance-action union -/
theorem govaction_union_unambiguous : codedUnionOK repoSchema (namedUnion "GovAction") = true := by decide +kernel

/-- **generic round trip** (any schema, any typed value, any size): decode ∘ encode = id -/
theorem codec_roundtrip (S : List ClassDef) (t : Ty) (v : Val) (h : HasType S t v) :
    ∃ N, ∀ fuel, N ≤ fuel → fromPrim S fuel t (toPrim S v) = .ok v := rt_all h

/-- … and serializing the decoded object again yields the same bytes -/
theorem codec_reencode (S : List ClassDef) (t : Ty) (v : Val) (h : HasType S t v) :
    ∃ N, ∀ fuel, N ≤ fuel → ∃ v', fromPrim S fuel t (toPrim S v) = .ok v' ∧ encodeVal S v' = encodeVal S v := by
  obtain ⟨N, hN⟩ := rt_all h
  exact ⟨N, fun fuel hf => ⟨v, hN fuel hf, rfl⟩⟩

/-- the union side condition as ONE global hypothesis over all unions, all alternatives and all values: whatever types at
an alternative is refused by every alternative listed before it -/
def GlobalUnionCondition (S : List ClassDef) : Prop :=
  ∀ (pre : List Ty) (t : Ty) (_post : List Ty) (v : Val), HasType S t v →
    ∀ t' ∈ pre, ∃ N, ∀ fuel, N ≤ fuel → fromPrim S fuel t' (toPrim S v) = .deser

/-- … it is unsatisfiable for every table (`Any` rejects nothing), so a theorem that assumes it says nothing: the side
condition is a premise of `HasType.union`, stated for the value and the union occurrence at hand -/
theorem global_union_condition_unsatisfiable (S : List ClassDef) : ¬ GlobalUnionCondition S := by
  intro h
  obtain ⟨N, hN⟩ := h [.any] .int [] (.int 0) (HasType.int (by unfold IntOk; omega)) .any (by simp)
  cases hN (N+1) (by omega)

/-- unions of generic coded classes with pairwise distinct codes satisfy the union side condition, whatever the
declaration order of the alternatives: this PROVIDES the premise of `HasType.union` for such unions -/
theorem union_side_condition_coded (S : List ClassDef) (ts : List Ty) (ks : List Nat) (hc : CodedAlts S ts ks)
    (hd : ks.Nodup) (pre : List Ty) (t : Ty) (post : List Ty) (he : ts = pre ++ t :: post) (v : Val)
    (hv : HasType S t v) : ∀ t' ∈ pre, ∃ N, ∀ fuel, N ≤ fuel → fromPrim S fuel t' (toPrim S v) = .deser :=
  unionOK_coded ts ks hc hd pre t post he v hv

/-- classes of the regenerated table the generic theorem covers as table-driven objects (a lower bound: classes added
later do not disturb it; a listed class that acquires its own codec or a shape outside the theorem does) -/
def coreNames : List String :=
    ["Anchor", "AuthCommitteeHotCertificate", "DRepVotingThresholds", "ExUnitPrices", "ExecutionUnits", "InfoAction",
     "NewConstitution", "NoConfidence", "ParameterChangeAction", "PoolMetadata", "PoolRetirement", "PoolVotingThresholds",
     "ProposalProcedure", "ProtocolParamUpdate", "RegDRepCert", "ResignCommitteeColdCertificate", "StakeAndVoteDelegation",
     "StakeDelegation", "StakeDeregistration", "StakeDeregistrationConway", "StakeRegistration",
     "StakeRegistrationAndDelegation", "StakeRegistrationAndDelegationAndVoteDelegation",
     "StakeRegistrationAndVoteDelegation", "StakeRegistrationConway", "Transaction", "TransactionInput",
     "TreasuryWithdrawalsAction", "UTxO", "UnregDRepCertificate", "UpdateCommittee", "UpdateDRepCertificate",
     "VoteDelegation", "_TransactionOutputPostAlonzo"]

theorem repo_core_classes : coreNames.all (fun n => match lookup repoSchema n with
    | some cd => coreClass cd | Option.none => false) = true := by decide +kernel

/-- every class the generic theorem covers has the shape the theorem needs (soundness of the Boolean check) -/
theorem core_class_shape (cd : ClassDef) (h : coreClass cd = true) : Generic cd ∧ ShapeOK cd := by
  unfold coreClass at h
  simp only [Bool.and_eq_true] at h
  exact ⟨genericB_sound cd h.1, shapeOK_sound cd h.2⟩

/-- the alternatives of a named union of the regenerated table that are generic coded classes (in the current tree:
all of Certificate but `PoolRegistration`, all of GovAction but `HardForkInitiationAction`, whose own codecs are
judged on the implementation) -/
def codedPart (n : String) : List Ty :=
  (namedUnion n).filter (fun t => match t with
    | .cls c => (match lookup repoSchema c with | some cd => coreClass cd | Option.none => false)
    | _ => false)

def nodupB : List Nat → Bool
  | [] => true
  | k :: ks => !ks.contains k && nodupB ks

theorem nodupB_sound (ks : List Nat) (h : nodupB ks = true) : ks.Nodup := nodup_of_check nodupB (fun _ _ => rfl) ks h

/-- every such alternative is a generic coded class and the codes are pairwise distinct -/
def codedPartOK (n : String) : Bool :=
  match codedAltsB repoSchema (codedPart n) with
  | some ks => nodupB ks && decide (2 ≤ ks.length)
  | Option.none => false

theorem certificate_coded_part : codedPartOK "Certificate" = true := by decide +kernel
theorem govaction_coded_part : codedPartOK "GovAction" = true := by decide +kernel

theorem coded_dispatch (n : String) (hok : codedPartOK n = true) (pre : List Ty) (t : Ty) (post : List Ty)
    (he : codedPart n = pre ++ t :: post) (v : Val) (hv : HasType repoSchema t v) :
    ∀ t' ∈ pre, ∃ N, ∀ fuel, N ≤ fuel → fromPrim repoSchema fuel t' (toPrim repoSchema v) = .deser := by
  unfold codedPartOK at hok
  cases hc : codedAltsB repoSchema (codedPart n) with
  | none => rw [hc] at hok; simp at hok
  | some ks =>
    rw [hc] at hok; simp only [Bool.and_eq_true] at hok
    exact unionOK_coded _ _ (codedAltsB_sound _ _ _ hc) (nodupB_sound _ hok.1) pre t post he v hv

/-- **the union side condition holds on the REAL certificate table**: whichever generic alternative produced a typed
value, every earlier generic alternative answers `DeserializeException` on its image, so ordered dispatch reaches
the right class -/
theorem certificate_dispatch (pre : List Ty) (t : Ty) (post : List Ty) (he : codedPart "Certificate" = pre ++ t :: post)
    (v : Val) (hv : HasType repoSchema t v) :
    ∀ t' ∈ pre, ∃ N, ∀ fuel, N ≤ fuel → fromPrim repoSchema fuel t' (toPrim repoSchema v) = .deser :=
  coded_dispatch "Certificate" certificate_coded_part pre t post he v hv

/-- … so a value typed by one of the generic coded alternatives is typed by the union (ordered dispatch reaches it):
the premise of `HasType.union` is provided by theorem, not assumed -/
theorem coded_union_typed (n : String) (hok : codedPartOK n = true) (pre : List Ty) (t : Ty) (post : List Ty)
    (he : codedPart n = pre ++ t :: post) (v : Val) (hv : HasType repoSchema t v) :
    HasType repoSchema (.union (codedPart n)) v := by
  rw [he]; exact HasType.union hv (coded_dispatch n hok pre t post he v hv)

theorem govaction_dispatch (pre : List Ty) (t : Ty) (post : List Ty) (he : codedPart "GovAction" = pre ++ t :: post)
    (v : Val) (hv : HasType repoSchema t v) :
    ∀ t' ∈ pre, ∃ N, ∀ fuel, N ≤ fuel → fromPrim repoSchema fuel t' (toPrim repoSchema v) = .deser :=
  coded_dispatch "GovAction" govaction_coded_part pre t post he v hv

/-- soundness of the executable typing check the driver runs on the harness's generated values -/
theorem typed_check_sound (S : List ClassDef) (fuel : Nat) (t : Ty) (v : Val) (h : typedB S fuel t v = true) :
    HasType S t v := typedB_sound S fuel t v h

/-! non-vacuity on the REAL table: a transaction input (hash class + boundary integer) and a stake registration
certificate inside the certificate union are typed, so the theorems apply to them; and the kernel evaluates the
round trip of that certificate through ordered dispatch -/
def exInput : Val := .obj "TransactionInput" [.cb (List.replicate 32 7), .int 4294967296]
def exCert : Val := .obj "StakeRegistrationConway" [.opaque (.array [.uint 0, .bytes (List.replicate 28 1)]), .int 2000000]

example : HasType repoSchema (.cls "TransactionInput") exInput := typedB_sound _ 10 _ _ (by decide +kernel)
example : HasType repoSchema (.union (codedPart "Certificate")) exCert := typedB_sound _ 10 _ _ (by decide +kernel)
-- (the example above is typed THROUGH a union of the real table: the executable check runs the alternatives that precede
-- `StakeRegistrationConway` on the image and sees each answer `DeserializeException`.  In the FULL certificate union the
-- alternative `PoolRegistration` has a hand-written `from_primitive`, which the generic model carries as an opaque leaf
-- that accepts every primitive: values of the alternatives declared after it are therefore typed at the coded part, not
-- at the full union — a limit of the generic model, visible in the evidence as `outside_theorem_scope`.)
-- an `Optional[int]` field type (`Union[int, None]`): `None` is typed by the second alternative because `int` rejects null
example : HasType repoSchema (.union [.int, .none]) .none := typedB_sound _ 5 _ _ (by decide +kernel)
example : HasType repoSchema (.union [.cls "Anchor", .none]) .none := typedB_sound _ 5 _ _ (by decide +kernel)
example :
    (match fromPrim repoSchema 10 (.cls "TransactionInput") (toPrim repoSchema exInput) with
      | .ok (.obj n [.cb b, .int i]) => n == "TransactionInput" && b == List.replicate 32 7 && i == 4294967296
      | _ => false) = true := by decide +kernel
example :
    (match fromPrim repoSchema 50 (.union (codedPart "Certificate")) (toPrim repoSchema exCert) with
      | .ok (.obj n _) => n == "StakeRegistrationConway"
      | _ => false) = true := by decide +kernel


/-! ## classes with a hand-written codec: `Value` / `MultiAsset` / `Asset`, `TransactionOutput`, and the decode-time
normalisation of `TransactionBody` (models: `Model/CustomCodec.lean`, tied to /repo by `harness/checks/c01_custom.py`) -/

/-- **`Value`: decode ∘ encode** for every well-formed value (`ValueOk`: 28-byte policy ids, names of at most 32 bytes,
distinct keys; coin and quantities ANY integers — negative, zero, beyond 64 bits, where cbor2 switches to bignum tags):
the result is the NORMALISED value (`normValue`: zero quantities and empty policies dropped, canonical order) —
bare-integer and `[coin, multiasset]` forms alike -/
theorem value_roundtrip (v : Value) (h : ValueOk v) : decValue (itemValue v) = .ok (normValue v) :=
  decValue_itemValue v h

/-- … at the byte level (`Value.from_cbor(v.to_cbor())`), for CBOR-representable sizes -/
theorem value_roundtrip_bytes (v : Value) (h : ValueOk v) (hw : Cbor.WF (itemValue v)) :
    decValueBytes (encValueBytes v) = .ok (normValue v) := decValueBytes_enc v h hw

/-- **Python `==`**: `Value.__eq__` / `MultiAsset.__eq__` / `Asset.__eq__` compare contents component-wise (an absent name
counts as 0, an absent policy as an empty `Asset`: `C05.eq_iff`), and normalising / sorting does not change the content:
the decoded value is `==` to the original — FULL, for every well-formed value, stored zeros and empty policies included.
(Before `==` was made component-wise this was false: `Value(5, {p: {n: 0}})` decodes to `Value(5)`, then unequal.) -/
theorem value_roundtrip_pyeq (v : Value) (h : ValueOk v) :
    ∃ v', decValue (itemValue v) = .ok v' ∧ Value.eq v' v = true :=
  ⟨normValue v, decValue_itemValue v h, value_eq_original v (maOk_wf v.ma h.ma)⟩

/-- a stored zero quantity: the decoded value has lost it and is `==` to the original, both ways -/
def exZeroQty : Value := ⟨5, [(List.replicate 28 1, [([110], 0)])]⟩
example : (match decValueBytes (encValueBytes exZeroQty) with
    | .ok v => v.ma == [] && Value.eq v exZeroQty && Value.eq exZeroQty v
    | _ => false) = true := by decide +kernel

/-- **re-encoding the decoded value gives the same bytes** — for EVERY value (no hypothesis) -/
theorem value_reencode (v : Value) : encValueBytes (normValue v) = encValueBytes v := by
  unfold encValueBytes; rw [itemValue_normValue]

/-- **`TransactionOutput`: decode ∘ encode, FULL** — for every well-formed output whose datum is a hash or inline, not
both (`NotBoth`): decoding the encoding of the CONSTRUCTED output (`normOutput o`: `__post_init__` sets `post_alonzo`
when an inline datum or a script is present) returns an output equal to it in EVERY field, `post_alonzo` included; the
amount is the normalised amount, which is `==` to the original amount.  `L` are the leaf codecs (address, inline datum,
native script), assumed to restore what they wrote (`Leaves.Lawful`). -/
theorem output_roundtrip {A D N : Type} (L : Leaves A D N) (hL : L.Lawful) (o : Output A D N) (h : OutputOk L o)
    (hnb : NotBoth o) :
    ∃ o', decOutput L (itemOutput L (normOutput o)) = .ok o' ∧
      o'.address = (normOutput o).address ∧ o'.amount = normValue (normOutput o).amount ∧
      Value.eq o'.amount (normOutput o).amount = true ∧ o'.datumHash = (normOutput o).datumHash ∧
      o'.datum = (normOutput o).datum ∧ o'.script = (normOutput o).script ∧
      o'.postAlonzo = (normOutput o).postAlonzo := by
  refine ⟨decodedOutput (normOutput o), decOutput_itemOutput L hL _ (outputOk_normOutput L o h), ?_⟩
  rw [decodedOutput_constructed _ (constructed_normOutput o) (notBoth_normOutput o hnb)]
  exact ⟨rfl, rfl, value_eq_original _ (maOk_wf _ h.amount.ma), rfl, rfl, rfl, rfl⟩

/-- … the same for any output that IS constructed (its flag is set whenever it carries an inline datum or a script) -/
theorem output_roundtrip_constructed {A D N : Type} (L : Leaves A D N) (hL : L.Lawful) (o : Output A D N)
    (h : OutputOk L o) (hc : Constructed o) (hnb : NotBoth o) :
    decOutput L (itemOutput L o) = .ok { o with amount := normValue o.amount } := by
  rw [decOutput_itemOutput L hL o h, decodedOutput_constructed o hc hnb]

/-- … and for EVERY well-formed output, constructed or not, `NotBoth` or not: the result is `decodedOutput o` -/
theorem output_roundtrip_general {A D N : Type} (L : Leaves A D N) (hL : L.Lawful) (o : Output A D N) (h : OutputOk L o) :
    decOutput L (itemOutput L o) = .ok (decodedOutput o) := decOutput_itemOutput L hL o h

/-- the constructor's normalisation is idempotent, and the decoder returns constructed outputs -/
theorem output_norm_idempotent {A D N : Type} (o : Output A D N) : normOutput (normOutput o) = normOutput o :=
  normOutput_idem o
theorem output_decoded_constructed {A D N : Type} (o : Output A D N) : Constructed (decodedOutput o) := by
  obtain ⟨addr, amt, dh, dat, scr, pa⟩ := o
  cases dh <;> cases dat <;> cases scr <;> cases pa <;> simp [Constructed, normOutput, decodedOutput, mapForm]

/-- outside `NotBoth` (datum hash AND inline datum, which `TransactionOutput` does not refuse): the hash is written, the
inline datum is lost -/
theorem output_both_datums_drops_inline {A D N : Type} (o : Output A D N) (h : o.datumHash.isSome = true) :
    (decodedOutput o).datum = Option.none := decodedOutput_both o h

/-- the full statement "the inline datum survives, for every well-formed output" is FALSE of the code (recorded finding
KF-C01-both-datums; goal kept; `output_roundtrip` is the partial result under `NotBoth`) -/
def output_roundtrip_goal : Prop :=
  ∀ (L : Leaves Bytes Nat Nat), L.Lawful → ∀ o : Output Bytes Nat Nat, OutputOk L o →
    ∃ o', decOutput L (itemOutput L o) = .ok o' ∧ o'.datum = o.datum

/-- concrete lawful leaves for the examples: an address is its bytes, a datum / native script a natural number -/
def bytesLeaf : Leaf Bytes := ⟨fun b => .bytes b, fun i => match i with | .bytes b => .ok b | _ => .deser⟩
def natLeaf : Leaf Nat := ⟨fun n => .uint n, fun i => match i with | .uint n => .ok n | _ => .deser⟩
def exLeaves : Leaves Bytes Nat Nat := ⟨bytesLeaf, natLeaf, natLeaf⟩
theorem exLeaves_lawful : exLeaves.Lawful := ⟨⟨fun _ => rfl⟩, ⟨fun _ => rfl⟩, ⟨fun _ => rfl⟩⟩

def exAddr : Bytes := 0x61 :: List.replicate 28 9
def exBoth : Output Bytes Nat Nat := ⟨exAddr, ⟨2000000, []⟩, some (List.replicate 32 7), some 42, Option.none, false⟩

theorem output_roundtrip_counterexample : ¬ output_roundtrip_goal := by
  intro h
  have hok : OutputOk exLeaves exBoth := by
    refine ⟨valueOkB_sound _ (by decide), ?_, ?_, ?_⟩
    · intro hh e; cases e; decide
    · intro d e; cases e; simp [exLeaves, natLeaf, Cbor.WF]
    · intro s e; cases e
  obtain ⟨o', h1, h2⟩ := h exLeaves exLeaves_lawful exBoth hok
  rw [output_roundtrip_general exLeaves exLeaves_lawful exBoth hok] at h1
  cases h1
  revert h2
  decide

/-- **`TransactionBody`** has no `__post_init__` in this tree; what normalises a body is DECODING: a field annotated
`Union[List[T], OrderedSet[T]]` returns a plain list for an untagged array (`bodyNorm`, driven by the field types of the
regenerated table).  The normalisation is idempotent … -/
theorem body_norm_idempotent (S : List ClassDef) (v : Val) : bodyNorm S (bodyNorm S v) = bodyNorm S v :=
  bodyNorm_idem S v

/-- a second name for the theorem above -/
theorem body_postinit_idempotent (S : List ClassDef) (v : Val) : bodyNorm S (bodyNorm S v) = bodyNorm S v :=
  bodyNorm_idem S v

/-- … and **decode ∘ encode returns the normal form** of every body whose normal form is typed (`HasType`; the executable
check `typedB` decides it per value, union side conditions included) -/
theorem body_roundtrip_normalised (S : List ClassDef) (n : String) (v : Val) (h : HasType S (.cls n) (bodyNorm S v)) :
    ∃ N, ∀ fuel, N ≤ fuel → fromPrim S fuel (.cls n) (toPrim S v) = .ok (bodyNorm S v) :=
  decode_encode_bodyNorm S n v h

/-- … in particular a body that is a fixed point of the normalisation is returned unchanged -/
theorem body_roundtrip_fixed_point (S : List ClassDef) (n : String) (v : Val) (hfix : bodyNorm S v = v)
    (h : HasType S (.cls n) v) : ∃ N, ∀ fuel, N ≤ fuel → fromPrim S fuel (.cls n) (toPrim S v) = .ok v := by
  have := decode_encode_bodyNorm S n v (by rw [hfix]; exact h)
  rw [hfix] at this
  exact this

/-- what the normalisation does to one field: nothing, or an untagged `OrderedSet` becomes the `list` of the same
elements (equal under `OrderedSet.__eq__`, which compares `list(self)` with the other list) -/
theorem body_norm_field (f : FieldDef) (v : Val) :
    normField f v = v ∨ ∃ xs, v = .oset false xs ∧ normField f v = .list xs := normField_cases f v

/-! non-vacuity of the custom-codec theorems -/

/-- two policies with names whose length-first and bytewise orders differ, a zero quantity, an empty policy, a
quantity at the top of the 64-bit range and one beyond it (bignum) -/
def exValue : Value :=
  ⟨1500000, [(List.replicate 28 2, [([98, 98], 7), ([97, 97, 97], 4294967296), ([99], 0)]),
             (List.replicate 28 1, [([], 18446744073709551615), ([1], 3541774862152233910272)]),
             (List.replicate 28 3, [])]⟩

theorem exValue_ok : ValueOk exValue := valueOkB_sound _ (by decide +kernel)

example : decValue (itemValue exValue) = .ok (normValue exValue) := value_roundtrip exValue exValue_ok
-- the kernel evaluates encoder, CBOR decoder and typed restoration: two policies survive, in canonical order, the zero
-- entry is gone, and re-encoding reproduces the bytes
example :
    (match decValueBytes (encValueBytes exValue) with
      | .ok v => v.coin == 1500000 && v.ma.map (fun p => (p.1.head!, p.2.length)) == [(1, 2), (2, 2)] &&
          Dict.getD (Dict.getD v.ma (List.replicate 28 1) []) [1] 0 == 3541774862152233910272 &&
          encValueBytes v == encValueBytes exValue && Value.eq v exValue && Value.eq exValue v &&
          Value.eq v ⟨exValue.coin, MultiAsset.normalize exValue.ma⟩
      | _ => false) = true := by decide +kernel
example : ¬ (MultiAsset.normalize exValue.ma = exValue.ma) := by decide

/-- constructor arguments of a map-form output with an inline datum (flag not given): the constructed output has the flag -/
def exInline : Output Bytes Nat Nat := ⟨exAddr, exValue, Option.none, some 42, Option.none, false⟩
/-- … and the witness of the repaired finding KF-C01-post-alonzo-flag: a script with the flag set -/
def exFlag : Output Bytes Nat Nat := ⟨exAddr, ⟨2000000, []⟩, Option.none, Option.none, some (.plutus 2 [1, 2, 3]), true⟩

theorem exInline_ok : OutputOk exLeaves exInline := by
  refine ⟨exValue_ok, ?_, ?_, ?_⟩
  · intro hh e; cases e
  · intro d e; cases e; simp [exLeaves, natLeaf, Cbor.WF]
  · intro s e; cases e

example : (normOutput exInline).postAlonzo = true ∧ (normOutput exFlag).postAlonzo = exFlag.postAlonzo := by decide
example : Constructed exFlag := rfl
example : ∃ o', decOutput exLeaves (itemOutput exLeaves (normOutput exInline)) = .ok o' ∧ o'.datum = some 42 ∧
    o'.postAlonzo = true ∧ Value.eq o'.amount exValue = true := by
  obtain ⟨o', h1, _, _, h3, _, h5, _, h7⟩ := output_roundtrip exLeaves exLeaves_lawful exInline exInline_ok (by decide)
  exact ⟨o', h1, h5, h7, h3⟩
example :
    (match decOutputBytes exLeaves (encOutputBytes exLeaves (normOutput exInline)) with
      | .ok o => o.datum == some 42 && o.postAlonzo == true && o.datumHash == Option.none && o.address == exAddr &&
          Value.eq o.amount exValue &&
          encOutputBytes exLeaves o == encOutputBytes exLeaves exInline
      | _ => false) = true := by decide +kernel
-- the witness of KF-C01-post-alonzo-flag (script, flag set): the flag survives; and an
-- output whose flag was cleared after construction is written in the map form and comes back with the flag set
example : (decodedOutput exFlag).postAlonzo = exFlag.postAlonzo := by decide
example :
    (match decOutputBytes exLeaves (encOutputBytes exLeaves exFlag) with
      | .ok o => o.postAlonzo == true && o.script.isSome && encOutputBytes exLeaves o == encOutputBytes exLeaves exFlag
      | _ => false) = true := by decide +kernel
example : (decodedOutput ({ exFlag with postAlonzo := false } : Output Bytes Nat Nat)).postAlonzo = true := by decide

/-- a body of the REAL table, built from the table's own field list so that a new optional field does not disturb it:
tagged inputs, no outputs, a fee, untagged required signers, every other field `None` -/
def exBody : Val :=
  match lookup repoSchema "TransactionBody" with
  | some cd => .obj "TransactionBody" (cd.fields.map (fun f =>
      if f.name == "inputs" then .oset true [exInput]
      else if f.name == "outputs" then .opaque (.array [])
      else if f.name == "fee" then .int 170000
      else if f.name == "required_signers" then .oset false [.cb (List.replicate 28 5), .cb (List.replicate 28 6)]
      else .none))
  | Option.none => .none

def fieldOf (name : String) (v : Val) : Val :=
  match lookup repoSchema "TransactionBody", v with
  | some cd, .obj _ fs => ((cd.fields.map (·.name)).zip fs).foldr (fun p acc => if p.1 == name then p.2 else acc) .none
  | _, _ => .none

-- the normal form is typed on the real table (so `body_roundtrip_normalised` applies) …
example : HasType repoSchema (.cls "TransactionBody") (bodyNorm repoSchema exBody) :=
  typedB_sound _ 30 _ _ (by decide +kernel)
-- … the untagged required signers are normalised to a list, the tagged inputs stay a tagged set …
example :
    ((match fieldOf "required_signers" exBody with | .oset false xs => xs.length == 2 | _ => false) &&
     (match fieldOf "required_signers" (bodyNorm repoSchema exBody) with | .list xs => xs.length == 2 | _ => false) &&
     (match fieldOf "inputs" (bodyNorm repoSchema exBody) with | .oset true xs => xs.length == 1 | _ => false)) = true := by
  decide +kernel
-- … and the kernel evaluates the whole round trip: decoding the bytes returns the normal form, re-encoding the bytes
example :
    (match decodeAll (encodeVal repoSchema exBody) with
      | some i => (match fromPrim repoSchema 30 (.cls "TransactionBody") i with
          | .ok v' => encodeVal repoSchema v' == encodeVal repoSchema exBody &&
              (match fieldOf "required_signers" v' with | .list xs => xs.length == 2 | _ => false) &&
              (match fieldOf "inputs" v' with | .oset true xs => xs.length == 1 | _ => false)
          | _ => false)
      | Option.none => false) = true := by decide +kernel

end Pyc.C01

#print axioms Pyc.C01.repo_schema_wf
#print axioms Pyc.C01.certificate_union_unambiguous
#print axioms Pyc.C01.govaction_union_unambiguous
#print axioms Pyc.C01.codec_roundtrip
#print axioms Pyc.C01.codec_reencode
#print axioms Pyc.C01.union_side_condition_coded
#print axioms Pyc.C01.repo_core_classes
#print axioms Pyc.C01.core_class_shape
#print axioms Pyc.C01.certificate_coded_part
#print axioms Pyc.C01.govaction_coded_part
#print axioms Pyc.C01.certificate_dispatch
#print axioms Pyc.C01.govaction_dispatch
#print axioms Pyc.C01.typed_check_sound
#print axioms Pyc.C01.nodupB_sound
#print axioms Pyc.C01.coded_dispatch
#print axioms Pyc.C01.global_union_condition_unsatisfiable
#print axioms Pyc.C01.coded_union_typed
#print axioms Pyc.C01.value_roundtrip
#print axioms Pyc.C01.value_roundtrip_bytes
#print axioms Pyc.C01.value_roundtrip_pyeq
#print axioms Pyc.C01.value_reencode
#print axioms Pyc.C01.output_roundtrip
#print axioms Pyc.C01.output_roundtrip_general
#print axioms Pyc.C01.output_roundtrip_constructed
#print axioms Pyc.C01.output_norm_idempotent
#print axioms Pyc.C01.output_decoded_constructed
#print axioms Pyc.C01.output_both_datums_drops_inline
#print axioms Pyc.C01.exLeaves_lawful
#print axioms Pyc.C01.output_roundtrip_counterexample
#print axioms Pyc.C01.body_norm_idempotent
#print axioms Pyc.C01.body_postinit_idempotent
#print axioms Pyc.C01.body_roundtrip_normalised
#print axioms Pyc.C01.body_roundtrip_fixed_point
#print axioms Pyc.C01.body_norm_field
#print axioms Pyc.C01.exValue_ok
#print axioms Pyc.C01.exInline_ok
#print axioms Pyc.C01.repo_hints_understood
