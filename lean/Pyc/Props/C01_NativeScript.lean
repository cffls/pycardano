import Pyc.Proofs.NativeScript

/-! # C01 (extension) — native scripts: decoding an encoded script returns an equal script

Model: `Pyc/Model/NativeScript.lean` (`NativeScript.from_primitive` with the six subclasses, `to_dict` / `from_dict`,
`hash`; the serializer `to_primitive` is `Pyc.Ids.NScript.item` of `Model/Ids.lean`), tied to /repo by
`harness/checks/c01_ext_nativescript.py`.  Until now a native script was an opaque leaf of the generic codec model and of
the `TransactionOutput` model (`Leaves.native`); `nsLeaf_lawful` discharges that assumption with the real codec.

Every statement is for ALL scripts: any nesting depth, any list lengths, any integers (`n` and the slots are Python ints:
negative values and values beyond 64 bits are accepted and written back by the code, and are covered).  The only
hypothesis on a script is `wfB s`: every key hash has 28 bytes — which `VerificationKeyHash.__init__` asserts, so every
script built through the public constructors satisfies it.  Byte-level statements also need the primitive to be
CBOR-representable (`Cbor.WF`: lengths and integers that fit their heads), which `inRangeB` (the CDDL ranges) implies. -/

namespace Pyc.C01.NativeScript
open Pyc.Cbor Pyc.Codec Pyc.Custom Pyc.Ids Pyc.NativeScript

/-! ## (a) `from_primitive ∘ to_primitive` -/

/-- **decode ∘ encode on primitives**: for every script with 28-byte key hashes and every fuel not below its nesting
depth, `NativeScript.from_primitive(s.to_primitive())` returns `s` -/
theorem ns_roundtrip (s : NScript) (hw : wfB s = true) (fuel : Nat) (hf : depth s ≤ fuel) :
    fromItem fuel (toItem s) = .ok s := fromItem_toItem s hw fuel hf

/-- the fuel is no restriction: on ANY item (well-formed or not) every fuel not below the depth of the item gives the
same answer, so the out-of-fuel crash is never what a sufficiently fuelled run reports -/
theorem ns_fuel_adequate (i : Item) (f g : Nat) (hf : Cbor.depth i ≤ f) (hg : Cbor.depth i ≤ g) :
    fromItem f i = fromItem g i := fromItem_fuel i f g hf hg

/-- the decoder returns scripts with 28-byte key hashes only, whatever it is given -/
theorem ns_decoded_wf (f : Nat) (i : Item) (s : NScript) (h : fromItem f i = .ok s) : wfB s = true := fromItem_wf f i s h

/-! ## (b) bytes -/

/-- **`NativeScript.from_cbor(s.to_cbor()) == s`** (composition with the CBOR round trip `Cbor.decodeAll_encode`) -/
theorem ns_roundtrip_bytes (s : NScript) (hw : wfB s = true) (hr : Cbor.WF (toItem s)) :
    fromBytes (toBytes s) = .ok s := by
  have h1 := depth_le_cbor s
  have h2 := (Cbor.depth_le (toItem s)).1
  simp only [fromBytes, toBytes, decodeAll_encode _ hr]
  exact fromItem_toItem s hw _ (by omega)

/-- … in particular for every script within the ranges of the CDDL -/
theorem ns_roundtrip_bytes_inrange (s : NScript) (h : Spec.NativeScript.inRangeB s = true) :
    fromBytes (toBytes s) = .ok s :=
  ns_roundtrip_bytes s (wfB_of_inRange s h) (item_wf s (validNative_of_inRange s h))

/-! ## (c) re-encoding -/

/-- **re-encoding the decoded script gives the same bytes** -/
theorem ns_reencode (s : NScript) (hw : wfB s = true) (hr : Cbor.WF (toItem s)) :
    ∃ s', fromBytes (toBytes s) = .ok s' ∧ toBytes s' = toBytes s :=
  ⟨s, ns_roundtrip_bytes s hw hr, rfl⟩

/-- the same for bytes the library did not write: "whatever the decoder accepts is written back as received" is FALSE
of the code.  `ArrayCBORSerializable.from_primitive` keeps surplus array elements as `unknown_field<i>` attributes that
`to_cbor` does not write, so `[4, 0, 7]` is accepted as `InvalidBefore(0)` and written back as `[4, 0]` (a different
script hash).  Goal kept; the partial results are `ns_reencode` (bytes of the library) and
`Pyc.C02.NativeScript.ns_cddl_accepted_reencode` (every item the CDDL admits). -/
def ns_reencode_accepted_goal : Prop := ∀ (f : Nat) (i : Item) (s : NScript), fromItem f i = .ok s → toItem s = i

def exSurplus : Item := .array [.uint 4, .uint 0, .uint 7]

theorem ns_reencode_accepted_counterexample : ¬ ns_reencode_accepted_goal := by
  intro h
  cases h 1 exSurplus (.before 0) rfl

/-! ## (d) injectivity: distinct scripts have distinct primitives, bytes and hash preimages -/

theorem ns_toItem_injective (s t : NScript) (hs : wfB s = true) (ht : wfB t = true) (h : toItem s = toItem t) : s = t := by
  have h1 := fromItem_toItem s hs (max (depth s) (depth t)) (Nat.le_max_left _ _)
  rw [h, fromItem_toItem t ht _ (Nat.le_max_right _ _)] at h1
  exact (Res.ok.inj h1).symm

theorem ns_bytes_injective (s t : NScript) (hs : wfB s = true) (ht : wfB t = true)
    (hrs : Cbor.WF (toItem s)) (hrt : Cbor.WF (toItem t)) (h : toBytes s = toBytes t) : s = t :=
  ns_toItem_injective s t hs ht (Cbor.encode_inj hrs hrt h)

/-- `NativeScript.hash` is `H(28, 0x00 ‖ to_cbor())`, the identifier C17 speaks about -/
theorem ns_hash_is_script_hash (H : Nat → Bytes → Bytes) (s : NScript) :
    NativeScript.scriptHash H s = Ids.scriptHash H (.native s) := rfl

/-- two scripts with the same hash either are the same script or exhibit a collision of the hash function -/
theorem ns_hash_injective (H : Nat → Bytes → Bytes) (s t : NScript) (hs : wfB s = true) (ht : wfB t = true)
    (hrs : Cbor.WF (toItem s)) (hrt : Cbor.WF (toItem t)) (h : NativeScript.scriptHash H s = NativeScript.scriptHash H t) :
    s = t ∨ (hashPreimage s ≠ hashPreimage t ∧ H 28 (hashPreimage s) = H 28 (hashPreimage t)) := by
  by_cases hp : hashPreimage s = hashPreimage t
  · exact .inl (ns_bytes_injective s t hs ht hrs hrt (List.cons.inj hp).2)
  · exact .inr ⟨hp, h⟩

/-! ## (e) the JSON route -/

/-- **`NativeScript.from_dict(s.to_dict()) == s`** -/
theorem ns_json_roundtrip (s : NScript) (hw : wfB s = true) (fuel : Nat) (hf : depth s ≤ fuel) :
    fromDict fuel (toDict s) = .ok s := by
  rw [fromDict, jsonPrim_toDict s fuel hf]
  exact fromItem_primJ s hw fuel hf

/-- `from_dict` reads the dictionary in ITS key order (`for key, value in script_json.items()`): "the JSON form is read
whatever the order of its keys" is FALSE of the code.  The keys of `atLeast` written as `scripts`, `required`, `type` give
the primitive `[3, [...], n]`, which is refused.  Goal kept; `ns_json_roundtrip` is the partial result for the order
`to_dict` (and cardano-cli) writes. -/
def ns_json_key_order_goal : Prop :=
  ∀ (f : Nat) (n : Int) (xs : List NScript), wfBs xs = true → depth (.nofk n xs) ≤ f →
    fromDict f (.obj [("scripts", .arr (toDicts xs)), ("required", .num n), ("type", .str tAtLeast)]) = .ok (.nofk n xs)

theorem ns_json_key_order_counterexample : ¬ ns_json_key_order_goal := by
  intro h
  cases h 1 1 [] rfl (by decide +kernel)

/-! ## (f) the native-script leaf of `TransactionOutput` -/

/-- the real native-script codec restores what it wrote: the assumption `Leaf.Lawful` of the output theorems holds of
it -/
theorem nsLeaf_lawful : nsLeaf.Lawful := ⟨nsLeaf_rt⟩

/-- `nsLeaf.dec` IS `NativeScript.from_primitive` (the well-formedness test it carries never fails) -/
theorem nsLeaf_is_fromItem (i : Item) :
    (match nsLeaf.dec i with
      | .ok x => Res.ok x.val
      | .deser => .deser
      | .crash => .crash) = fromItem (Cbor.depth i) i := by
  simp only [nsLeaf]
  cases h : fromItem (Cbor.depth i) i with
  | ok s => simp only [fromItem_wf _ _ _ h, dite_true]
  | deser => rfl
  | crash => rfl

/-- **the output round trip with the real native-script codec**: for any lawful address and datum leaves, every
well-formed output that carries native scripts decodes to `decodedOutput o` — no assumption about scripts is left -/
theorem output_roundtrip_native {A D : Type} (La : Leaf A) (Ld : Leaf D) (ha : La.Lawful) (hd : Ld.Lawful)
    (o : Output A D WScript) (h : OutputOk ⟨La, Ld, nsLeaf⟩ o) :
    decOutput ⟨La, Ld, nsLeaf⟩ (itemOutput ⟨La, Ld, nsLeaf⟩ o) = .ok (decodedOutput o) :=
  decOutput_itemOutput ⟨La, Ld, nsLeaf⟩ ⟨ha, hd, nsLeaf_lawful⟩ o h

/-! ## non-vacuity -/

def kh1 : Bytes := List.replicate 28 0xab
def kh2 : Bytes := List.range 28 |>.map UInt8.ofNat

/-- nested three deep, an empty list, negative `n`, a slot beyond 64 bits -/
def exScript : NScript :=
  .all [.pubkey kh1, .nofk (-2) [.any [], .pubkey kh2, .before 4294967296], .hereafter 18446744073709551616, .nofk 1 [.pubkey kh2]]

/-- within the CDDL ranges -/
def exInRange : NScript := .any [.pubkey kh1, .nofk 2 [.pubkey kh1, .pubkey kh2, .before 24], .hereafter 18446744073709551615]

example : wfB exScript = true := by decide +kernel
example : depth exScript = 3 := by decide +kernel
example : fromItem 3 (toItem exScript) = .ok exScript := ns_roundtrip exScript (by decide +kernel) 3 (by decide +kernel)
example : fromDict 3 (toDict exScript) = .ok exScript := ns_json_roundtrip exScript (by decide +kernel) 3 (by decide +kernel)
example : Spec.NativeScript.inRangeB exInRange = true := by decide +kernel
example : fromBytes (toBytes exInRange) = .ok exInRange := ns_roundtrip_bytes_inrange exInRange (by decide +kernel)
-- the hypothesis `wfB` is needed: a 27-byte key hash is written but not read back (AssertionError)
example : (match fromItem 1 (toItem (.pubkey (List.replicate 27 0))) with | .crash => true | _ => false) = true := by decide +kernel
-- fuel below the depth: the out-of-fuel crash
example : (match fromItem 2 (toItem exScript) with | .crash => true | _ => false) = true := by decide +kernel

def bytesLeaf : Leaf Bytes := ⟨fun b => .bytes b, fun i => match i with | .bytes b => .ok b | _ => .deser⟩
def natLeaf : Leaf Nat := ⟨fun n => .uint n, fun i => match i with | .uint n => .ok n | _ => .deser⟩
def exW : WScript := ⟨exInRange, by decide⟩
def exOut : Output Bytes Nat WScript :=
  ⟨0x61 :: List.replicate 28 9, ⟨2000000, []⟩, Option.none, Option.none, some (.native exW), true⟩

theorem exOut_ok : OutputOk ⟨bytesLeaf, natLeaf, nsLeaf⟩ exOut := by
  refine ⟨valueOkB_sound _ (by decide +kernel), ?_, ?_, ?_⟩
  · intro hh e; cases e
  · intro d e; cases e
  · intro s e
    cases e
    exact item_wf exInRange (validNative_of_inRange exInRange (by decide +kernel))

example : decOutput ⟨bytesLeaf, natLeaf, nsLeaf⟩ (itemOutput ⟨bytesLeaf, natLeaf, nsLeaf⟩ exOut) = .ok (decodedOutput exOut) :=
  output_roundtrip_native bytesLeaf natLeaf ⟨fun _ => rfl⟩ ⟨fun _ => rfl⟩ exOut exOut_ok

end Pyc.C01.NativeScript

#print axioms Pyc.C01.NativeScript.ns_roundtrip
#print axioms Pyc.C01.NativeScript.ns_fuel_adequate
#print axioms Pyc.C01.NativeScript.ns_decoded_wf
#print axioms Pyc.C01.NativeScript.ns_roundtrip_bytes
#print axioms Pyc.C01.NativeScript.ns_roundtrip_bytes_inrange
#print axioms Pyc.C01.NativeScript.ns_reencode
#print axioms Pyc.C01.NativeScript.ns_reencode_accepted_counterexample
#print axioms Pyc.C01.NativeScript.ns_toItem_injective
#print axioms Pyc.C01.NativeScript.ns_bytes_injective
#print axioms Pyc.C01.NativeScript.ns_hash_is_script_hash
#print axioms Pyc.C01.NativeScript.ns_hash_injective
#print axioms Pyc.C01.NativeScript.ns_json_roundtrip
#print axioms Pyc.C01.NativeScript.ns_json_key_order_counterexample
#print axioms Pyc.C01.NativeScript.nsLeaf_lawful
#print axioms Pyc.C01.NativeScript.nsLeaf_is_fromItem
#print axioms Pyc.C01.NativeScript.output_roundtrip_native
#print axioms Pyc.C01.NativeScript.exOut_ok
