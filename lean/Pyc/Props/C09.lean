import Pyc.Model.Selection
import Pyc.Props.C11

/-! # C09 — inputs are selected only from permitted UTxOs, each at most once

Model: `Pyc/Model/Selection.lean`.  The selectors are universally quantified functions; what the theorems need of
them is what C14 proves of the two shipped strategies: a selection is a duplicate-free sub-list of the pool. -/

namespace Pyc.C09
open Pyc.Sel

/-- what C14 establishes for `LargestFirstSelector` and `RandomImproveMultiAsset` -/
def SelectorOk (s : List U → Option (List U)) : Prop :=
  ∀ pool sel, s pool = some sel → (∀ u ∈ sel, u ∈ pool) ∧ (pool.Nodup → sel.Nodup)

/-- invariant of the gathering loops: `seen` is the explicit inputs followed by the pool, the pool stays duplicate-free,
and it gains exactly the elements of `l` that are neither explicit nor excluded -/
theorem gather_inv (excluded : List U) (l : List U) (acc : List U × List U) (explicit : List U)
    (hseen : acc.2 = explicit ++ acc.1) (hnd : acc.1.Nodup) :
    let r := l.foldl (gatherStep excluded) acc
    r.2 = explicit ++ r.1 ∧ r.1.Nodup ∧
    (∀ u, u ∈ r.1 ↔ u ∈ acc.1 ∨ (u ∈ l ∧ u ∉ explicit ∧ u ∉ excluded)) := by
  induction l generalizing acc with
  | nil => exact ⟨hseen, hnd, fun u => by simp⟩
  | cons x r ih =>
    have hstep : gatherStep excluded acc x =
        if (x ∈ explicit ∨ x ∈ acc.1) ∨ x ∈ excluded then acc else (acc.1 ++ [x], acc.2 ++ [x]) := by
      simp only [gatherStep, hseen, Bool.or_eq_true, List.contains_iff_mem, List.mem_append]
    rw [List.foldl_cons, hstep]
    by_cases hc : (x ∈ explicit ∨ x ∈ acc.1) ∨ x ∈ excluded
    · rw [if_pos hc]
      obtain ⟨h1, h2, h3⟩ := ih acc hseen hnd
      refine ⟨h1, h2, fun u => (h3 u).trans ⟨?_, ?_⟩⟩
      · rintro (h | ⟨h, hu⟩)
        · exact Or.inl h
        · exact Or.inr ⟨List.mem_cons_of_mem _ h, hu⟩
      · rintro (h | ⟨h, hu⟩)
        · exact Or.inl h
        · rcases List.mem_cons.1 h with rfl | h
          · exact Or.inl ((hc.resolve_right hu.2).resolve_left hu.1)
          · exact Or.inr ⟨h, hu⟩
    · rw [if_neg hc]
      have hx : (x ∉ explicit ∧ x ∉ acc.1) ∧ x ∉ excluded := by
        simpa only [not_or] using hc
      obtain ⟨h1, h2, h3⟩ := ih (acc.1 ++ [x], acc.2 ++ [x]) (by rw [hseen, List.append_assoc])
        (List.nodup_append.2 ⟨hnd, List.nodup_cons.2 ⟨nofun, List.nodup_nil⟩,
          fun a ha b hb hab => hx.1.2 (List.mem_singleton.1 hb ▸ hab ▸ ha)⟩)
      refine ⟨h1, h2, fun u => (h3 u).trans ⟨?_, ?_⟩⟩
      · rintro (h | ⟨h, hu⟩)
        · rcases List.mem_append.1 h with h | h
          · exact Or.inl h
          · exact Or.inr ⟨List.mem_singleton.1 h ▸ List.mem_cons_self, List.mem_singleton.1 h ▸ ⟨hx.1.1, hx.2⟩⟩
        · exact Or.inr ⟨List.mem_cons_of_mem _ h, hu⟩
      · rintro (h | ⟨h, hu⟩)
        · exact Or.inl (List.mem_append_left _ h)
        · rcases List.mem_cons.1 h with rfl | h
          · exact Or.inl (List.mem_append_right _ (List.mem_singleton.2 rfl))
          · exact Or.inr ⟨h, hu⟩

/-- **the additional pool**: exactly the potential inputs and address UTxOs that are neither explicit inputs nor
excluded, each once -/
theorem pool_spec (explicit potential : List U) (addrUtxos : List (List U)) (excluded : List U) :
    (gatherPool explicit potential addrUtxos excluded).Nodup ∧
    ∀ u, u ∈ gatherPool explicit potential addrUtxos excluded ↔
      (u ∈ potential ∨ u ∈ addrUtxos.flatten) ∧ u ∉ explicit ∧ u ∉ excluded := by
  unfold gatherPool
  have h1 := gather_inv excluded potential ([], explicit) explicit (List.append_nil _).symm List.nodup_nil
  have h2 := gather_inv excluded addrUtxos.flatten (potential.foldl (gatherStep excluded) ([], explicit)) explicit
    h1.1 h1.2.1
  refine ⟨h2.2.1, fun u => ?_⟩
  rw [h2.2.2 u, h1.2.2 u, or_and_right]
  simp only [List.not_mem_nil, false_or]

/-- **selector fallback order**: the result is that of the first selector that succeeds; failure only if all fail -/
theorem chain_spec (ss : List (List U → Option (List U))) (pool sel : List U) (h : chain ss pool = some sel) :
    ss = [] ∧ sel = [] ∨ ∃ pre s post, ss = pre ++ s :: post ∧ (∀ t ∈ pre, t pool = none) ∧ s pool = some sel := by
  induction ss with
  | nil => simp [chain] at h; exact Or.inl ⟨rfl, h⟩
  | cons s rest ih =>
    right
    cases rest with
    | nil => exact ⟨[], s, [], rfl, by simp, by simpa [chain] using h⟩
    | cons s2 rest2 =>
      simp only [chain] at h
      cases hs : s pool with
      | some x => rw [hs] at h; simp at h; subst h; exact ⟨[], s, s2 :: rest2, rfl, by simp, hs⟩
      | none =>
        rw [hs] at h
        rcases ih h with ⟨h1, _⟩ | ⟨pre, t, post, e, hp, ht⟩
        · simp at h1
        · exact ⟨s :: pre, t, post, by simp [e], by
            intro x hx; simp at hx; rcases hx with rfl | hx
            · exact hs
            · exact hp x hx, ht⟩

theorem chain_fails_iff (ss : List (List U → Option (List U))) (pool : List U) :
    chain ss pool = none ↔ ss ≠ [] ∧ ∀ s ∈ ss, s pool = none := by
  induction ss with
  | nil => simp [chain]
  | cons s rest ih =>
    cases rest with
    | nil => simp [chain]
    | cons s2 rest2 =>
      simp only [chain]
      cases hs : s pool with
      | some x => simp [hs]
      | none =>
        rw [ih]
        simp [hs]

theorem chain_ok (ss : List (List U → Option (List U))) (hs : ∀ s ∈ ss, SelectorOk s) (pool sel : List U)
    (h : chain ss pool = some sel) : (∀ u ∈ sel, u ∈ pool) ∧ (pool.Nodup → sel.Nodup) := by
  rcases chain_spec ss pool sel h with ⟨_, h2⟩ | ⟨pre, s, post, e, _, hsel⟩
  · subst h2; simp
  · exact hs s (by rw [e]; simp) pool sel hsel

theorem mem_sortU (l : List U) (u : U) : u ∈ sortU l ↔ u ∈ l := mem_isort _ u l

variable (explicit potential : List U) (addrUtxos : List (List U)) (excluded : List U) (needMore : Bool)
  (selectors : List (List U → Option (List U))) (ins : List U)

/-- a successful run: no explicit input is excluded, and the inputs are the explicit ones followed by what the selector
chain took from the additional pool (nothing when no more is needed), sorted -/
theorem selectInputs_ok
    (h : selectInputs explicit potential addrUtxos excluded needMore selectors = .ok ins) :
    (∀ u ∈ explicit, u ∉ excluded) ∧ ∃ sel, ins = sortU (explicit ++ sel) ∧
      (sel = [] ∨ chain selectors (gatherPool explicit potential addrUtxos excluded) = some sel) := by
  unfold selectInputs at h
  split at h
  · cases h
  · next hconf =>
    refine ⟨fun u hu hx => hconf (List.any_eq_true.2 ⟨u, hu, List.contains_iff_mem.2 hx⟩), ?_⟩
    split at h
    · cases h; exact ⟨[], by rw [List.append_nil], Or.inl rfl⟩
    · split at h
      · cases h
      · next sel hc => cases h; exact ⟨sel, rfl, Or.inr hc⟩

/-- **provenance**: every input of the body was added explicitly, listed as potential input, or reported by the
chain context at a registered input address -/
theorem inputs_subset (hs : ∀ s ∈ selectors, SelectorOk s)
    (h : selectInputs explicit potential addrUtxos excluded needMore selectors = .ok ins) :
    ∀ u ∈ ins, u ∈ explicit ∨ u ∈ potential ∨ u ∈ addrUtxos.flatten := by
  obtain ⟨_, sel, rfl, hsel⟩ := selectInputs_ok explicit potential addrUtxos excluded needMore selectors ins h
  intro u hu
  rcases List.mem_append.1 ((mem_sortU _ _).1 hu) with h1 | h1
  · exact Or.inl h1
  · rcases hsel with rfl | hc
    · cases h1
    · have hp := (chain_ok selectors hs _ sel hc).1 u h1
      exact Or.inr (((pool_spec explicit potential addrUtxos excluded).2 u).1 hp).1

/-- every explicitly added input is present -/
theorem explicit_kept
    (h : selectInputs explicit potential addrUtxos excluded needMore selectors = .ok ins) :
    ∀ u ∈ explicit, u ∈ ins := by
  obtain ⟨_, sel, rfl, _⟩ := selectInputs_ok explicit potential addrUtxos excluded needMore selectors ins h
  exact fun u hu => (mem_sortU _ _).2 (List.mem_append_left _ hu)

/-- **no excluded UTxO is ever used** -/
theorem excluded_unused (hs : ∀ s ∈ selectors, SelectorOk s)
    (h : selectInputs explicit potential addrUtxos excluded needMore selectors = .ok ins) :
    ∀ u ∈ ins, u ∉ excluded := by
  obtain ⟨hex, sel, rfl, hsel⟩ := selectInputs_ok explicit potential addrUtxos excluded needMore selectors ins h
  intro u hu
  rcases List.mem_append.1 ((mem_sortU _ _).1 hu) with h1 | h1
  · exact hex u h1
  · rcases hsel with rfl | hc
    · cases h1
    · have hp := (chain_ok selectors hs _ sel hc).1 u h1
      exact (((pool_spec explicit potential addrUtxos excluded).2 u).1 hp).2.2

/-- a conflict between explicit inputs and the exclusion list is refused, never resolved silently -/
theorem conflict_refused (u : U) (h1 : u ∈ explicit) (h2 : u ∈ excluded) :
    selectInputs explicit potential addrUtxos excluded needMore selectors = .error .conflict := by
  unfold selectInputs
  have : explicit.any (fun u => excluded.contains u) = true := by
    simp only [List.any_eq_true]; exact ⟨u, h1, List.contains_iff_mem.2 h2⟩
  rw [if_pos this]

/-- **each at most once**: distinct explicit inputs give a duplicate-free input list -/
theorem inputs_nodup (hs : ∀ s ∈ selectors, SelectorOk s) (hn : explicit.Nodup)
    (h : selectInputs explicit potential addrUtxos excluded needMore selectors = .ok ins) : ins.Nodup := by
  obtain ⟨_, sel, rfl, hsel⟩ := selectInputs_ok explicit potential addrUtxos excluded needMore selectors ins h
  apply (isort_perm _ _).symm.nodup
  rcases hsel with rfl | hc
  · rw [List.append_nil]; exact hn
  · have hp := pool_spec explicit potential addrUtxos excluded
    have hok := chain_ok selectors hs _ sel hc
    rw [List.nodup_append]
    exact ⟨hn, hok.2 hp.1, fun a ha b hb hab => ((hp.2 a).1 (hok.1 a (hab ▸ hb))).2.1 ha⟩

/-- **canonical order**: the inputs are emitted sorted by (transaction id bytes, index), the ledger's order -/
theorem inputs_sorted
    (h : selectInputs explicit potential addrUtxos excluded needMore selectors = .ok ins) :
    (ins.map (·.1)).Pairwise (fun a b => Pyc.Spec.Ranks.inLt b.toPair a.toPair = false) := by
  obtain ⟨_, sel, rfl, _⟩ := selectInputs_ok explicit potential addrUtxos excluded needMore selectors ins h
  have key : (sortU (explicit ++ sel)).map (·.1) = Rd.sortInputs ((explicit ++ sel).map (·.1)) :=
    map_isort (fun (a b : U) => Rd.keyLe a.1 b.1) Rd.keyLe (·.1) (fun a b => rfl) _
  rw [key]
  exact C11.sortInputs_sorted _

/-- non-vacuity: a wallet in which one UTxO is explicit, potential and at the address, and another is excluded -/
example :
    let a : U := (⟨[1], 0⟩, ⟨5, []⟩)
    let b : U := (⟨[2], 1⟩, ⟨7, []⟩)
    let c : U := (⟨[0], 9⟩, ⟨9, []⟩)
    gatherPool [a] [a, b] [[a, b, c], [c]] [b] = [c] := by decide

end Pyc.C09

#print axioms Pyc.C09.gather_inv
#print axioms Pyc.C09.pool_spec
#print axioms Pyc.C09.chain_spec
#print axioms Pyc.C09.chain_fails_iff
#print axioms Pyc.C09.chain_ok
#print axioms Pyc.C09.mem_sortU
#print axioms Pyc.C09.selectInputs_ok
#print axioms Pyc.C09.inputs_subset
#print axioms Pyc.C09.explicit_kept
#print axioms Pyc.C09.excluded_unused
#print axioms Pyc.C09.conflict_refused
#print axioms Pyc.C09.inputs_nodup
#print axioms Pyc.C09.inputs_sorted
