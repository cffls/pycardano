import Pyc.Proofs.Plutus

/-! # C18 — Plutus data is encoded the way the ledger's Plutus codec encodes it

Specification: `Pyc/Spec/PlutusData.lean` (`specItem`, the ledger's `encodeData`).  Model: `Pyc/Model/Plutus.lean`
(`getTag`, `rawDfs` = `RawPlutusData.to_primitive`, `encodePrim` = `cbor2.dumps` with `default_encoder`, `typedPrim` =
`PlutusData.to_primitive`, `decodeItem` = `cbor2.loads` for both back ends, `toDict` / `fromDict`).
Routes from an abstract datum `d : PData`: `primOf false d` (plain Python lists), `primOf true d` (explicit
`IndefiniteList` / `ByteString`), `typedOf d` (dataclass instances), `jsonOf d` (the JSON form).

Regions (Boolean functions of the datum, also evaluated by the harness): `small` (no bignum payload above 64 bytes),
`chunkFree` (`small` and no byte string above 64 bytes), `keysOk` (map keys are distinct ints / byte strings — what a
Python dict holds faithfully), `topOk` (the top-level object passes `from_primitive`), `jsonOk` (see the model). -/

namespace Pyc.C18
open Pyc.Cbor Pyc.Plutus

/-! ## constructor id ↔ tag -/

/-- `get_tag`: alternatives 0-6 ↦ 121-127, 7-127 ↦ 1280-1400, everything else has no compact tag (general form 102) -/
theorem tag_of_constr (c : Nat) :
    getTag c = if c < 7 then some (121 + c) else if c < 128 then some (1280 + (c - 7)) else none :=
  getTag_nat c

/-- `get_constructor_id_and_fields` inverts `get_tag` on its image -/
theorem constr_of_tag (c t : Nat) (h : getTag c = some t) : constrOfTag t = some (c : Int) :=
  constrOfTag_getTag c t h

/-- the image is exactly 121..127 and 1280..1400, and on it the two maps are mutually inverse -/
theorem tag_image (t : Nat) :
    (∃ c : Nat, getTag c = some t) ↔ (121 ≤ t ∧ t < 128) ∨ (1280 ≤ t ∧ t < 1401) := by
  constructor
  · rintro ⟨c, h⟩
    have := getTag_some h; omega
  · rintro (h | h)
    · exact ⟨t - 121, by rw [getTag_nat, if_pos (by omega), show 121 + (t - 121) = t by omega]⟩
    · exact ⟨t - 1273, by
        rw [getTag_nat, if_neg (by omega), if_pos (by omega), show 1280 + (t - 1273 - 7) = t by omega]⟩

/-- distinct alternatives never share a tag -/
theorem tag_injective (c c' t : Nat) (h : getTag c = some t) (h' : getTag c' = some t) : c = c' := by
  have a := constrOfTag_getTag c t h
  have b := constrOfTag_getTag c' t h'
  rw [a] at b
  injection b with b
  omega

/-- the model's tag choice is the specification's (`specConstr` is written with explicit bounds, `getTag` is the code) -/
theorem tag_rule_is_spec (c : Nat) (x : Item) :
    specConstr c x = match getTag c with
      | some t => .tag t x
      | none => .tag 102 (.array [ofInt c, x]) :=
  specConstr_eq c x

/-- decoding is laxer than encoding: tags 1401..1535 are accepted although no alternative is ever written with them -/
theorem tag_decode_outside_image : constrOfTag 1401 = some 128 ∧ getTag 128 = none := by decide

/-! ## chunking -/

/-- the chunks concatenate to the string; beyond 64 bytes every chunk has 64 bytes except the last, which has 1..64,
and pycardano's slicing loop produces exactly these chunks; up to 64 bytes the string is written as is -/
theorem chunks_spec (b : Bytes) :
    joinChunks (specChunks b) = b ∧
    (64 < b.length → ChunkShape (specChunks b) ∧ pyChunks b = specChunks b) ∧
    (b.length ≤ 64 → specBytes b = .bytes b ∧ encByteString b = .bytes b) := by
  refine ⟨joinChunks_specChunksAux _ b, ?_, ?_⟩
  · intro h
    exact ⟨chunkShape_aux b.length b (by omega) (Nat.le_refl _), pyChunks_eq b h⟩
  · intro h
    have : specBytes b = .bytes b := by unfold specBytes; rw [if_pos h]
    exact ⟨this, by rw [encByteString_eq, this]⟩

/-- `default_encoder` on a `ByteString` is the specification's byte-string rule, at every length -/
theorem bytestring_conforms (b : Bytes) : encByteString b = specBytes b := encByteString_eq b

/-! ## the encoders conform to the specification -/

/-- GOAL: all three construction routes give the canonical bytes -/
def plutus_conforms_goal : Prop :=
  ∀ d : PData, rawToCbor (primOf false d) = specBytesOf d ∧ rawToCbor (primOf true d) = specBytesOf d ∧
    typedToCbor (typedOf d) = specBytesOf d

/-- for every datum without a bignum payload above 64 bytes: `RawPlutusData` over plain lists, `RawPlutusData` over
explicit `IndefiniteList` / `ByteString` primitives, and typed dataclass instances all produce the specification's item
(compact / general constructor tags, non-empty sequences indefinite, empty ones definite, 64-byte chunks, maps in
insertion order, bignums) -/
theorem plutus_conforms_partial (d : PData) (h : small d = true) :
    encodePrim (rawDfs (primOf false d)) = specItem d ∧ encodePrim (rawDfs (primOf true d)) = specItem d ∧
    encodePrim (typedPrim (typedOf d)) = specItem d := by
  refine ⟨?_, ?_, ?_⟩
  · rw [rawDfs_plain, encode_explicit d h]
  · rw [rawDfs_explicit, encode_explicit d h]
  · rw [typedPrim_typedOf, encode_explicit d h]

theorem plutus_conforms_bytes (d : PData) (h : small d = true) :
    rawToCbor (primOf false d) = specBytesOf d ∧ rawToCbor (primOf true d) = specBytesOf d ∧
    typedToCbor (typedOf d) = specBytesOf d := by
  obtain ⟨a, b, c⟩ := plutus_conforms_partial d h
  unfold rawToCbor typedToCbor specBytesOf
  rw [a, b, c]; exact ⟨rfl, rfl, rfl⟩

/-- 2^512 needs a 65-byte bignum payload: the ledger chunks it, cbor2 does not -/
theorem plutus_conforms_counterexample : ¬ plutus_conforms_goal := by
  intro h
  have := (h (.int (2^512))).1
  revert this
  decide +kernel

/-- GOAL: a typed `List[T]` field may hold a plain Python list -/
def typed_plain_list_goal : Prop :=
  ∀ (c : Nat) (xs : List PData), typedToCbor (.obj c [.list (typedOfList xs)]) = specBytesOf (.constr c [.list xs])

/-- a non-empty plain list in a typed field is written as a definite array (`d8799f820102ff`, canonical
`d8799f9f0102ffff`) -/
theorem typed_plain_list_counterexample : ¬ typed_plain_list_goal := by
  intro h
  have := h 0 [.int 1, .int 2]
  revert this
  decide

/-! ## decoding the canonical bytes and encoding them again -/

/-- `RawPlutusData.from_cbor(bs).to_cbor()` -/
def reencode (cext : Bool) (fuel : Nat) (bs : Bytes) : Option Bytes :=
  (rawFromCbor cext fuel bs).map rawToCbor

/-- decoding the canonical item gives back exactly the object tree of the matching construction style: explicit
`IndefiniteList`s with the patched pure-Python decoder, plain lists with the C extension -/
theorem decode_spec_item (cext : Bool) (d : PData) (hc : chunkFree d = true) (hk : keysOk d = true) :
    decodeItem cext (specItem d) = some (primOf (!cext) d) :=
  decode_spec cext d hc hk

/-- for data free of chunked strings, with dict-representable map keys and an accepted top-level object, decoding the
canonical bytes and encoding again is the identity on bytes — for the patched pure-Python decoder and, because
`to_primitive` re-normalises plain lists, for the C extension as well -/
theorem decode_spec_roundtrip_partial (cext : Bool) (d : PData) (fuel : Nat)
    (hf : depth (specItem d) ≤ fuel) (hz : sized d = true)
    (hc : chunkFree d = true) (hk : keysOk d = true) (ht : topOk cext d = true) :
    reencode cext fuel (specBytesOf d) = some (specBytesOf d) := by
  have hs : small d = true := small_of_chunkFree d hc
  have hw : WF (specItem d) := wf_spec d hc hz
  unfold reencode rawFromCbor specBytesOf
  have hdec := decode_encode (specItem d) [] fuel hf hw
  rw [List.append_nil] at hdec
  rw [hdec]
  simp only [decode_spec cext d hc hk, Option.bind_some, rawFromPrimitive_primOf cext d hc ht, Option.map_some]
  have hp := plutus_conforms_partial d hs
  unfold rawToCbor
  cases cext
  · simp only [Bool.not_false]; rw [hp.2.1]
  · simp only [Bool.not_true]; rw [hp.1]

/-- GOAL: the same without the `chunkFree` hypothesis -/
def decode_spec_roundtrip_goal : Prop :=
  ∀ (d : PData) (fuel : Nat), depth (specItem d) ≤ fuel → sized d = true → keysOk d = true → topOk false d = true →
    reencode false fuel (specBytesOf d) = some (specBytesOf d)

/-- a 65-byte string: canonical `5f 5840 … 41 00 ff`, decoded to plain `bytes`, re-emitted `5841 …` -/
theorem decode_spec_roundtrip_counterexample : ¬ decode_spec_roundtrip_goal := by
  intro h
  have := h (.bytes (List.replicate 65 0)) 8 (by decide) (by decide) (by decide) (by decide)
  revert this
  decide

/-- GOAL: the same for maps with a repeated key (Plutus maps are association lists) -/
def decode_dupkey_goal : Prop :=
  ∀ (d : PData) (fuel : Nat), depth (specItem d) ≤ fuel → sized d = true → chunkFree d = true →
    reencode false fuel (specBytesOf d) = some (specBytesOf d)

/-- `a2 01 02 01 03` comes back as `a1 01 03` -/
theorem decode_dupkey_counterexample : ¬ decode_dupkey_goal := by
  intro h
  have := h (.map [(.int 1, .int 2), (.int 1, .int 3)]) 8 (by decide) (by decide) (by decide)
  revert this
  decide

/-- the top-level object: `from_primitive` refuses a plain list, so the canonical empty list `80` cannot be decoded,
and with the C extension (where every list arrives plain) no top-level list can -/
theorem toplevel_list_refused :
    reencode false 8 (specBytesOf (.list [])) = none ∧
    reencode true 8 (specBytesOf (.list [.int 1])) = none ∧
    reencode false 8 (specBytesOf (.list [.int 1])) = some (specBytesOf (.list [.int 1])) := by
  decide

/-! ## the JSON route -/

/-- `to_dict` is faithful: whichever way the datum was built, its JSON form comes out -/
theorem to_dict_faithful (explicit : Bool) (d : PData) : rawToDict (primOf explicit d) = some (jsonOf d) := by
  unfold rawToDict
  cases explicit
  · rw [rawDfs_plain, toDict_primOf]
  · rw [rawDfs_explicit, toDict_primOf]

/-- `RawPlutusData.from_dict(j).to_cbor()` -/
def jsonRoute (d : PData) : Option Bytes := (fromDict (jsonOf d)).map rawToCbor

/-- GOAL: the JSON form encodes to the canonical bytes -/
def json_roundtrip_goal : Prop :=
  ∀ d : PData, small d = true → keysOk d = true → jsonRoute d = some (specBytesOf d)

/-- inside the region `jsonOk` (no empty list, no field-less constructor ≥ 128, no constructor < 128 with fields below
a list or below a constructor ≥ 128) the JSON route gives the canonical bytes -/
theorem json_roundtrip_partial (d : PData) (hs : small d = true) (hk : keysOk d = true)
    (hj : jsonOk false d = true) : jsonRoute d = some (specBytesOf d) := by
  unfold jsonRoute rawToCbor specBytesOf
  rw [fromDict_jsonOf d hk, Option.map_some, json_open d hs hj]

/-- the constructor nested in a list: `d8799f9fd87a9f0102ffffff` ↦ `d8799f9fd87a820102ffff` -/
theorem json_roundtrip_counterexample : ¬ json_roundtrip_goal := by
  intro h
  have := h (.constr 0 [.list [.constr 1 [.int 1, .int 2]]]) (by decide) (by decide)
  revert this
  decide

/-- the empty list: `80` ↦ `9fff` (also outside `jsonOk`) -/
theorem json_empty_list_counterexample :
    jsonRoute (.constr 0 [.list []]) ≠ some (specBytesOf (.constr 0 [.list []])) ∧
    jsonRoute (.constr 128 []) ≠ some (specBytesOf (.constr 128 [])) := by
  decide

/-- bytes → decode → `to_dict` → `from_dict` → bytes, inside the intersection of the regions -/
theorem json_from_bytes_partial (cext : Bool) (d : PData) (fuel : Nat)
    (hf : depth (specItem d) ≤ fuel) (hz : sized d = true)
    (hc : chunkFree d = true) (hk : keysOk d = true) (ht : topOk cext d = true) (hj : jsonOk false d = true) :
    ((rawFromCbor cext fuel (specBytesOf d)).bind rawToDict).bind (fun j => (fromDict j).map rawToCbor)
      = some (specBytesOf d) := by
  have hs : small d = true := small_of_chunkFree d hc
  have hw : WF (specItem d) := wf_spec d hc hz
  unfold rawFromCbor specBytesOf
  have hdec := decode_encode (specItem d) [] fuel hf hw
  rw [List.append_nil] at hdec
  rw [hdec]
  simp only [decode_spec cext d hc hk, Option.bind_some, rawFromPrimitive_primOf cext d hc ht, to_dict_faithful]
  exact json_roundtrip_partial d hs hk hj

/-! ## datum hash (any hash function: equal bytes, equal hash) -/

theorem datum_hash_preserved {α : Type} (H : Bytes → α) (d : PData) (hs : small d = true) :
    H (rawToCbor (primOf false d)) = H (specBytesOf d) ∧ H (rawToCbor (primOf true d)) = H (specBytesOf d) ∧
    H (typedToCbor (typedOf d)) = H (specBytesOf d) := by
  obtain ⟨a, b, c⟩ := plutus_conforms_bytes d hs
  rw [a, b, c]; exact ⟨rfl, rfl, rfl⟩

theorem datum_hash_reencode {α : Type} (H : Bytes → α) (cext : Bool) (d : PData) (fuel : Nat)
    (hf : depth (specItem d) ≤ fuel) (hz : sized d = true)
    (hc : chunkFree d = true) (hk : keysOk d = true) (ht : topOk cext d = true) :
    (reencode cext fuel (specBytesOf d)).map H = some (H (specBytesOf d)) := by
  rw [decode_spec_roundtrip_partial cext d fuel hf hz hc hk ht]; rfl

theorem datum_hash_json {α : Type} (H : Bytes → α) (d : PData) (hs : small d = true) (hk : keysOk d = true)
    (hj : jsonOk false d = true) : (jsonRoute d).map H = some (H (specBytesOf d)) := by
  rw [json_roundtrip_partial d hs hk hj]; rfl

/-! ## the long-bytes guard -/

/-- construction of a typed instance is refused exactly when some field value is a `bytes` longer than 64 -/
theorem long_bytes_guard (c : Nat) (fs : List TObj) :
    mkObj c fs = none ↔ ∃ f ∈ fs, ∃ b, f = .bytes b ∧ 64 < b.length := by
  unfold mkObj
  constructor
  · intro h
    split at h
    · rename_i ha
      rw [List.any_eq_true] at ha
      obtain ⟨f, hf, hl⟩ := ha
      refine ⟨f, hf, ?_⟩
      cases f <;> simp [longBytesField] at hl
      exact ⟨_, rfl, hl⟩
    · cases h
  · rintro ⟨f, hf, b, rfl, hb⟩
    have : fs.any longBytesField = true := by
      rw [List.any_eq_true]; exact ⟨_, hf, by simp [longBytesField, hb]⟩
    rw [if_pos this]

/-! ## non-vacuity -/

/-- a datum with all node kinds, every tag class, a 64-bit-boundary integer, a bignum and nested sequences lies in all
regions at once, and its specification item is well-formed with small depth -/
example :
    let d : PData := .constr 5 [.constr 130 [.int (2^64)], .list [.int (-1), .bytes [1, 2, 3]],
      .map [(.int 1, .bytes []), (.bytes [7], .constr 127 [])]]
    small d = true ∧ chunkFree d = true ∧ keysOk d = true ∧ topOk false d = true ∧ topOk true d = true ∧
      jsonOk false d = true ∧ sized d = true ∧ depth (specItem d) ≤ 12 := by
  decide +kernel

/-- the chunk-free roundtrip theorem applies to it, for both back ends -/
example (cext : Bool) :
    reencode cext 12 (specBytesOf (.constr 5 [.list [.int (-1), .bytes [1, 2, 3]], .map [(.int 1, .constr 127 [])]]))
      = some (specBytesOf (.constr 5 [.list [.int (-1), .bytes [1, 2, 3]], .map [(.int 1, .constr 127 [])]])) := by
  cases cext <;> decide

/-- a chunked string is in `small` (so the encoders conform on it) but not in `chunkFree` -/
example : small (.bytes (List.replicate 129 7)) = true ∧ chunkFree (.bytes (List.replicate 129 7)) = false ∧
    specChunks (List.replicate 129 7) = [List.replicate 64 7, List.replicate 64 7, [7]] := by
  decide +kernel

end Pyc.C18

#print axioms Pyc.C18.tag_of_constr
#print axioms Pyc.C18.constr_of_tag
#print axioms Pyc.C18.tag_image
#print axioms Pyc.C18.tag_injective
#print axioms Pyc.C18.tag_rule_is_spec
#print axioms Pyc.C18.tag_decode_outside_image
#print axioms Pyc.C18.chunks_spec
#print axioms Pyc.C18.bytestring_conforms
#print axioms Pyc.C18.plutus_conforms_partial
#print axioms Pyc.C18.plutus_conforms_bytes
#print axioms Pyc.C18.plutus_conforms_counterexample
#print axioms Pyc.C18.typed_plain_list_counterexample
#print axioms Pyc.C18.decode_spec_item
#print axioms Pyc.C18.decode_spec_roundtrip_partial
#print axioms Pyc.C18.decode_spec_roundtrip_counterexample
#print axioms Pyc.C18.decode_dupkey_counterexample
#print axioms Pyc.C18.toplevel_list_refused
#print axioms Pyc.C18.to_dict_faithful
#print axioms Pyc.C18.json_roundtrip_partial
#print axioms Pyc.C18.json_roundtrip_counterexample
#print axioms Pyc.C18.json_empty_list_counterexample
#print axioms Pyc.C18.json_from_bytes_partial
#print axioms Pyc.C18.datum_hash_preserved
#print axioms Pyc.C18.datum_hash_reencode
#print axioms Pyc.C18.datum_hash_json
#print axioms Pyc.C18.long_bytes_guard
