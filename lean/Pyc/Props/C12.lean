import Pyc.Proofs.Redeemers

/-! # C12 — the script integrity hash matches the witnesses actually shipped

Model: `Pyc/Model/Redeemers.lean` (`sdhPreimage` = what `TransactionBuilder.script_data_hash` /
`utils.script_data_hash` feed to BLAKE2b-256, `buildWitnessSet`, `encRedeemers` map / list form, `langViews` =
`CostModels.to_shallow_primitive`, `updateExUnits`, `build`).  Specification: `Pyc/Spec/Ranks.lean`
(`languageViews`: canonical map of per-language views).  BLAKE2b itself is not modelled: the statements are about the
preimage; the harness applies `hashlib.blake2b` to it. -/

namespace Pyc.C12
open Pyc.Cbor Pyc.Rd Pyc.Spec.Ranks

/-- the hash is absent precisely when there are neither redeemers nor datums -/
theorem sdh_absent_iff (st : St) (useMap : Bool) (pp : Nat → CostModel) (dflt : Bytes) :
    sdhPreimage st useMap pp dflt = none ↔ redeemerList st = [] ∧ st.datums = [] := by
  unfold sdhPreimage
  dsimp only
  rw [← List.isEmpty_iff, ← List.isEmpty_iff (l := st.datums), and_comm, ← Bool.and_eq_true]
  split
  · rename_i h; exact iff_of_true rfl h
  · rename_i h; exact iff_of_false (fun e => nomatch e) h

/-- the language-view part of the preimage -/
def viewsOf (st : St) (pp : Nat → CostModel) (dflt : Bytes) : Bytes :=
  if (redeemerList st).isEmpty then [0xa0]
  else if (sortLangs (usedLangs st)).isEmpty then dflt
  else langViews (usedLangs st) pp

/-- **the preimage is built from what the witness set ships**: for one and the same builder state, the redeemer bytes
and the datum bytes inside the hash preimage are the very byte strings `build_witness_set` puts under keys 5 and 4
(an absent key 5 stands for the empty map `a0`, an absent key 4 for nothing), followed by the language views -/
theorem sdh_preimage (st : St) (useMap removeDup : Bool) (carried : TxIn → Option Script) (pp : Nat → CostModel)
    (dflt : Bytes) :
    let w := buildWitnessSet st useMap removeDup carried
    sdhPreimage st useMap pp dflt =
      if w.redeemer.isNone && w.plutusData.isNone then none
      else some (w.redeemer.getD [0xa0] ++ w.plutusData.getD [] ++ viewsOf st pp dflt) := by
  simp only [buildWitnessSet, sdhPreimage, viewsOf]
  have ha0 : encRawMap [] = [0xa0] := by decide
  by_cases hr : redeemerList st = [] <;> by_cases hd : st.datums = []
  · simp [hr, hd]
  · simp [hr, hd, encRedeemers, redeemerMap, Dict.ofPairs, ha0]
  · simp [hr, hd]
  · simp [hr, hd]

/-- **after execution units have been replaced**: `build` produces one final state; in estimating mode every
redeemer of that state carries the evaluated units, and both the body's hash preimage and the witness set are
functions of that state (`sdh_preimage`) — the hash cannot see stale units -/
theorem sdh_after_units (net : Nat) (st st' : St) (sel : List TxIn) (ev : Nat → Nat → Option (Int × Int))
    (hb : build net st sel ev = some st') (he : st.estimate = some true) :
    ∀ r ∈ redeemerList st', ev r.tag r.index = some (r.mem, r.steps) :=
  (build_some hb).units he

/-- units supplied by the caller are left alone -/
theorem sdh_supplied_units (ev : Nat → Nat → Option (Int × Int)) (st : St) (he : st.estimate ≠ some true) :
    updateExUnits ev st = some st := by
  simp [updateExUnits, he]

/-- Plutus V1 view: model = specification (`{ h'00' : bytes(indefinite list of the values by ascending name) }`) -/
theorem views_v1 (cm : CostModel) (hn : (cm.map (·.1)).Nodup) : viewEntry 0 cm = viewV1 cm :=
  -- holds for any association list: the model sorts the names with the specification's comparison
  have _ := hn
  viewEntry_v1 cm

/-- Plutus Vn (n ≥ 2) view: model = specification (`{ n-1 : [values] }`) -/
theorem views_vn (l : Nat) (hl : l ≠ 0) (cm : CostModel) : viewEntry l cm = viewVn l (cm.map (·.2)) :=
  viewEntry_vn l hl cm

/-- which languages enter: `l` is used iff some script of `all_scripts` has version `l + 1`
(`type(s) is bytes` counts as version 1, native scripts have none) -/
theorem used_langs (st : St) (l : Nat) :
    l ∈ usedLangs st ↔ ∃ p ∈ allScripts st, p.2.version = some (l + 1) := by
  have pos (s : Script) (v : Nat) (hv : s.version = some v) : 1 ≤ v := by
    unfold Script.version at hv
    split at hv <;> cases hv <;> decide
  simp only [usedLangs, List.mem_filterMap, Option.map_eq_some_iff]
  constructor
  · rintro ⟨p, hp, v, hv, rfl⟩
    exact ⟨p, hp, by rw [hv, Nat.sub_add_cancel (pos _ _ hv)]⟩
  · rintro ⟨p, hp, hv⟩
    exact ⟨p, hp, l + 1, hv, rfl⟩

/-- **the language views are canonical** (full strength, for the repaired iteration order of /repo 864980f): for every
set of languages — any list of ids below 256, in any order, with repetitions; the ledger knows 0, 1, 2 — the bytes
inside the hash preimage are the specification's language views: a definite map whose keys are in canonical order
(shortest encoding first, then bytewise), V1 under the key `41 00` last.  That the V1 cost model is a dict (`hn`,
distinct parameter names) plays no part: `Rd.langViews_canonical` is the statement without it. -/
theorem views_canonical (langs : List Nat) (pp : Nat → CostModel) (hl : ∀ l ∈ langs, l < 256)
    (hn : 0 ∈ langs → ((pp 0).map (·.1)).Nodup) :
    langViews langs pp = languageViews (dedupNat langs) pp :=
  have _ := hn
  langViews_canonical langs pp hl

/-- the keys of the emitted map are in canonical order: each emitted key is `lenLexLe` every later one -/
theorem views_keys_sorted (langs : List Nat) (hl : ∀ l ∈ langs, l < 256) :
    ((sortLangs langs).map viewKey).Pairwise (fun a b => lenLexLe a b = true) := by
  rw [List.pairwise_map]
  exact sortLangs_keys_sorted langs hl

/-- documentation of the repaired defect KF-C12-views-order: the PINNED tree iterated `sorted(self.keys())`, which
for Plutus V1 together with V2 puts the two-byte key `41 00` before the one-byte key `01` — not the canonical map -/
theorem views_pinned_order_noncanonical :
    langViewsPinned [0, 1] (fun _ => []) ≠ languageViews [0, 1] (fun _ => []) := by
  decide +kernel

/-- pinned: `a2 4100 42 9fff 01 80`; repaired model = specification: `a2 01 80 4100 42 9fff` -/
example : langViewsPinned [0, 1] (fun _ => []) = [0xa2, 0x41, 0x00, 0x42, 0x9f, 0xff, 0x01, 0x80] ∧
    langViews [1, 0, 1] (fun _ => []) = [0xa2, 0x01, 0x80, 0x41, 0x00, 0x42, 0x9f, 0xff] ∧
    languageViews [0, 1] (fun _ => []) = [0xa2, 0x01, 0x80, 0x41, 0x00, 0x42, 0x9f, 0xff] := by decide +kernel

/-- all three languages with non-empty tables (V1 names out of order, a negative and a > 64-bit value) -/
example :
    let pp : Nat → CostModel := fun l => if l = 0 then [([0x62], 2), ([0x61], -1)] else [([0x7a], 18446744073709551616)]
    langViews [0, 2, 1] pp = languageViews [0, 1, 2] pp ∧ (∀ l ∈ [0, 2, 1], l < 256) := by decide +kernel

/-- **redeemer map**: in map form the entries come out in canonical key order, and (for pairwise distinct
`(tag, index)`, as in every transaction the ledger accepts) the bytes are a function of the *set* of redeemers -/
theorem redeemer_map_order (l : List Rdm) :
    encRedeemers true l = head 5 (redeemerMap l).length ++ (canonSortRaw (redeemerMap l)).flatMap (fun p => p.1 ++ p.2) ∧
    (canonSortRaw (redeemerMap l)).Pairwise (fun a b => lenLexLe a.1 b.1 = true) := by
  refine ⟨by simp [encRedeemers, encRawMap], ?_⟩
  exact isort_pairwise (fun (a b : Bytes × Bytes) => lenLexLe a.1 b.1)
    (fun a b c h1 h2 => lenLexLe_trans _ _ _ h1 h2) (fun a b => lenLexLe_total _ _) _

theorem redeemer_map_set (l₁ l₂ : List Rdm) (hp : l₁.Perm l₂) (hn : (l₁.map mapKey).Nodup) :
    encRedeemers true l₁ = encRedeemers true l₂ := by
  have keys (l : List Rdm) : (l.map fun r => (mapKey r, mapVal r)).map (·.1) = l.map mapKey := by
    rw [List.map_map]; rfl
  have e (l : List Rdm) (hl : (l.map mapKey).Nodup) : redeemerMap l = l.map fun r => (mapKey r, mapVal r) :=
    ofPairs_of_nodup _ ((keys l).symm ▸ hl)
  simp only [encRedeemers, Bool.true_or, if_true]
  rw [e l₁ hn, e l₂ ((hp.map mapKey).nodup_iff.1 hn)]
  exact encRawMap_order_independent _ _ (show (List.map _ _).Nodup from (keys l₁).symm ▸ hn) (hp.map _)

/-- list form: a definite array of the `[tag, index, data, [mem, steps]]` entries in `_redeemer_list` order; with no
redeemer at all the (empty) map form is used whatever the flag says -/
theorem redeemer_list_form (l : List Rdm) (hne : l ≠ []) :
    encRedeemers false l = head 4 l.length ++ l.flatMap encListEntry ∧ encRedeemers false [] = [0xa0] := by
  have : l.isEmpty = false := by cases l <;> simp_all
  refine ⟨by simp [encRedeemers, this], by decide⟩

/-! ## non-vacuity -/

/-- a state with one spending redeemer, one datum and a V2 script: the hash is present, its preimage is
`redeemers ‖ datums ‖ views` with the shipped byte strings -/
example :
    let st : St := { inputs := [⟨[1], 0⟩], inRedeemers := [(⟨[1], 0⟩, ⟨0, 0, [0x07], 1000, 2000⟩)],
                     inScripts := [(⟨[1], 0⟩, ⟨.v2, [9]⟩)], datums := [([5], [0x18, 0x2a])] }
    sdhPreimage st true (fun _ => [([0x61], 5), ([0x62], 6)]) [] =
      some ([0xa1, 0x82, 0x00, 0x00, 0x82, 0x07, 0x82, 0x19, 0x03, 0xe8, 0x19, 0x07, 0xd0] ++ [0x81, 0x18, 0x2a]
            ++ [0xa1, 0x01, 0x82, 0x05, 0x06]) ∧
    (buildWitnessSet st true true (fun _ => none)).redeemer =
      some [0xa1, 0x82, 0x00, 0x00, 0x82, 0x07, 0x82, 0x19, 0x03, 0xe8, 0x19, 0x07, 0xd0] ∧
    (buildWitnessSet st true true (fun _ => none)).plutusData = some [0x81, 0x18, 0x2a] := by
  decide +kernel

/-- datums only: `a0 ‖ datums ‖ a0` -/
example : sdhPreimage { datums := [([5], [0x18, 0x2a])] } true (fun _ => []) [] = some [0xa0, 0x81, 0x18, 0x2a, 0xa0] := by
  decide +kernel

end Pyc.C12

#print axioms Pyc.C12.sdh_absent_iff
#print axioms Pyc.C12.sdh_preimage
#print axioms Pyc.C12.sdh_after_units
#print axioms Pyc.C12.sdh_supplied_units
#print axioms Pyc.C12.views_v1
#print axioms Pyc.C12.views_vn
#print axioms Pyc.C12.used_langs
#print axioms Pyc.C12.views_canonical
#print axioms Pyc.C12.views_keys_sorted
#print axioms Pyc.C12.views_pinned_order_noncanonical
#print axioms Pyc.C12.redeemer_map_order
#print axioms Pyc.C12.redeemer_map_set
#print axioms Pyc.C12.redeemer_list_form
