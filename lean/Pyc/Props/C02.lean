import Pyc.Proofs.SchemaCheck
import Pyc.Spec.Conway
import Pyc.Generated.Schema

/-! # C02 — emitted CBOR conforms to the Conway ledger wire format (table part)

`repoSchema` is regenerated from /repo's live classes on every run (harness/extract_schema.py); `specSchema` is the
Conway CDDL transliterated by hand (Pyc/Spec/Conway.lean).  The obligations below are re-checked by the kernel
whenever the generated data changes: a changed body key, certificate code, witness-set key, optional flag, field
order, union alternative or hash size makes them false.  Rules with their own encoding logic are compared by the
differential harness against the independent reference encoder (harness/ref/conway.py). -/

namespace Pyc.C02
open Pyc.Schema Pyc.Generated Pyc.Spec.Conway

/-- every struct rule of the Conway CDDL is implemented by the class of that name with the prescribed codec kind /
type code, and field by field the prescribed map key or array position, optionality and wire type -/
theorem repo_refines : refines repoSchema specSchema = true := by decide +kernel

/-- diagnostics: the list of specification classes not refined is empty -/
theorem repo_refine_failures : refineFailures repoSchema specSchema = [] := refineFailures_eq_nil repo_refines

def unionsMatch (R S : List (String × Ty)) : Bool :=
  S.all (fun s => match R.find? (fun r => r.1 == s.1) with
    | some r => tyMatch r.2 s.2
    | none => false)

/-- the certificate (17 kinds), governance-action (7 kinds) and redeemers unions dispatch over exactly the
alternatives the CDDL lists -/
theorem repo_unions : unionsMatch repoUnions specUnions = true := by decide +kernel

/-- what `refines` means, class by class -/
theorem refines_sound (R S : List ClassDef) (h : refines R S = true) (s : ClassDef) (hs : s ∈ S) :
    ∃ r, lookup R s.name = some r ∧ classMatch r s = true := by
  unfold refines at h
  rw [List.all_eq_true] at h
  have := h s hs
  split at this
  · rename_i r hr; exact ⟨r, hr, this⟩
  · simp at this

/-- a mismatch in a single key is enough to falsify the obligation (non-vacuity of the check itself) -/
example : refines
    [{ name := "T", kind := .map, overrides := [], fields := [{ name := "a", key := .int 8, optional := true, init := true, hook := false, ty := .int }] }]
    [{ name := "T", kind := .map, overrides := [], fields := [{ name := "a", key := .int 9, optional := true, init := true, hook := false, ty := .int }] }]
    = false := by decide

end Pyc.C02

#print axioms Pyc.C02.repo_refines
#print axioms Pyc.C02.repo_refine_failures
#print axioms Pyc.C02.repo_unions
#print axioms Pyc.C02.refines_sound
