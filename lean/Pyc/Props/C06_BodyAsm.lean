import Pyc.Proofs.BodyAsm
import Pyc.Props.C06
import Pyc.Props.C11

/-! # C06 (extension `BodyAsm`) — the body carries exactly the builder's state, so conservation transfers to the body

Model: `Pyc/Model/BodyAsm.lean` — `BState` (what `TransactionBuilder._build_tx_body` reads), `Body` (the
`TransactionBody` it returns, CDDL keys 0..22), `buildBody` (the method, argument by argument), `finalizeState` (the tail
of `build()` that fixes body-relevant state) and `Ledger.*` (the ledger's consumed / produced on a body and a UTxO map).

The C06 theorems (`conserves_ada`, `conserves_assets`, `Props/C06.lean`) are about the accounting sub-model: inputs,
withdrawals, mint, deposits as the builder STATE holds them, and the output list `_add_change_and_fee` leaves.  The ledger
evaluates its balance equation on the BODY.  This file closes the gap:

* **faithfulness** — every field of `buildBody s` is the state's, none dropped, defaulted or taken from elsewhere
  (`scalars_faithful` … `keys_written`); which fields are written as *empty* rather than omitted is stated as the code has it
  (`passed_absent_iff_empty_goal` is FALSE: `mint`, `certificates`, `withdrawals` are passed through);
* **reference inputs** are exactly the gathered references, each once; they are NOT made disjoint from the spent inputs
  (`reference_inputs_disjoint_goal` is FALSE);
* **bridge** — `Ledger.consumed*` / `Ledger.produced*` of `buildBody s` are the expressions the accounting reads off `s`
  (`ledger_consumed_coin_eq` …), provided the spent inputs are pairwise distinct references (`bridge_needs_distinct_counterexample`:
  without that the body, an `OrderedSet`, holds fewer inputs than the accounting added up); with C06's theorems this gives the
  ledger's equation on the body itself (`body_conserves_ada`, `body_conserves_assets`). -/

namespace Pyc.C06.BodyAsm
open Pyc.Builder Pyc.BodyAsm Pyc.BodyAsm.Ledger

/-! ## faithfulness, field by field -/

/-- fee, outputs, validity interval, collateral return / total: the state's values as they are; `update` and `network_id`
are never written -/
theorem scalars_faithful (s : BState) :
    (buildBody s).fee = s.fee ∧ (buildBody s).outputs = s.outputs ∧ (buildBody s).ttl = s.ttl ∧
    (buildBody s).validityStart = s.validityStart ∧ (buildBody s).collateralReturn = s.collateralReturn ∧
    (buildBody s).totalCollateral = s.totalCollateral ∧ (buildBody s).update = none ∧ (buildBody s).networkId = none :=
  ⟨rfl, rfl, rfl, rfl, rfl, rfl, rfl, rfl⟩

/-- the inputs of the body are a set with exactly the references of the builder's inputs, in the builder's order (each at
its first occurrence) -/
theorem inputs_faithful (s : BState) :
    (buildBody s).inputs.Nodup ∧ (∀ r, r ∈ (buildBody s).inputs ↔ ∃ u ∈ s.inputs, u.ref = r) ∧
    (buildBody s).inputs.Sublist (s.inputs.map (·.ref)) := by
  refine ⟨nodup_oset _, ?_, oset_sublist _⟩
  intro r
  show r ∈ oset (s.inputs.map (·.ref)) ↔ _
  rw [mem_oset]; exact List.mem_map

/-- … and the very list of references when the builder's inputs are pairwise distinct -/
theorem inputs_exact (s : BState) (h : (s.inputs.map (·.ref)).Nodup) :
    (buildBody s).inputs = s.inputs.map (·.ref) := oset_of_nodup _ h

/-- the same two views C11 states its theorems about (`Rd.bodyInputs`, `Rd.bodyPolicies`): the body's inputs are
`Rd.bodyInputs` of the builder's, and the policies of the mint field as written are `Rd.bodyPolicies` of the stored mint -/
theorem c11_views_agree (s : BState) :
    (buildBody s).inputs = Rd.bodyInputs (s.inputs.map (·.ref)) ∧
    Dict.keys (((buildBody s).wireMint).getD []) = Rd.bodyPolicies (s.mint.getD []) := by
  refine ⟨oset_eq_bodyInputs _, ?_⟩
  show Dict.keys ((s.mint.map MultiAsset.normalize).getD []) = _
  cases h : s.mint with
  | none => simp [Rd.bodyPolicies, MultiAsset.normalize, Dict.keys]
  | some m => simp [Rd.bodyPolicies]

/-- `mint`, `certificates`, `withdrawals` are handed to the body as the builder holds them — also when they are empty
but not `None` -/
theorem passed_through (s : BState) :
    (buildBody s).mint = s.mint ∧ (buildBody s).certificates = s.certificates ∧
    (buildBody s).withdrawals = s.withdrawals := ⟨rfl, rfl, rfl⟩

/-- the goal "a field is omitted exactly when the builder holds nothing for it", for the three passed-through fields
(`mint` as written: zero quantities and emptied policies are dropped by `MultiAsset.to_primitive`) -/
def passed_absent_iff_empty_goal : Prop :=
  ∀ s : BState,
    (((buildBody s).wireMint = none ∨ (buildBody s).wireMint = some []) → (buildBody s).mint = none) ∧
    ((buildBody s).certificates = none ↔ s.certificates.getD [] = []) ∧
    ((buildBody s).withdrawals = none ↔ s.withdrawals.getD [] = [])

/-- the hypothesis under which it holds: the builder does not hold an empty-but-not-`None` collection -/
def noEmptyHeld (s : BState) : Bool :=
  (match s.mint with
   | some m => !(MultiAsset.normalize m).isEmpty
   | none => true) &&
  (match s.certificates with
   | some l => !l.isEmpty
   | none => true) &&
  (match s.withdrawals with
   | some l => !l.isEmpty
   | none => true)

theorem passed_absent_iff_empty_partial (s : BState) (h : noEmptyHeld s = true) :
    (((buildBody s).wireMint = none ∨ (buildBody s).wireMint = some []) → (buildBody s).mint = none) ∧
    ((buildBody s).certificates = none ↔ s.certificates.getD [] = []) ∧
    ((buildBody s).withdrawals = none ↔ s.withdrawals.getD [] = []) := by
  simp only [noEmptyHeld, Bool.and_eq_true] at h
  refine ⟨?_, eq_none_iff_getD_nil (o := s.certificates) fun e => by simp [e] at h,
    eq_none_iff_getD_nil (o := s.withdrawals) fun e => by simp [e] at h⟩
  show ((s.mint.map MultiAsset.normalize) = none ∨ (s.mint.map MultiAsset.normalize) = some []) → s.mint = none
  cases hs : s.mint with
  | none => exact fun _ => rfl
  | some m =>
    have hm := h.1.1
    rw [hs] at hm
    rintro (h' | h')
    · cases h'
    · simp only [Option.map_some, Option.some.injEq] at h'
      simp [h'] at hm

/-- the witness state: `builder.certificates = []` (everything else default) — the body carries `certificates = []`, which
`to_cbor()` writes as key 4 with an empty array -/
def emptyCerts : BState := { certificates := some [] }

theorem passed_absent_iff_empty_counterexample : ¬ passed_absent_iff_empty_goal :=
  fun h => nomatch ((h emptyCerts).2.1).2 rfl

/-- the guarded fields (`X if X else None`): omitted exactly when the builder holds nothing (an empty list / set / dict, zero) -/
theorem guarded_absent_iff_empty (s : BState) :
    ((buildBody s).requiredSigners = none ↔ s.requiredSigners.getD [] = []) ∧
    ((buildBody s).collateral = none ↔ s.collaterals = []) ∧
    ((buildBody s).referenceInputs = none ↔ s.referenceInputs = []) ∧
    ((buildBody s).voting = none ↔ s.voting.getD [] = []) ∧
    ((buildBody s).proposals = none ↔ s.proposals.getD [] = []) ∧
    ((buildBody s).treasury = none ↔ s.treasury.getD 0 = 0) ∧
    ((buildBody s).donation = none ↔ s.donation.getD 0 = 0) :=
  ⟨Option.map_eq_none_iff.trans (truthyList_eq_none _), body_collateral s ▸ whenNonEmpty_eq_none _ _,
    body_referenceInputs s ▸ whenNonEmpty_eq_none _ _, truthyList_eq_none _, truthyList_eq_none _,
    truthyInt_eq_none _, truthyInt_eq_none _⟩

/-- … and when written they hold the builder's content: required signers and collateral as duplicate-free sets in the
builder's order, votes / proposals / treasury value / donation as they are -/
theorem guarded_content (s : BState) :
    (buildBody s).requiredSigners.getD [] = oset (s.requiredSigners.getD []) ∧
    (buildBody s).collateral.getD [] = oset (s.collaterals.map (·.ref)) ∧
    (buildBody s).voting.getD [] = s.voting.getD [] ∧
    (buildBody s).proposals.getD [] = s.proposals.getD [] ∧
    (buildBody s).treasury.getD 0 = s.treasury.getD 0 ∧
    (buildBody s).donation.getD 0 = s.donation.getD 0 :=
  ⟨(Option.getD_map oset [] _).trans (congrArg oset (truthyList_getD _)),
    body_collateral s ▸ whenNonEmpty_getD _ _ rfl,
    truthyList_getD _, truthyList_getD _, truthyInt_getD _, truthyInt_getD _⟩

/-- a non-zero donation / treasury value is written as it is (never dropped, never defaulted) -/
theorem donation_written (s : BState) (d : Int) :
    ((buildBody s).donation = some d ↔ s.donation = some d ∧ d ≠ 0) ∧
    ((buildBody s).treasury = some d ↔ s.treasury = some d ∧ d ≠ 0) :=
  ⟨truthyInt_eq_some _ _, truthyInt_eq_some _ _⟩

/-- **reference inputs**: exactly the references the code gathers (`reference_inputs`: explicit ones and the UTxOs
carrying reference scripts), each once whether it was registered as a `UTxO`, as a bare `TransactionInput`, or both -/
theorem reference_inputs_exact (s : BState) :
    ((buildBody s).referenceInputs.getD []).Nodup ∧
    (∀ r, r ∈ (buildBody s).referenceInputs.getD [] ↔ ∃ e ∈ s.referenceInputs, e.ref = r) ∧
    ((buildBody s).referenceInputs = none ↔ s.referenceInputs = []) := by
  have hg := body_referenceInputs_getD s
  refine ⟨by rw [hg]; exact nodup_oset _, ?_, body_referenceInputs s ▸ whenNonEmpty_eq_none _ _⟩
  intro r; rw [hg, mem_oset]; exact List.mem_map

/-- the goal "a reference input is never also a spent input" (the Conway ledger refuses a transaction in which the two
sets meet, protocol versions 9 and 10) -/
def reference_inputs_disjoint_goal : Prop :=
  ∀ s : BState, ∀ r ∈ (buildBody s).referenceInputs.getD [], r ∉ (buildBody s).inputs

/-- what the code gives: disjoint in the body iff disjoint in the builder — nothing is filtered -/
theorem reference_inputs_disjoint_partial (s : BState)
    (h : ∀ e ∈ s.referenceInputs, ∀ u ∈ s.inputs, e.ref ≠ u.ref) :
    ∀ r ∈ (buildBody s).referenceInputs.getD [], r ∉ (buildBody s).inputs := by
  intro r hr hi
  obtain ⟨e, he, her⟩ := ((reference_inputs_exact s).2.1 r).1 hr
  obtain ⟨u, hu, hur⟩ := ((inputs_faithful s).2.1 r).1 hi
  exact h e he u hu (her.trans hur.symm)

/-- the witness: one UTxO both spent and registered as a reference input (`add_script_input(u, script=v)` together with
`add_input(v)`, or a script-carrying UTxO found at the script address that is itself spent) -/
def spentAndReferenced : BState :=
  { inputs := [{ ref := ⟨[0xaa], 0⟩, amount := ⟨5000000, []⟩ }], referenceInputs := [.utxo ⟨[0xaa], 0⟩] }

theorem reference_inputs_disjoint_counterexample : ¬ reference_inputs_disjoint_goal := by
  intro h
  exact h spentAndReferenced ⟨[0xaa], 0⟩ (by decide) (by decide)

/-- the hashes are taken of what the builder holds: the auxiliary data itself; redeemers / datums / language views, present
exactly when there are redeemers or datums -/
theorem hashes_faithful (s : BState) :
    (buildBody s).auxHashPre = s.auxData ∧
    ((buildBody s).scriptDataPre = none ↔ (s.sdh.datums = [] ∧ s.sdh.redeemers = [])) :=
  ⟨rfl, sdhPre_eq_none s.sdh⟩

/-- which keys `to_cbor()` writes: 0, 1, 2 always; an optional key exactly when the state gives it content (or, for the three
passed-through fields, is not `None`); 6 and 15 never -/
theorem keys_written (s : BState) :
    (∀ k ∈ [0, 1, 2], k ∈ (buildBody s).keys) ∧ 6 ∉ (buildBody s).keys ∧ 15 ∉ (buildBody s).keys ∧
    (3 ∈ (buildBody s).keys ↔ s.ttl.isSome) ∧ (8 ∈ (buildBody s).keys ↔ s.validityStart.isSome) ∧
    (4 ∈ (buildBody s).keys ↔ s.certificates.isSome) ∧ (5 ∈ (buildBody s).keys ↔ s.withdrawals.isSome) ∧
    (9 ∈ (buildBody s).keys ↔ s.mint.isSome) ∧ (7 ∈ (buildBody s).keys ↔ s.auxData.isSome) ∧
    (21 ∈ (buildBody s).keys ↔ s.treasury.getD 0 ≠ 0) ∧ (22 ∈ (buildBody s).keys ↔ s.donation.getD 0 ≠ 0) := by
  refine ⟨fun k hk => (mem_keys_buildBody s k).2 (Or.inl hk), ?_, ?_, ?_, ?_, ?_, ?_, ?_, ?_, ?_, ?_⟩
  all_goals
    simp only [mem_keys_buildBody, List.mem_cons, List.not_mem_nil, Nat.reduceEqDiff, and_false, and_true, or_false,
      false_or, not_false_eq_true]

/-! ## building twice -/

/-- the method writes nothing: the state after the call is the state before it, and a second call gives the same body -/
theorem build_twice_same (s : BState) :
    (buildBodyM s).2 = s ∧ (buildBodyM (buildBodyM s).2).1 = (buildBodyM s).1 := ⟨rfl, rfl⟩

/-- a builder that holds, for its set-valued fields, the very sets of the body it built -/
def absorb (s : BState) : BState :=
  { s with requiredSigners := (buildBody s).requiredSigners
           referenceInputs := ((buildBody s).referenceInputs.getD []).map RefEntry.input }

/-- the normalisations (`OrderedSet`, omitted-when-empty) are idempotent: assembling from the body's own sets gives them again -/
theorem rebuild_fixed (s : BState) :
    (buildBody (absorb s)).requiredSigners = (buildBody s).requiredSigners ∧
    (buildBody (absorb s)).referenceInputs = (buildBody s).referenceInputs := by
  constructor
  · show (truthyList ((truthyList s.requiredSigners).map oset)).map oset = (truthyList s.requiredSigners).map oset
    cases h : truthyList s.requiredSigners with
    | none => rfl
    | some l =>
      have hl : oset l ≠ [] := mt (oset_eq_nil l).1 ((truthyList_eq_some _ _).1 h).2
      rw [Option.map_some, (truthyList_eq_some _ _).2 ⟨rfl, hl⟩, Option.map_some, oset_idem]
  · rw [body_referenceInputs, body_referenceInputs]
    show whenNonEmpty (((buildBody s).referenceInputs.getD []).map RefEntry.input) _ = _
    rw [body_referenceInputs_getD]
    simp only [whenNonEmpty, List.isEmpty_iff, List.map_eq_nil_iff, oset_eq_nil, List.map_map]
    rw [show RefEntry.ref ∘ RefEntry.input = id from rfl, List.map_id, oset_idem]

/-! ## the tail of `build()` -/

theorem finalize_inputs (o : BuildOpts) (sel : List UTxO) (s : BState) :
    (finalizeState o sel s).inputs = isort utxoLe sel := by
  rw [finalizeState_eq]; rfl

/-- sorting re-orders the selection, nothing else: the same UTxOs (so every sum over them is unchanged) -/
theorem finalize_inputs_perm (o : BuildOpts) (sel : List UTxO) (s : BState) :
    (finalizeState o sel s).inputs.Perm sel := by
  rw [finalize_inputs]; exact isort_perm _ _

theorem finalize_inputs_sum (o : BuildOpts) (sel : List UTxO) (s : BState) (f : UTxO → Int) :
    ((finalizeState o sel s).inputs.map f).sum = (sel.map f).sum :=
  sum_map_perm f (finalize_inputs_perm o sel s)

/-- **canonical order**: the inputs of the body built from the finalized state are the references of the selection, each
once, in the ledger's order (transaction id bytes, index) -/
theorem finalize_body_inputs_canonical (o : BuildOpts) (sel : List UTxO) (s : BState) :
    (buildBody (finalizeState o sel s)).inputs.Pairwise (fun a b => Spec.Ranks.inLt b.toPair a.toPair = false) ∧
    (buildBody (finalizeState o sel s)).inputs.Nodup ∧
    (∀ r, r ∈ (buildBody (finalizeState o sel s)).inputs ↔ ∃ u ∈ sel, u.ref = r) := by
  have key : (isort utxoLe sel).map (·.ref) = Rd.sortInputs (sel.map (·.ref)) :=
    map_isort utxoLe Rd.keyLe (·.ref) (fun a b => rfl) sel
  rw [body_inputs, finalize_inputs, key]
  refine ⟨(C11.sortInputs_sorted _).sublist (oset_sublist _), nodup_oset _, ?_⟩
  intro r
  rw [mem_oset]
  unfold Rd.sortInputs
  rw [mem_isort]; simp

/-- a validity interval / signer list the caller gave is kept -/
theorem finalize_keeps_given (o : BuildOpts) (sel : List UTxO) (s : BState) :
    (∀ t, s.ttl = some t → (finalizeState o sel s).ttl = some t) ∧
    (∀ v, s.validityStart = some v → (finalizeState o sel s).validityStart = some v) ∧
    (∀ l, s.requiredSigners = some l → (finalizeState o sel s).requiredSigners = some l) := by
  refine ⟨fun t h => ?_, fun v h => ?_, fun l h => ?_⟩
  · rw [finalizeState_ttl, h, Option.isNone_some, Bool.and_false, if_neg Bool.false_ne_true]
  · rw [finalizeState_validityStart, h, Option.isNone_some, Bool.and_false, if_neg Bool.false_ne_true]
  · rw [finalizeState_requiredSigners, h, Option.isNone_some, Bool.and_false, if_neg Bool.false_ne_true]

/-- the automatic values: for a transaction that involves scripts (or when an offset is passed) an interval around the last
slot; for a transaction that involves scripts, unless switched off, the payment key hashes of the sorted inputs and the
collateral given so far, each once -/
theorem finalize_auto (o : BuildOpts) (sel : List UTxO) (s : BState) :
    (s.ttl = none → (o.isSmart = true ∨ o.offTtl.isSome = true) →
      (finalizeState o sel s).ttl = some (max 0 (o.slot + o.offTtl.getD 10000))) ∧
    (s.validityStart = none → (o.isSmart = true ∨ o.offStart.isSome = true) →
      (finalizeState o sel s).validityStart = some (max 0 (o.slot + o.offStart.getD (-1000)))) ∧
    (s.requiredSigners = none → o.isSmart = true → o.autoSigners ≠ some false →
      ∃ l, (finalizeState o sel s).requiredSigners = some l ∧ l.Nodup ∧
        ∀ h, h ∈ l ↔ ∃ u, (u ∈ sel ∨ u ∈ s.collaterals) ∧ u.payKey = some h) := by
  refine ⟨fun h hc => ?_, fun h hc => ?_, fun h hs ha => ?_⟩
  · rw [finalizeState_ttl, h, if_pos (by simpa using hc)]
  · rw [finalizeState_validityStart, h, if_pos (by simpa using hc)]
  · rw [finalizeState_requiredSigners, hs, h, bne_iff_ne.2 ha]
    refine ⟨_, rfl, nodup_oset _, fun k => ?_⟩
    unfold inputVkeyHashes
    simp only [mem_oset, List.mem_filterMap, List.mem_append]
    exact exists_congr fun u => and_congr_left' (or_congr_left (mem_isort _ _ _))

/-- nothing else of the state is touched by these steps -/
theorem finalize_frame (o : BuildOpts) (sel : List UTxO) (s : BState) :
    (finalizeState o sel s).outputs = s.outputs ∧ (finalizeState o sel s).fee = s.fee ∧
    (finalizeState o sel s).mint = s.mint ∧ (finalizeState o sel s).certificates = s.certificates ∧
    (finalizeState o sel s).withdrawals = s.withdrawals ∧ (finalizeState o sel s).proposals = s.proposals ∧
    (finalizeState o sel s).donation = s.donation ∧ (finalizeState o sel s).treasury = s.treasury ∧
    (finalizeState o sel s).collaterals = s.collaterals ∧ (finalizeState o sel s).referenceInputs = s.referenceInputs ∧
    (finalizeState o sel s).auxData = s.auxData ∧ (finalizeState o sel s).voting = s.voting := by
  rw [finalizeState_eq]; exact ⟨rfl, rfl, rfl, rfl, rfl, rfl, rfl, rfl, rfl, rfl, rfl, rfl⟩

/-! ## the bridge: the ledger's reading of the body = the accounting's reading of the state -/

/-- what the accounting adds up on the consumed side: the amounts of `self.inputs`, the withdrawals, the refunds -/
def stateConsumedCoin (P : Params) (s : BState) : Int :=
  (s.inputs.map fun u => u.amount.coin).sum + ((s.withdrawals.getD []).map (·.2)).sum
    + ((certsD s).map (certRefund P)).sum

/-- … and on the produced side: the outputs, the fee, deposits of certificates and proposals, the donation -/
def stateProducedCoin (P : Params) (initialPool : Bool) (s : BState) : Int :=
  sumCoin s.outputs + s.fee + ((certsD s).map (certDeposit P initialPool)).sum
    + ((s.proposals.getD []).map (·.deposit)).sum + s.donation.getD 0

/-- the builder's view of its inputs is the chain's, and no reference occurs twice among them -/
structure InputsOk (utxo : Ref → Option Value) (s : BState) : Prop where
  distinct : (s.inputs.map (·.ref)).Nodup
  known : ∀ u ∈ s.inputs, utxo u.ref = some u.amount

theorem ledger_consumed_coin_eq (P : Params) (utxo : Ref → Option Value) (s : BState) (h : InputsOk utxo s) :
    consumedCoin P utxo (buildBody s) = stateConsumedCoin P s := by
  unfold consumedCoin stateConsumedCoin certsD
  rw [inputs_exact s h.distinct, sum_map_resolve utxo (·.coin) _ h.known, List.map_map]
  rfl

theorem ledger_produced_coin_eq (P : Params) (initialPool : Bool) (s : BState) :
    producedCoin P initialPool (buildBody s) = stateProducedCoin P initialPool s := by
  unfold producedCoin stateProducedCoin certsD sumCoin
  rw [(guarded_content s).2.2.2.1, (guarded_content s).2.2.2.2.2, List.map_map]
  rfl

theorem ledger_assets_eq (utxo : Ref → Option Value) (s : BState) (h : InputsOk utxo s)
    (hw : MultiAsset.WF (s.mint.getD [])) (p n : Bytes) :
    consumedAsset utxo (buildBody s) p n
      = (s.inputs.map fun u => MultiAsset.qty u.amount.ma p n).sum + posPart (MultiAsset.qty (s.mint.getD []) p n) ∧
    producedAsset (buildBody s) p n = sumAsset s.outputs p n + negPart (MultiAsset.qty (s.mint.getD []) p n) := by
  have hm : mintQty (buildBody s) p n = MultiAsset.qty (s.mint.getD []) p n := by
    show MultiAsset.qty ((s.mint.map MultiAsset.normalize).getD []) p n = _
    cases hs : s.mint with
    | none => rfl
    | some m =>
      rw [hs] at hw
      exact MultiAsset.qty_normalize m p n hw
  constructor
  · unfold consumedAsset
    rw [hm, inputs_exact s h.distinct, sum_map_resolve utxo (MultiAsset.qty ·.ma p n) _ h.known]
  · unfold producedAsset sumAsset
    rw [hm]; rfl

/-- the net deposit the builder subtracts (`_get_total_key_deposit`) is what the certificates pay minus what they release,
provided no credential / pool is registered twice in the transaction (C06 `deposit_spec`) -/
theorem deposits_net (P : Params) (ip : Bool) (s : BState)
    (h1 : (regCreds (certsD s)).Nodup) (h2 : (poolOps (certsD s)).Nodup) :
    totalKeyDeposit P (certsD s) ip
      = ((certsD s).map (certDeposit P ip)).sum - ((certsD s).map (certRefund P)).sum := by
  rw [C06.deposit_spec P (certsD s) ip h1 h2, ← sum_map_sub]
  exact congrArg List.sum (List.map_congr_left fun c _ => (certDeposit_sub_refund P ip c).symm)

/-- **conservation on the body, ADA**: when the accounting (C06) returned the output list the state now holds, the
ledger's `consumed = produced` holds for the body `_build_tx_body` assembles from that state -/
theorem body_conserves_ada (P : Params) (ip : Bool) (utxo : Ref → Option Value) (s : BState) (addr : Bytes)
    (outs : List Output) (mc : Bool)
    (hfin : finalOutputs P outs (argsOf P ip s addr) mc = .ok s.outputs)
    (hy : ∀ r, C06.Hyp P (withRespect (finalArgs outs (argsOf P ip s addr) mc) r))
    (ho : ∀ o ∈ outs, MultiAsset.WF o.amount.ma)
    (hin : InputsOk utxo s)
    (h1 : (regCreds (certsD s)).Nodup) (h2 : (poolOps (certsD s)).Nodup) :
    consumedCoin P utxo (buildBody s) = producedCoin P ip (buildBody s) := by
  have hc := C06.conserves_ada P outs s.outputs (argsOf P ip s addr) mc hfin hy ho
  rw [ledger_consumed_coin_eq P utxo s hin, ledger_produced_coin_eq P ip s]
  have hd := deposits_net P ip s h1 h2
  simp only [argsOf, stateDeposits, List.map_map, Function.comp_def] at hc
  unfold stateConsumedCoin stateProducedCoin
  omega

/-- **conservation on the body, every native asset** (minted on the consumed side, burned on the produced side) -/
theorem body_conserves_assets (P : Params) (ip : Bool) (utxo : Ref → Option Value) (s : BState) (addr : Bytes)
    (outs : List Output) (mc : Bool)
    (hfin : finalOutputs P outs (argsOf P ip s addr) mc = .ok s.outputs)
    (hy : ∀ r, C06.Hyp P (withRespect (finalArgs outs (argsOf P ip s addr) mc) r))
    (ho : ∀ o ∈ outs, MultiAsset.WF o.amount.ma)
    (hin : InputsOk utxo s) (p n : Bytes) :
    consumedAsset utxo (buildBody s) p n = producedAsset (buildBody s) p n := by
  have hc := C06.conserves_assets P outs s.outputs (argsOf P ip s addr) mc hfin hy ho p n
  have hw : MultiAsset.WF (s.mint.getD []) := (hy true).wf.2.2
  obtain ⟨ea, eb⟩ := ledger_assets_eq utxo s hin hw p n
  rw [ea, eb]
  simp only [argsOf, List.map_map, Function.comp_def] at hc
  have := posPart_sub_negPart (MultiAsset.qty (s.mint.getD []) p n)
  omega

/-- the goal without "the spent inputs are pairwise distinct" -/
def bridge_without_distinct_goal : Prop :=
  ∀ (P : Params) (utxo : Ref → Option Value) (s : BState),
    (∀ u ∈ s.inputs, utxo u.ref = some u.amount) → consumedCoin P utxo (buildBody s) = stateConsumedCoin P s

/-- the witness: the same UTxO twice among `builder.inputs` (`builder.inputs.append(u)`; `add_input` itself refuses a
repetition).  The body, an `OrderedSet`, has ONE input of 5 ADA; the accounting added up 10. -/
def twiceTheSame : BState :=
  { inputs := [{ ref := ⟨[0xaa], 0⟩, amount := ⟨5000000, []⟩ }, { ref := ⟨[0xaa], 0⟩, amount := ⟨5000000, []⟩ }] }

theorem bridge_needs_distinct_counterexample : ¬ bridge_without_distinct_goal := by
  intro h
  have := h ⟨0, 0, 0, 0⟩ (fun _ => some ⟨5000000, []⟩) twiceTheSame (by
    intro u hu
    simp only [twiceTheSame, List.mem_cons, List.not_mem_nil, or_false, or_self] at hu
    subst hu; rfl)
  revert this
  decide

/-! ## non-vacuity: a state with every field populated, and a balanced one -/

def exUtxoA : UTxO := { ref := ⟨[0xaa, 1], 0⟩, amount := ⟨5000000, [([1], [([7], 3)])]⟩, payKey := some [0x11] }
def exUtxoB : UTxO := { ref := ⟨[0x0b], 2⟩, amount := ⟨4000000, []⟩, payKey := some [0x22] }

/-- everything except the outputs (which the accounting produces) -/
def exCore : BState :=
  { inputs := [exUtxoB, exUtxoA]
    fee := 170000
    ttl := some 12000
    mint := some [([2], [([8], 10)])]
    auxData := some [0xa1, 0x00, 0x01]
    sdh := { redeemers := [⟨0, 1, [0x05], 1000, 2000⟩], datums := [[0x07]], versions := [2] }
    requiredSigners := some [[0x11], [0x22], [0x11]]
    collaterals := [exUtxoB, exUtxoB]
    certificates := some [⟨[0x82, 0x00], .stakeReg [0x33]⟩]
    withdrawals := some [([0xe0, 0x44], 1000)]
    totalCollateral := some 300000
    referenceInputs := [.utxo ⟨[0xcc], 1⟩, .input ⟨[0xcc], 1⟩, .input ⟨[0xdd], 0⟩]
    voting := some [([0x01], [0x02])]
    proposals := some []
    treasury := some 0
    donation := none }

def exAddr : Bytes := [0x60, 1, 2]
def exFinal : List Output :=
  match finalOutputs C06.exP C06.exOuts (argsOf C06.exP false exCore exAddr) false with
  | .ok fo => fo
  | .error _ => []
def exState : BState := { exCore with outputs := exFinal }
def exChain : Ref → Option Value := fun r =>
  if r = exUtxoA.ref then some exUtxoA.amount else if r = exUtxoB.ref then some exUtxoB.amount else none

-- the body of the populated state: sets de-duplicated, the empty proposal list and the zero treasury value omitted
example :
    (buildBody exState).inputs = [⟨[0x0b], 2⟩, ⟨[0xaa, 1], 0⟩] ∧
    (buildBody exState).requiredSigners = some [[0x11], [0x22]] ∧
    (buildBody exState).collateral = some [⟨[0x0b], 2⟩] ∧
    (buildBody exState).referenceInputs = some [⟨[0xcc], 1⟩, ⟨[0xdd], 0⟩] ∧
    (buildBody exState).keys = [0, 1, 2, 3, 4, 5, 7, 9, 11, 13, 14, 17, 18, 19] := by
  decide +kernel

-- the hypotheses of `body_conserves_ada` / `body_conserves_assets` are met by it, and the conclusions evaluate to `true`
example :
    (match finalOutputs C06.exP C06.exOuts (argsOf C06.exP false exState exAddr) false with
     | .ok fo => fo.length == 2 | .error _ => false) = true ∧
    (exState.inputs.map (·.ref)).Nodup ∧
    (∀ u ∈ exState.inputs, exChain u.ref = some u.amount) ∧
    (regCreds (certsD exState)).Nodup ∧ (poolOps (certsD exState)).Nodup ∧
    consumedCoin C06.exP exChain (buildBody exState) = producedCoin C06.exP false (buildBody exState) ∧
    consumedAsset exChain (buildBody exState) [2] [8] = producedAsset (buildBody exState) [2] [8] ∧
    consumedAsset exChain (buildBody exState) [1] [7] = producedAsset (buildBody exState) [1] [7] := by
  decide +kernel

example : finalOutputs C06.exP C06.exOuts (argsOf C06.exP false exState exAddr) false = .ok exState.outputs := by
  show finalOutputs C06.exP C06.exOuts (argsOf C06.exP false exCore exAddr) false = .ok exFinal
  unfold exFinal
  split
  · next h => exact h
  · next h =>
    have : (match finalOutputs C06.exP C06.exOuts (argsOf C06.exP false exCore exAddr) false with
      | .ok _ => true | .error _ => false) = true := by decide +kernel
    rw [h] at this; cases this

example : noEmptyHeld exState = true := by decide +kernel

end Pyc.C06.BodyAsm

#print axioms Pyc.C06.BodyAsm.scalars_faithful
#print axioms Pyc.C06.BodyAsm.inputs_faithful
#print axioms Pyc.C06.BodyAsm.inputs_exact
#print axioms Pyc.C06.BodyAsm.c11_views_agree
#print axioms Pyc.C06.BodyAsm.passed_through
#print axioms Pyc.C06.BodyAsm.passed_absent_iff_empty_partial
#print axioms Pyc.C06.BodyAsm.passed_absent_iff_empty_counterexample
#print axioms Pyc.C06.BodyAsm.guarded_absent_iff_empty
#print axioms Pyc.C06.BodyAsm.guarded_content
#print axioms Pyc.C06.BodyAsm.donation_written
#print axioms Pyc.C06.BodyAsm.reference_inputs_exact
#print axioms Pyc.C06.BodyAsm.reference_inputs_disjoint_partial
#print axioms Pyc.C06.BodyAsm.reference_inputs_disjoint_counterexample
#print axioms Pyc.C06.BodyAsm.hashes_faithful
#print axioms Pyc.C06.BodyAsm.keys_written
#print axioms Pyc.C06.BodyAsm.build_twice_same
#print axioms Pyc.C06.BodyAsm.rebuild_fixed
#print axioms Pyc.C06.BodyAsm.finalize_inputs
#print axioms Pyc.C06.BodyAsm.finalize_inputs_perm
#print axioms Pyc.C06.BodyAsm.finalize_inputs_sum
#print axioms Pyc.C06.BodyAsm.finalize_body_inputs_canonical
#print axioms Pyc.C06.BodyAsm.finalize_keeps_given
#print axioms Pyc.C06.BodyAsm.finalize_auto
#print axioms Pyc.C06.BodyAsm.finalize_frame
#print axioms Pyc.C06.BodyAsm.ledger_consumed_coin_eq
#print axioms Pyc.C06.BodyAsm.ledger_produced_coin_eq
#print axioms Pyc.C06.BodyAsm.ledger_assets_eq
#print axioms Pyc.C06.BodyAsm.deposits_net
#print axioms Pyc.C06.BodyAsm.body_conserves_ada
#print axioms Pyc.C06.BodyAsm.body_conserves_assets
#print axioms Pyc.C06.BodyAsm.bridge_needs_distinct_counterexample
