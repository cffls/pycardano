import Pyc.Proofs.WitnessCodec

/-! # C01 (extension) — round trip of the witness-side codecs

`VerificationKeyWitness`, `Redeemer` / `RedeemerKey` / `RedeemerValue` / `RedeemerMap` / the `Redeemers` union,
`TransactionWitnessSet` (with `OrderedSet` / `NonEmptyOrderedSet` as its fields use them) and the text envelope of
`Key`: the model is `Model/WitnessCodec.lean` (a transliteration of witness.py, plutus.py, key.py and the parts of
serialization.py they go through), tied to /repo by `harness/checks/c01_ext_witnesscodec.py`.

Every theorem is for ALL values.  Native scripts, bootstrap witnesses, witness datums and redeemer data are leaves with
an abstract lawful codec (`Leaf.Lawful`: restoring what the class wrote returns it).  Where the round trip as the
property states it is FALSE of the code, the statement is kept as a `_goal`, refuted by a concrete witness
(`_counterexample`) and proved under the explicit extra hypothesis (`_partial`). -/

namespace Pyc.C01.WitnessCodec
open Pyc.Cbor Pyc.Codec Pyc.Custom Pyc.WitnessCodec

variable {N B D R : Type}

/-! ## `VerificationKeyWitness` -/

/-- decoding an encoded witness returns it with the key as a plain `VerificationKey`: `key_type` and `description`
are not on the wire.  For EVERY witness (whatever its signature field holds). -/
theorem vkw_roundtrip_general (w : VKW) (h : w.sig.Canon) : decVKW (vkwItem w) = .ok (decodedVKW w) :=
  decVKW_vkwItem w h

/-- re-encoding the decoded witness gives the same item -/
theorem vkw_reencode (w : VKW) : vkwItem (decodedVKW w) = vkwItem w := rfl

/-- **`from_cbor(to_cbor(w)) == w` for every constructed witness** — of every key class (`VerificationKey`, payment,
stake, pool, extended or not) and whatever envelope the key was handed over with: `__post_init__` reduces every
verification key to the plain key, which is what decoding returns.  The hypothesis is `validate` (what `to_cbor` asks:
a verification key class and a `bytes` signature; a witness holding a signing key cannot be serialized at all).  The
decoded witness is the very same object, hence `==` … -/
theorem vkw_roundtrip (k : KeyObj) (s : Prim) (h : vkwValid (mkVKW k s) = true) :
    decVKW (vkwItem (mkVKW k s)) = .ok (mkVKW k s) := by
  rw [decVKW_vkwItem _ (valid_canon _ h), decodedVKW_of_plain _ (mkVKW_plain k s h)]

/-- … under the library's own `Key.__eq__` (payload, description, type) -/
theorem vkw_roundtrip_pyeq (k : KeyObj) (s : Prim) (h : vkwValid (mkVKW k s) = true) :
    ∃ w', decVKW (vkwItem (mkVKW k s)) = .ok w' ∧ VKW.pyEq w' (mkVKW k s) = true :=
  ⟨_, vkw_roundtrip k s h, by simp [VKW.pyEq, KeyObj.pyEq]⟩

/-- every serializable constructed witness holds a plain `VerificationKey` with the default envelope -/
theorem vkw_constructed_plain (k : KeyObj) (s : Prim) (h : vkwValid (mkVKW k s) = true) :
    (mkVKW k s).vkey = mkKey .verification (mkVKW k s).vkey.payload := mkVKW_plain k s h

/-- `__post_init__`: an `ExtendedVerificationKey` instance is cut to its first 32 bytes (and becomes a plain
`VerificationKey`) … -/
theorem vkw_extended_truncated (k : KeyObj) (s : Prim) (h : k.cls.isExtVerification = true) :
    (mkVKW k s).vkey = mkKey .verification (k.payload.take 32) := by
  simp [mkVKW, h, toNonExtended]

/-- … every other `VerificationKey` instance — role-specific class or not, typed envelope or not (the key
`SigningKey.to_verification_key()` returns is a `VerificationKey` carrying the signing key's envelope, renamed) —
becomes the plain key of the same payload, 64 bytes or not (the test is on the class) … -/
theorem vkw_verification_reduced (k : KeyObj) (s : Prim) (h1 : k.cls.isExtVerification = false)
    (h2 : k.cls.isVerification = true) : (mkVKW k s).vkey = mkKey .verification k.payload := by
  simp [mkVKW, h1, h2]

/-- … and anything that is not a verification key is kept as it is (`validate` refuses it) -/
theorem vkw_other_kept (k : KeyObj) (s : Prim) (h1 : k.cls.isExtVerification = false) (h2 : k.cls.isVerification = false) :
    (mkVKW k s).vkey = k ∧ vkwValid (mkVKW k s) = false := by
  simp [mkVKW, vkwValid, h1, h2]

/-- the witness `TransactionBuilder.build_and_sign` makes: the key is `signing_key.to_verification_key()`, a
`VerificationKey` (exact class) carrying the payment envelope -/
def exBuilderKey : KeyObj :=
  mkKey .verification (List.replicate 32 1) (some "PaymentVerificationKeyShelley_ed25519") (some "PaymentVerificationKeyShelley_ed25519")

def exBuilderWitness : VKW := mkVKW exBuilderKey (.bytes (List.replicate 64 2))

/-- a witness built from a `PaymentVerificationKey` -/
def exPaymentWitness : VKW :=
  mkVKW (mkKey .paymentVerification (List.replicate 32 1)) (.bytes (List.replicate 64 2))

/-- … and the DECODER never cuts: the key on the wire is restored as a `VerificationKey` of the same bytes, whatever
their number (and the signature as whatever item was there) -/
theorem vkw_decoder_keeps_payload (p : Bytes) (s : Item) (rest : List Item) :
    decVKW (.array (.bytes p :: s :: rest)) = .ok ⟨mkKey .verification p, Prim.ofItem s⟩ := by
  simp [decVKW, decKey, itemBytes?, Res.bind, mkVKW, mkKey, KeyClass.isExtVerification]

/-! ## redeemers -/

/-- list-form element: a redeemer whose tag has been assigned comes back unchanged … -/
theorem redeemer_roundtrip (L : Leaf R) (hL : L.Lawful) (r : Redeemer R) (ht : r.tag.isSome = true)
    (hc : r.index.Canon) : decRedeemer L (redeemerItem L r) = .ok r := by
  cases htag : r.tag with
  | none => simp [htag] at ht
  | some t => exact decRedeemer_item L hL r t htag hc

/-- … and a freshly constructed one (`Redeemer(data, ex_units)`: `tag` is an `init=False` field that defaults to
`None` and is written as `null`) serializes but cannot be decoded -/
theorem redeemer_untagged_not_decodable (L : Leaf R) (hL : L.Lawful) (r : Redeemer R) (ht : r.tag = Option.none) :
    decRedeemer L (redeemerItem L r) = .deser := by
  obtain ⟨tg, ix, d, ex⟩ := r
  cases ht
  cases ex <;> simp only [redeemerItem, decRedeemer, hL.rt, bind_ok, decOptEx_none, decOptEx_exItem] <;> rfl

theorem redeemer_fresh_untagged (d : R) (e : Option ExUnits) : (mkRedeemer d e).tag = Option.none := rfl

/-- `RedeemerKey` and `RedeemerValue` -/
theorem redeemer_key_roundtrip (k : RKey) : decRKeyRaw (rkeyItem k) = .ok (k.tag, .int k.index) := decRKeyRaw_item k

theorem redeemer_value_roundtrip (L : Leaf R) (hL : L.Lawful) (v : RValue R) : decRValue L (rvalueItem L v) = .ok v :=
  decRValue_item L hL v

/-- map form (keys distinct, as in a Python dict): decoding returns the entries in the order they were written
(sorted by the encoded key) … -/
theorem redeemer_map_roundtrip (L : Leaf R) (hL : L.Lawful) (m : RMap R) (hn : (m.map (·.1)).Nodup) :
    decRMap L (rmapItem L m) = .ok (rmapSorted m) := decRMap_item L hL m hn

/-- … which are the same entries (`RedeemerMap.__eq__` compares the dicts) … -/
theorem redeemer_map_same_entries (m : RMap R) : (rmapSorted m).Perm m := rmapSorted_perm m

/-- … and re-encode to the same item -/
theorem redeemer_map_reencode (L : Leaf R) (m : RMap R) : rmapItem L (rmapSorted m) = rmapItem L m :=
  rmapItem_sorted L m

/-- duplicate keys on the wire: the later entry replaces the value of the earlier one, at the earlier one's place -/
theorem redeemer_map_duplicate_last_wins (L : Leaf R) (hL : L.Lawful) (k : RKey) (v1 v2 : RValue R) :
    decRMapLoop L [] [(rkeyItem k, rvalueItem L v1), (rkeyItem k, rvalueItem L v2)] = .ok [(k, v2)] := by
  simp only [decRMapLoop, decRKeyRaw_item, decRValue_item L hL, Res.bind, rmSet]
  simp

/-- the `Redeemers` union, both forms -/
theorem redeemers_roundtrip (L : Leaf R) (hL : L.Lawful) (rs : Redeemers R) (h : RedeemersOk rs) :
    decRedeemersOpt L (redeemersItem L rs) = .ok (some (decodedRedeemers rs)) := decRedeemersOpt_item L hL rs h

theorem redeemers_reencode (L : Leaf R) (rs : Redeemers R) : redeemersItem L (decodedRedeemers rs) = redeemersItem L rs :=
  redeemersItem_decoded L rs

/-- the dispatch between the two forms is unambiguous: what is decoded as the list form was an array, what is decoded
as the map form was a map (and no item is both) -/
theorem redeemers_dispatch (L : Leaf R) (i : Item) :
    (∀ rs, decRedeemersOpt L i = .ok (some (.list rs)) → ∃ xs, listElems? i = some xs) ∧
    (∀ m, decRedeemersOpt L i = .ok (some (.map m)) → ∃ kvs, i = .map kvs) := by
  constructor
  · intro rs h
    unfold decRedeemersOpt at h
    cases hl : listElems? i with
    | some xs => exact ⟨xs, rfl⟩
    | none =>
      rw [hl] at h
      cases i <;> simp at h
      all_goals (split at h <;> simp at h)
  · intro m h
    unfold decRedeemersOpt at h
    cases i <;> simp [listElems?] at h ⊢
    all_goals (split at h <;> simp at h)

theorem redeemers_forms_apart (L : Leaf R) (rs : List (Redeemer R)) (m : RMap R) :
    redeemersItem L (.list rs) ≠ redeemersItem L (.map m) := by
  simp [redeemersItem, rmapItem]

/-! ## `TransactionWitnessSet` -/

/-- **round trip, every subset of the eight fields, every wire form of every set-valued field**: decoding the encoding
of a well-formed witness set returns `decodedWS` of it — the five fields `__post_init__` rebuilds as tagged sets, an
untagged set in `bootstrap_witness` / `plutus_data` as a list, vkey witnesses with plain keys, the redeemer map in wire
order -/
theorem ws_roundtrip (L : Leaves N B D R) (hL : L.Lawful) (x : WS N B D R) (h : WSOk x) :
    decWS L (wsItem L x) = .ok (decodedWS L x) := decWS_wsItem L hL x h

/-- … through the bytes -/
theorem ws_roundtrip_bytes (L : Leaves N B D R) (hL : L.Lawful) (x : WS N B D R) (h : WSOk x) (hw : Cbor.WF (wsItem L x)) :
    decWSBytes L (encWSBytes L x) = .ok (decodedWS L x) := by
  unfold decWSBytes encWSBytes
  rw [decodeAll_encode _ hw]
  exact decWS_wsItem L hL x h

/-- … in particular a witness set that is a fixed point of `decodedWS` comes back unchanged -/
theorem ws_roundtrip_fixed_point (L : Leaves N B D R) (hL : L.Lawful) (x : WS N B D R) (h : WSOk x)
    (hfix : decodedWS L x = x) : decWS L (wsItem L x) = .ok x := by
  have := decWS_wsItem L hL x h
  rw [hfix] at this
  exact this

/-- what is decoded is a constructed object (`__post_init__` has run) -/
theorem ws_decoded_constructed (L : Leaves N B D R) (x : WS N B D R) : mkWS L (decodedWS L x) = decodedWS L x := by
  simp only [mkWS, decodedWS, map_toNE_decodedNE]

theorem ws_postinit_idempotent (L : Leaves N B D R) (a : WS N B D R) : mkWS L (mkWS L a) = mkWS L a := by
  simp only [mkWS, map_toNE_idem]

/-- every constructed witness set holds tagged sets in the five rebuilt fields — whatever was handed to the
constructor (`list`, `OrderedSet`, `NonEmptyOrderedSet` with or without the tag) -/
theorem ws_constructed_tagged (L : Leaves N B D R) (a : WS N B D R) : Tagged5 (mkWS L a) := mkWS_tagged5 L a

/-- **a constructed witness set equals its own round trip, vkey witnesses included** (`==` of the dataclass: the
five rebuilt fields come back as the very same sets, `bootstrap_witness` / `plutus_data` with the same elements, the
redeemer map with the same entries).  `hv`: the vkey witnesses are constructed ones (`vkw_constructed_plain`); no
hypothesis about witnesses that are written alike is needed: two witnesses that differ in the class or
envelope of their key are the same element of the set. -/
theorem ws_roundtrip_constructed (L : Leaves N B D R) (hL : L.Lawful) (a : WS N B D R) (h : WSOk (mkWS L a))
    (hv : ∀ c, (mkWS L a).vkeys = some c → ∀ w ∈ c.elems, w.Plain) (hd : PlainSetsDistinct L (mkWS L a)) :
    ∃ y, decWS L (wsItem L (mkWS L a)) = .ok y ∧ WS.PyEq y (mkWS L a) :=
  ⟨_, decWS_wsItem L hL _ h, decodedWS_pyEq L a hv hd⟩

/-- … and re-encodes to the same item -/
theorem ws_reencode_constructed (L : Leaves N B D R) (a : WS N B D R)
    (hv : ∀ c, (mkWS L a).vkeys = some c → ∀ w ∈ c.elems, w.Plain) (hd : PlainSetsDistinct L (mkWS L a)) :
    wsItem L (decodedWS L (mkWS L a)) = wsItem L (mkWS L a) := by
  have same {α : Type} {f : α → α} {o : Option α} (h : o.map f = o) (g : α → Item) (c : α) (hc : o = some c) :
      g (f c) = g c := by
    subst hc; exact congrArg g (Option.some.inj h)
  obtain ⟨e0, e1, _, e3, _, _, e6, e7⟩ := decodedWS_pyEq L a hv hd
  exact wsItem_decodedWS_of L _ (same e0 _) (same e1 _) (same e3 _) (same e6 _) (same e7 _) hd

/-- witnesses that differ only in the class / envelope of the key they were built from are ONE element of the set -/
theorem vkw_same_element (k k' : KeyObj) (s : Prim) (hp : k.payload = k'.payload)
    (h : vkwValid (mkVKW k s) = true) (h' : vkwValid (mkVKW k' s) = true)
    (hx : k.cls.isExtVerification = k'.cls.isExtVerification) : vkwKey (mkVKW k s) = vkwKey (mkVKW k' s) := by
  have e : (mkVKW k s).vkey.payload = (mkVKW k' s).vkey.payload := by
    by_cases h1 : k.cls.isExtVerification = true
    · have h1' : k'.cls.isExtVerification = true := hx ▸ h1
      simp [mkVKW, h1, h1', toNonExtended, mkKey, hp]
    · have h1' : ¬ k'.cls.isExtVerification = true := hx ▸ h1
      by_cases h2 : k.cls.isVerification = true <;> by_cases h2' : k'.cls.isVerification = true <;>
        simp [mkVKW, h1, h1', h2, h2', mkKey, hp]
  have p := mkVKW_plain k s h
  have p' := mkVKW_plain k' s h'
  unfold VKW.Plain at p p'
  simp only [vkwKey]
  rw [p, p', e]
  rfl

/-- the same elements as a tagged set -/
def retag {α : Type} (c : Coll α) : Coll α := .oset true c.elems

/-- **both wire forms of the five rebuilt fields decode to the same object**: whether vkey witnesses, native scripts
and Plutus scripts arrive as `#6.258([+ a])` or as `[+ a]` is forgotten … -/
theorem ws_rebuilt_fields_forget_form (L : Leaves N B D R) (x : WS N B D R) :
    decodedWS L { x with vkeys := x.vkeys.map retag, native := x.native.map retag, v1 := x.v1.map retag,
                         v2 := x.v2.map retag, v3 := x.v3.map retag } = decodedWS L x := by
  simp only [decodedWS, Option.map_map]
  rfl

/-- … while `bootstrap_witness` and `plutus_data` remember it: a tagged set comes back as a tagged set, an untagged
one (and a list) as a list -/
theorem ws_plain_fields_remember_form {α κ : Type} [DecidableEq κ] (key : α → κ) (xs : List α) (hn : (xs.map key).Nodup) :
    decodedPlain key (.oset true xs) = .oset true xs ∧ decodedPlain key (.oset false xs) = .list xs ∧
    decodedPlain key (.list xs) = .list xs := by
  simp [decodedPlain, dedupBy_of_nodup key xs hn]

/-- **re-encode**: the decoded witness set is written as the original was — provided the five rebuilt fields used the
tag (every constructed object: `ws_constructed_tagged`) … -/
theorem ws_reencode_partial (L : Leaves N B D R) (x : WS N B D R) (ht : Tagged5 x) (hd : WSDistinct L x) :
    wsItem L (decodedWS L x) = wsItem L x :=
  wsItem_decodedWS_of L x
    (fun c hc => collItem_decodedNE vkwItem vkwKey decodedVKW c (ht.1 c hc) (hd.vkeys c hc) (fun _ => rfl))
    (fun c hc => collItem_decodedNE L.native.enc (leafKey L.native) id c (ht.2.1 c hc) (hd.native c hc) (fun _ => rfl))
    (fun c hc => collItem_decodedNE _ id id c (ht.2.2.1 c hc) (hd.v1 c hc) (fun _ => rfl))
    (fun c hc => collItem_decodedNE _ id id c (ht.2.2.2.1 c hc) (hd.v2 c hc) (fun _ => rfl))
    (fun c hc => collItem_decodedNE _ id id c (ht.2.2.2.2 c hc) (hd.v3 c hc) (fun _ => rfl))
    ⟨fun xs h => hd.bootstrap true xs h, fun xs h => hd.datums true xs h⟩

/-- … the statement for every wire form … -/
def ws_reencode_goal : Prop :=
  ∀ (x : WS Nat Nat Nat Nat) (L : Leaves Nat Nat Nat Nat), L.Lawful → WSOk x → WSDistinct L x →
    wsItem L (decodedWS L x) = wsItem L x

def natLeaf : Leaf Nat := ⟨fun n => .uint n, fun i => match i with | .uint n => .ok n | _ => .deser⟩
def exLeaves : Leaves Nat Nat Nat Nat := ⟨natLeaf, natLeaf, natLeaf, natLeaf⟩
theorem exLeaves_lawful : exLeaves.Lawful := ⟨⟨fun _ => rfl⟩, ⟨fun _ => rfl⟩, ⟨fun _ => rfl⟩, ⟨fun _ => rfl⟩⟩

def exPlainWitness : VKW := ⟨mkKey .verification (List.replicate 32 1), .bytes (List.replicate 64 2)⟩

/-- the wire form `[+ vkeywitness]` without the tag (pre-Conway writers; still legal): only reachable by assignment
after construction or — which is the point — by DECODING such bytes -/
def exUntagged : WS Nat Nat Nat Nat := { vkeys := some (.oset false [exPlainWitness]) }

theorem exUntagged_ok : WSOk exUntagged := by
  refine ⟨?_, ?_, ?_, ?_, ?_, ?_, ?_⟩
  · intro c hc
    cases hc
    refine ⟨?_, trivial⟩
    intro w hw
    simp only [Coll.elems, List.mem_cons, List.mem_nil_iff, or_false] at hw
    subst hw
    trivial
  all_goals (intro c hc; cases hc)

theorem exUntagged_distinct : WSDistinct exLeaves exUntagged := by
  refine ⟨?_, ?_, ?_, ?_, ?_, ?_, ?_⟩
  · intro c hc
    cases hc
    simp [CollDistinct, Coll.elems]
  · intro c hc; cases hc
  · intro t xs hc; cases hc
  · intro c hc; cases hc
  · intro t xs hc; cases hc
  · intro c hc; cases hc
  · intro c hc; cases hc

/-- … is FALSE: a witness set received with an untagged array in one of the five rebuilt fields is re-encoded with the
tag (`a1 00 81 …` becomes `a1 00 d9 0102 81 …`): the bytes of the witness set change (the transaction id does not) -/
theorem ws_reencode_counterexample : ¬ ws_reencode_goal := by
  intro h
  have := congrArg encode (h exUntagged exLeaves exLeaves_lawful exUntagged_ok exUntagged_distinct)
  revert this
  decide +kernel

/-! ## the key envelope -/

/-- `Key.from_primitive(k.to_primitive())`: the payload survives, type and description are those of the class -/
theorem key_prim_roundtrip (c : KeyClass) (k : KeyObj) : decKey c (keyItem k) = .ok (mkKey c k.payload) := rfl

/-- **`from_json(to_json(k)) == k`** for a key of every class, constructed with any `key_type` / `description`
arguments; with `validate_type=True` provided the key carries its class's type string -/
theorem key_json_roundtrip (c : KeyClass) (p : Bytes) (t d : Option String) (validate : Bool) (hp : p.length < 2 ^ 64)
    (hv : validate = true → (mkKey c p t d).keyType = c.keyType) :
    fromJson c validate (toJson (mkKey c p t d)) = .ok (mkKey c p t d) := by
  rw [fromJson_toJson c validate (mkKey c p t d) hp hv]
  simp only [mkKey, pyOr_pyOr]

/-- a key constructed without a `key_type` argument carries its class's type string: `validate_type=True` accepts it -/
theorem key_json_roundtrip_default (c : KeyClass) (p : Bytes) (d : Option String) (hp : p.length < 2 ^ 64) :
    fromJson c true (toJson (mkKey c p Option.none d)) = .ok (mkKey c p Option.none d) :=
  key_json_roundtrip c p Option.none d true hp (fun _ => rfl)

/-- **wrong `type` string is rejected** when `validate_type=True` … -/
theorem key_json_wrong_type_rejected (c : KeyClass) (k : KeyObj) (h : k.keyType ≠ c.keyType) :
    fromJson c true (toJson k) = .badType := fromJson_badType c k h

/-- … the type strings of the ten classes that define one are pairwise different … -/
theorem key_types_distinct :
    ∀ c ∈ KeyClass.concrete, ∀ c' ∈ KeyClass.concrete, c ≠ c' → c.keyType ≠ c'.keyType :=
  fun _ hc _ hc' hne e => hne (eq_of_map_eq_of_nodup keyType_nodup hc hc' e)

/-- … so an envelope written by one of them is refused by every other one -/
theorem key_json_cross_class_rejected (c c' : KeyClass) (hc : c ∈ KeyClass.concrete) (hc' : c' ∈ KeyClass.concrete)
    (hne : c ≠ c') (p : Bytes) (d : Option String) :
    fromJson c' true (toJson (mkKey c p Option.none d)) = .badType :=
  fromJson_badType c' _ (key_types_distinct c hc c' hc' hne)

/-- without `validate_type` any class reads any envelope: the class is the reader's, type string and description are
the file's -/
theorem key_json_unvalidated (c' : KeyClass) (k : KeyObj) (hp : k.payload.length < 2 ^ 64) :
    fromJson c' false (toJson k) = .ok (mkKey c' k.payload (some k.keyType) (some k.description)) :=
  fromJson_toJson c' false k hp (by simp)

/-- `hash()` of an extended verification key is the hash of its first 32 bytes -/
theorem key_hash_extended (H : Bytes → Bytes) (k : KeyObj) (h : k.cls.isExtVerification = true) :
    keyHash H k = keyHash H (toNonExtended k) ∧ keyHash H k = H (k.payload.take 32) := by
  have h2 : (toNonExtended k).cls.isExtVerification = false := rfl
  have h3 : (toNonExtended k).payload = k.payload.take 32 := rfl
  simp only [keyHash, h, h2, h3, if_true, Bool.false_eq_true, if_false, and_self]

/-! ## non-vacuity -/

/-- constructor arguments for six of the eight fields: two vkey witnesses handed over as a list (one from an extended
key), a native script, an untagged bootstrap set, V1 scripts handed over as an untagged set (with a repetition),
redeemers in the map form with two keys whose canonical order is not the insertion order, V3 scripts as a list -/
def exArgs : WS Nat Nat Nat Nat :=
  { vkeys := some (.list [exPlainWitness, mkVKW (mkKey .paymentExtVerification (List.replicate 64 3)) (.bytes (List.replicate 64 4))])
    native := some (.oset true [7])
    bootstrap := some (.oset false [5, 6])
    v1 := some (.oset false [[1, 2, 3], [4], [1, 2, 3]])
    redeemers := some (.map [(⟨.spend, 256⟩, ⟨11, ⟨1, 2⟩⟩), (⟨.mint, 0⟩, ⟨12, ⟨3, 4⟩⟩)])
    v3 := some (.list [[9]]) }

/-- the object the constructor builds from them (`exArgs_constructed` below) -/
def exWS : WS Nat Nat Nat Nat :=
  { vkeys := some (.oset true [exPlainWitness, ⟨mkKey .verification (List.replicate 32 3), .bytes (List.replicate 64 4)⟩])
    native := some (.oset true [7])
    bootstrap := some (.oset false [5, 6])
    v1 := some (.oset true [[1, 2, 3], [4]])
    redeemers := some (.map [(⟨.spend, 256⟩, ⟨11, ⟨1, 2⟩⟩), (⟨.mint, 0⟩, ⟨12, ⟨3, 4⟩⟩)])
    v3 := some (.oset true [[9]]) }

theorem exWS_ok : WSOk exWS := by
  refine ⟨?_, ?_, ?_, ?_, ?_, ?_, ?_⟩
  · intro c hc
    cases hc
    refine ⟨?_, List.cons_ne_nil _ _⟩
    intro w hw
    simp only [Coll.elems, List.mem_cons, List.mem_nil_iff, or_false] at hw
    rcases hw with rfl | rfl <;> trivial
  · intro c hc; cases hc; exact List.cons_ne_nil _ _
  · intro c hc; cases hc; trivial
  · intro c hc; cases hc; exact List.cons_ne_nil _ _
  · intro r hr; cases hr; show List.Nodup _; decide
  · intro c hc; cases hc
  · intro c hc; cases hc; exact List.cons_ne_nil _ _

-- the constructor (`__post_init__`) turns the arguments into that object: same bytes, sets tagged, repetition gone
theorem exArgs_constructed : mkWS exLeaves exArgs = exWS := by rfl

example : encWSBytes exLeaves (mkWS exLeaves exArgs) = encWSBytes exLeaves exWS := by rw [exArgs_constructed]
example : (match (mkWS exLeaves exArgs).v1 with | some (.oset true [[1, 2, 3], [4]]) => true | _ => false) = true := by
  decide +kernel

example : decWS exLeaves (wsItem exLeaves exWS) = .ok (decodedWS exLeaves exWS) :=
  ws_roundtrip exLeaves exLeaves_lawful exWS exWS_ok

-- the kernel evaluates encoder, CBOR decoder and typed restoration: six fields come back; the extended key was cut to
-- 32 bytes; the redeemer map is in canonical order (mint/0 before spend/256); re-encoding reproduces the bytes
example :
    (match decWSBytes exLeaves (encWSBytes exLeaves exWS) with
      | .ok y =>
        (match y.vkeys with
          | some (.oset true [a, b]) => a.vkey.payload.length == 32 && b.vkey.payload == List.replicate 32 3 &&
              b.vkey.cls == .verification
          | _ => false) &&
        (match y.bootstrap with | some (.list [5, 6]) => true | _ => false) &&
        (match y.v1 with | some (.oset true [[1, 2, 3], [4]]) => true | _ => false) &&
        (match y.redeemers with
          | some (.map [(k1, _), (k2, _)]) => k1 == ⟨.mint, 0⟩ && k2 == ⟨.spend, 256⟩
          | _ => false) &&
        y.datums.isNone && y.v2.isNone && y.v3.isSome &&
        encWSBytes exLeaves y == encWSBytes exLeaves exWS
      | _ => false) = true := by decide +kernel

-- the empty witness set (no field at all) is `a0` and comes back empty
example : encWSBytes exLeaves ({} : WS Nat Nat Nat Nat) = [0xa0] := by decide
example : (match decWSBytes exLeaves [0xa0] with | .ok y => y.vkeys.isNone && y.redeemers.isNone | _ => false) = true := by
  decide +kernel

-- the untagged wire form is re-encoded with the tag (the counterexample, as bytes)
example : (encWSBytes exLeaves exUntagged).take 3 = [0xa1, 0x00, 0x81] ∧
    (encWSBytes exLeaves (decodedWS exLeaves exUntagged)).take 6 = [0xa1, 0x00, 0xd9, 0x01, 0x02, 0x81] := by decide +kernel

-- a list-form redeemer with its tag assigned round-trips; the fresh one does not
def exRedeemer : Redeemer Nat := { mkRedeemer 42 (some ⟨1000, 2 ^ 64⟩) with tag := some .voting, index := .int 65536 }
example : decRedeemer natLeaf (redeemerItem natLeaf exRedeemer) = .ok exRedeemer :=
  redeemer_roundtrip natLeaf ⟨fun _ => rfl⟩ exRedeemer rfl trivial
example : decRedeemer natLeaf (redeemerItem natLeaf (mkRedeemer 42 Option.none)) = .deser :=
  redeemer_untagged_not_decodable natLeaf ⟨fun _ => rfl⟩ _ rfl

-- vkey witnesses: the builder's witness (typed envelope on a plain-class key), a payment-key witness and an extended one
-- all hold the plain key and come back as themselves; the first two are the same element of a set
example : exBuilderKey.keyType = "PaymentVerificationKeyShelley_ed25519" ∧ exBuilderWitness.vkey.keyType = "" ∧
    exBuilderWitness.vkey.cls = .verification := ⟨rfl, rfl, rfl⟩
example : decVKW (vkwItem exBuilderWitness) = .ok exBuilderWitness := vkw_roundtrip _ _ (by decide)
example : decVKW (vkwItem exPaymentWitness) = .ok exPaymentWitness := vkw_roundtrip _ _ (by decide)
example : vkwKey exBuilderWitness = vkwKey exPaymentWitness := vkw_same_element _ _ _ rfl (by decide) (by decide) rfl
example : (match decVKW (vkwItem (mkVKW (mkKey .stakeExtVerification (List.replicate 64 5)) (.bytes (List.replicate 64 6)))) with
    | .ok w => w.vkey.payload == List.replicate 32 5 && w.vkey.cls == .verification && w.vkey.keyType == ""
    | _ => false) = true := by decide +kernel

-- the round trip of the constructed object is `==` it
example : ∃ y, decWS exLeaves (wsItem exLeaves exWS) = .ok y ∧ WS.PyEq y exWS := by
  have h := ws_roundtrip_constructed exLeaves exLeaves_lawful exArgs (exArgs_constructed ▸ exWS_ok)
    (by
      rw [exArgs_constructed]
      intro c hc w hw
      cases hc
      simp only [Coll.elems, List.mem_cons, List.mem_nil_iff, or_false] at hw
      rcases hw with rfl | rfl <;> rfl)
    (by
      rw [exArgs_constructed]
      refine ⟨?_, ?_⟩
      · intro xs hx; cases hx
      · intro xs hx; cases hx)
  rw [exArgs_constructed] at h
  exact h

-- key envelopes: a payment signing key file is read back, checked, and refused by the stake class
example : fromJson .paymentSigning true (toJson (mkKey .paymentSigning (List.replicate 32 7))) =
    .ok (mkKey .paymentSigning (List.replicate 32 7)) :=
  key_json_roundtrip_default .paymentSigning _ Option.none (by decide)
example : fromJson .stakeSigning true (toJson (mkKey .paymentSigning (List.replicate 32 7))) = .badType :=
  key_json_cross_class_rejected .paymentSigning .stakeSigning (by decide) (by decide) (by decide) _ Option.none
example : (toJson (mkKey .paymentVerification [1, 2])).get? "cborHex" = some (.str "420102") := by decide +kernel
example : (mkKey .paymentVerification [1, 2]).description = "PaymentVerificationKeyShelley_ed25519" := rfl

end Pyc.C01.WitnessCodec

#print axioms Pyc.C01.WitnessCodec.vkw_roundtrip_general
#print axioms Pyc.C01.WitnessCodec.vkw_reencode
#print axioms Pyc.C01.WitnessCodec.vkw_roundtrip
#print axioms Pyc.C01.WitnessCodec.vkw_roundtrip_pyeq
#print axioms Pyc.C01.WitnessCodec.vkw_constructed_plain
#print axioms Pyc.C01.WitnessCodec.vkw_verification_reduced
#print axioms Pyc.C01.WitnessCodec.ws_roundtrip_constructed
#print axioms Pyc.C01.WitnessCodec.ws_reencode_constructed
#print axioms Pyc.C01.WitnessCodec.vkw_same_element
#print axioms Pyc.C01.WitnessCodec.vkw_extended_truncated
#print axioms Pyc.C01.WitnessCodec.vkw_other_kept
#print axioms Pyc.C01.WitnessCodec.vkw_decoder_keeps_payload
#print axioms Pyc.C01.WitnessCodec.redeemer_roundtrip
#print axioms Pyc.C01.WitnessCodec.redeemer_untagged_not_decodable
#print axioms Pyc.C01.WitnessCodec.redeemer_fresh_untagged
#print axioms Pyc.C01.WitnessCodec.redeemer_key_roundtrip
#print axioms Pyc.C01.WitnessCodec.redeemer_value_roundtrip
#print axioms Pyc.C01.WitnessCodec.redeemer_map_roundtrip
#print axioms Pyc.C01.WitnessCodec.redeemer_map_same_entries
#print axioms Pyc.C01.WitnessCodec.redeemer_map_reencode
#print axioms Pyc.C01.WitnessCodec.redeemer_map_duplicate_last_wins
#print axioms Pyc.C01.WitnessCodec.redeemers_roundtrip
#print axioms Pyc.C01.WitnessCodec.redeemers_reencode
#print axioms Pyc.C01.WitnessCodec.redeemers_dispatch
#print axioms Pyc.C01.WitnessCodec.redeemers_forms_apart
#print axioms Pyc.C01.WitnessCodec.ws_roundtrip
#print axioms Pyc.C01.WitnessCodec.ws_roundtrip_bytes
#print axioms Pyc.C01.WitnessCodec.ws_roundtrip_fixed_point
#print axioms Pyc.C01.WitnessCodec.ws_decoded_constructed
#print axioms Pyc.C01.WitnessCodec.ws_postinit_idempotent
#print axioms Pyc.C01.WitnessCodec.ws_constructed_tagged
#print axioms Pyc.C01.WitnessCodec.ws_rebuilt_fields_forget_form
#print axioms Pyc.C01.WitnessCodec.ws_plain_fields_remember_form
#print axioms Pyc.C01.WitnessCodec.ws_reencode_partial
#print axioms Pyc.C01.WitnessCodec.exLeaves_lawful
#print axioms Pyc.C01.WitnessCodec.exUntagged_ok
#print axioms Pyc.C01.WitnessCodec.exUntagged_distinct
#print axioms Pyc.C01.WitnessCodec.ws_reencode_counterexample
#print axioms Pyc.C01.WitnessCodec.key_prim_roundtrip
#print axioms Pyc.C01.WitnessCodec.key_json_roundtrip
#print axioms Pyc.C01.WitnessCodec.key_json_roundtrip_default
#print axioms Pyc.C01.WitnessCodec.key_json_wrong_type_rejected
#print axioms Pyc.C01.WitnessCodec.key_types_distinct
#print axioms Pyc.C01.WitnessCodec.key_json_cross_class_rejected
#print axioms Pyc.C01.WitnessCodec.key_json_unvalidated
#print axioms Pyc.C01.WitnessCodec.key_hash_extended
#print axioms Pyc.C01.WitnessCodec.exWS_ok
#print axioms Pyc.C01.WitnessCodec.exArgs_constructed
