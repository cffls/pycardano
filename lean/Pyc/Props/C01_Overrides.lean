import Pyc.Generated.Schema

/-! # C01 (extension) — the boundary between table-driven and hand-written codecs is pinned (tie T1)

The generic codec theorem (`codec_roundtrip`) covers table-driven classes; a class that overrides `to_primitive`,
`to_shallow_primitive`, `from_primitive`, `validate` or `__post_init__`, or whose codec is entirely its own, is an opaque
leaf of that theorem and needs a model of its own.  `repoSchema` is regenerated from /repo's live classes on every run,
so the kernel re-checks on every run that **every class with hand-written codec code is one of those listed here** —
either modelled by hand (with the Lean file that holds the model) or recorded as judged on the implementation only.
A change to /repo that gives a table-driven class its own `from_primitive` (and thereby moves it out of the generic
theorem's scope) breaks `repo_overrides_accounted`, and the failing-input search is then pointed at that class. -/

namespace Pyc.C01.Overrides
open Pyc.Schema Pyc.Generated

def codecOverrides : List String := ["to_primitive", "to_shallow_primitive", "from_primitive", "validate", "__post_init__"]

def isCustomKind : Kind → Bool
  | .custom => true
  | _ => false

/-- the class has hand-written codec code -/
def handWritten (c : ClassDef) : Bool := isCustomKind c.kind || c.overrides.any (fun o => codecOverrides.contains o)

/-- classes with a hand-written codec that have a Lean model, with the model file -/
def modelled : List (String × String) := [
  ("Address", "Model/Addr.lean, Model/AddrLeaf.lean"), ("PointerAddress", "Model/Addr.lean"),
  ("Value", "Model/CustomCodec.lean"), ("MultiAsset", "Model/CustomCodec.lean"), ("Asset", "Model/CustomCodec.lean"),
  ("TransactionOutput", "Model/CustomCodec.lean"), ("_DatumOption", "Model/CustomCodec.lean"),
  ("_Script", "Model/CustomCodec.lean"), ("_ScriptRef", "Model/CustomCodec.lean"),
  ("TransactionBody", "Model/CustomCodec.lean (bodyNorm) + generic table"),
  ("PlutusData", "Model/Plutus.lean"), ("RawPlutusData", "Model/Plutus.lean"), ("Unit", "Model/Plutus.lean"),
  ("NativeScript", "Model/NativeScript.lean"), ("ScriptPubkey", "Model/NativeScript.lean"),
  ("ScriptAll", "Model/NativeScript.lean"), ("ScriptAny", "Model/NativeScript.lean"),
  ("ScriptNofK", "Model/NativeScript.lean"), ("InvalidBefore", "Model/NativeScript.lean"),
  ("InvalidHereAfter", "Model/NativeScript.lean"),
  ("StakeCredential", "Model/Gov.lean"), ("DRepCredential", "Model/Gov.lean"),
  ("CommitteeColdCredential", "Model/Gov.lean"),
  ("DRep", "Model/Gov.lean"), ("Voter", "Model/Gov.lean"),
  ("VotingProcedure", "Model/Gov.lean"), ("GovActionId", "Model/Gov.lean"), ("HardForkInitiationAction", "Model/Gov.lean"),
  ("PoolId", "Model/Pool.lean, Model/Gov.lean"),
  ("PoolRegistration", "Model/Pool.lean"), ("PoolParams", "Model/Pool.lean"), ("SingleHostAddr", "Model/Pool.lean"),
  ("SingleHostName", "Model/Pool.lean"), ("MultiHostName", "Model/Pool.lean"),
  ("AlonzoMetadata", "Model/Metadata.lean"), ("AuxiliaryData", "Model/Metadata.lean"),
  ("ShelleyMarryMetadata", "Model/Metadata.lean"),
  ("Redeemer", "Model/WitnessCodec.lean"), ("RedeemerKey", "Model/WitnessCodec.lean"),
  ("RedeemerValue", "Model/WitnessCodec.lean"), ("RedeemerTag", "Model/WitnessCodec.lean"),
  ("VerificationKeyWitness", "Model/WitnessCodec.lean"), ("TransactionWitnessSet", "Model/WitnessCodec.lean"),
  ("Network", "Model/Addr.lean"),
  ("PlutusScript", "Model/CustomCodec.lean (Script.plutus), Model/Ids.lean"),
  ("PlutusV1Script", "Model/CustomCodec.lean (Script.plutus), Model/Ids.lean"),
  ("PlutusV2Script", "Model/CustomCodec.lean (Script.plutus), Model/Ids.lean"),
  ("PlutusV3Script", "Model/CustomCodec.lean (Script.plutus), Model/Ids.lean")] ++
  -- key.py: one payload codec (`Key.to_primitive` / `from_primitive`) and one text envelope shared by every key class
  (["SigningKey", "VerificationKey", "ExtendedSigningKey", "ExtendedVerificationKey", "PaymentSigningKey",
    "PaymentVerificationKey", "PaymentExtendedSigningKey", "PaymentExtendedVerificationKey", "StakeSigningKey",
    "StakeVerificationKey", "StakeExtendedSigningKey", "StakeExtendedVerificationKey", "StakePoolSigningKey",
    "StakePoolVerificationKey"].map (fun n => (n, "Model/WitnessCodec.lean (key payload and text envelope)")))

/-- classes with hand-written codec code and NO Lean model: their round trip is judged on the implementation only -/
def implementationOnly : List String := ["CostModels"]

def accounted (n : String) : Bool := (modelled.map (·.1)).contains n || implementationOnly.contains n

/-- the names of the classes of the regenerated table with hand-written codec code that are not accounted for -/
def unaccounted (S : List ClassDef) : List String := ((S.filter handWritten).map (·.name)).filter (fun n => !accounted n)

/-- every class of /repo with hand-written codec code is modelled by hand or recorded as implementation-only -/
theorem repo_overrides_accounted : unaccounted repoSchema = [] := by decide +kernel

/-- … and the record does not rot: every class listed as modelled or implementation-only still exists in /repo -/
theorem accounted_classes_exist :
    ((modelled.map (·.1)) ++ implementationOnly).all (fun n => (lookup repoSchema n).isSome) = true := by decide +kernel

/-- how much of the hand-written codec code has a model (a lower bound that the kernel evaluates on the live table) -/
theorem modelled_share : 58 ≤ ((repoSchema.filter handWritten).filter (fun c => (modelled.map (·.1)).contains c.name)).length := by
  decide +kernel

/-- non-vacuity: a table-driven class that acquires its own `from_primitive` is flagged -/
example : unaccounted [{ name := "TransactionInput", kind := .array, overrides := ["from_primitive"], fields := [] }]
    = ["TransactionInput"] := by decide

end Pyc.C01.Overrides

#print axioms Pyc.C01.Overrides.repo_overrides_accounted
#print axioms Pyc.C01.Overrides.accounted_classes_exist
#print axioms Pyc.C01.Overrides.modelled_share
