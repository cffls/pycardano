import Pyc.Proofs.Collateral

/-! # C13 — collateral is adequate, key-locked and balanced

Property theorems only.  The model (`Pyc/Model/Collateral.lean`) transliterates `_should_add_collateral_return`,
`_set_collateral_return` and the collateral field of `_build_tx_body` of pycardano/txbuilder.py, as repaired by
f40c521 (a candidate already in `self.collaterals` is not taken again), 81c8cba (`max_collateral_inputs` enforced)
and 3308efc (the collateral amount is rounded up).
`run p st = .ok r`: the call returned; `r.collaterals` is `builder.collaterals` (a list, WITH multiplicity),
`bodyCollateral r.collaterals` is what the transaction body names (the ordered set drops repeats: what the ledger
sees), `r.ret` / `r.total` are `_collateral_return` / `_total_collateral`.  `coinSum` / `qtySum` are Σ over a list.
`st.explicit = []` = the collateral is chosen automatically.

Hypotheses that remain, and why:
* `RefConsistent (inputs ++ potential ++ addrUtxos)` (distinctness, the ledger's balance): the membership test of the
  repaired loop is `UTxO.__eq__` (input AND output), so two entries that share a `TransactionInput` but show different
  outputs — inconsistent views of the ledger, where a reference identifies one output — are both taken
  (`inconsistent_view_taken_twice`).  The same UTxO (object) reachable through several lists satisfies it.
* collateral supplied by the caller (`st.explicit ≠ []`) is passed through: a caller who lists one UTxO twice still
  gets it summed twice (`explicit_duplicate_counted_twice`); `collat_total_distinct_explicit` asks for distinct
  references.  The limit, the total, adequacy and the return theorems hold for explicit collateral as well.
* `0 < amt` for "at least one collateral input" (a collateral percentage of 0 requires none).
The fee of the transaction is not part of the model: adequacy quantifies over every `fee ≤ max_tx_fee + fee_buffer`
(every fee estimate of the builder is a `fee(...)` value, bounded by `max_tx_fee`, plus `builder.fee_buffer`; since the
repair of KF-C13-fee-buffer the collateral is sized from that bound). -/

namespace Pyc.C13
open Pyc.Collateral

/-- automatic selection: either nothing was selected (early return) or the collateral is `selectAuto` -/
theorem auto_collaterals (p : Params) (st : State) (r : Result) (ha : st.explicit = []) (h : run p st = .ok r) :
    r.collaterals = [] ∨
    ∃ addr amt, st.retAddr = some addr ∧ collateralAmount p st.refScriptSize st.feeBuffer = some amt ∧
      r.collaterals = selectAuto p.cpb amt st.threshold addr st := by
  rcases run_ok p st r h with ⟨_, rfl⟩ | ⟨addr, amt, _, h2, h3, h4⟩
  · exact Or.inl ha
  · right
    rw [colsOf_auto p st addr amt ha] at h4
    exact ⟨addr, amt, h2, h3, (finish_ok _ _ _ _ _ _ _ h4).1⟩

/-- automatically chosen collateral inputs are never at script addresses and hold more than 2 ADA -/
theorem collat_key_locked (p : Params) (st : State) (r : Result) (ha : st.explicit = []) (h : run p st = .ok r) :
    ∀ u ∈ r.collaterals, scriptLocked u.out.addr = false ∧ u.out.amount.coin > 2000000 := by
  intro u hu
  rcases auto_collaterals p st r ha h with h0 | ⟨addr, amt, _, _, hc⟩
  · rw [h0] at hu; cases hu
  · rw [hc] at hu
    have := selectAuto_eligible _ _ _ _ _ u hu
    simpa [eligible] using this

/-- each automatically chosen collateral input comes from one of the three candidate lists -/
theorem collat_from_candidates (p : Params) (st : State) (r : Result) (ha : st.explicit = []) (h : run p st = .ok r) :
    ∀ u ∈ r.collaterals, u ∈ st.inputs ∨ u ∈ st.potential ∨ u ∈ st.addrUtxos := by
  intro u hu
  rcases auto_collaterals p st r ha h with h0 | ⟨addr, amt, _, _, hc⟩
  · rw [h0] at hu; cases hu
  · rw [hc] at hu
    have := (selectAuto_sublist _ _ _ _ _).subset hu
    simp only [List.mem_append, mem_popOrder] at this
    rcases this with (h | h) | h
    · exact Or.inl h
    · exact Or.inr (Or.inl h)
    · exact Or.inr (Or.inr h)

/-- a return output and a declared total come together -/
theorem ret_iff_total (p : Params) (st : State) (r : Result) (h : run p st = .ok r) :
    r.ret.isSome = r.total.isSome := by
  rcases run_ok p st r h with ⟨_, rfl⟩ | ⟨addr, amt, _, _, _, h4⟩
  · rfl
  · rcases (finish_ok _ _ _ _ _ _ _ h4).2.2.2 with ⟨h1, h2, _⟩ | ⟨h1, h2, _⟩ <;> simp [h1, h2]

/-- when a total collateral is declared: a return output exists, it goes to the return address,
Σ collateral inputs (as the LIST the builder holds, with multiplicity) − return = total in ADA, and the return
carries exactly Σ of every native asset -/
theorem collat_total (p : Params) (st : State) (r : Result) (t : Int) (h : run p st = .ok r)
    (ht : r.total = some t) :
    ∃ o, r.ret = some o ∧ st.retAddr = some o.addr ∧ coinSum r.collaterals - o.amount.coin = t ∧
      ((∀ u ∈ r.collaterals, Value.WF u.out.amount) → ∀ pol n, Value.qty o.amount pol n = qtySum r.collaterals pol n) := by
  rcases run_ok p st r h with ⟨_, rfl⟩ | ⟨addr, amt, _, h2, _, h4⟩
  · cases ht
  · generalize colsOf p st addr amt = cols at h4
    obtain ⟨hc, _, _, hr⟩ := finish_ok _ _ _ _ _ _ _ h4
    rcases hr with ⟨_, h', _⟩ | ⟨hret, htot, _, _⟩
    · rw [h'] at ht; cases ht
    · rw [htot] at ht; cases ht
      rw [hc]
      refine ⟨_, hret, h2, ?_, ?_⟩
      · simp only [retOutput, subInt_coin, sumAmounts_coin]; omega
      · intro hw pol n
        obtain ⟨w, q⟩ := sumAmounts_qty cols hw
        simp only [retOutput]
        rw [subInt_qty _ _ w, q]

/-- the collateral amount is covered by Σ collateral inputs (all of it is forfeitable when nothing is returned) -/
theorem collat_covers (p : Params) (st : State) (r : Result) (addr : Bytes) (amt : Int) (h : run p st = .ok r)
    (hs : st.hasScripts = true) (hr : st.retAddr = some addr) (hc : collateralAmount p st.refScriptSize st.feeBuffer = some amt) :
    amt ≤ coinSum r.collaterals := by
  rcases run_ok p st r h with ⟨h0 | h0, _⟩ | ⟨addr', amt', _, _, h3, h4⟩
  · rw [hs] at h0; cases h0
  · rw [hr] at h0; cases h0
  · rw [hc] at h3; cases h3
    obtain ⟨hcols, _, hle, _⟩ := finish_ok _ _ _ _ _ _ _ h4
    rw [hcols]; exact hle

/-! ## distinctness -/

/-- the automatically chosen collateral inputs are pairwise distinct UTxOs (distinct `TransactionInput`s), whenever
the three candidate lists are views of one ledger state — in particular when the same UTxO is reachable as input,
potential input and address UTxO -/
theorem collat_distinct (p : Params) (st : State) (r : Result) (ha : st.explicit = [])
    (hcons : RefConsistent (st.inputs ++ st.potential ++ st.addrUtxos)) (h : run p st = .ok r) :
    (r.collaterals.map Utxo.ref).Nodup := by
  rcases auto_collaterals p st r ha h with h0 | ⟨addr, amt, _, _, hc⟩
  · rw [h0]; simp
  · rw [hc]; exact selectAuto_nodup _ _ _ _ _ hcons

/-- hence the body names exactly the builder's list -/
theorem body_is_list (p : Params) (st : State) (r : Result) (ha : st.explicit = [])
    (hcons : RefConsistent (st.inputs ++ st.potential ++ st.addrUtxos)) (h : run p st = .ok r) :
    bodyCollateral r.collaterals = r.collaterals :=
  bodyCollateral_of_nodup _ (collat_distinct p st r ha hcons h)

/-- the balance the ledger computes — Σ over the DISTINCT collateral inputs of the body − return — equals the
declared total collateral, and the return carries exactly the assets of the distinct inputs -/
theorem collat_total_distinct (p : Params) (st : State) (r : Result) (t : Int) (o : Output)
    (ha : st.explicit = []) (hcons : RefConsistent (st.inputs ++ st.potential ++ st.addrUtxos))
    (h : run p st = .ok r) (ht : r.total = some t) (ho : r.ret = some o) :
    coinSum (bodyCollateral r.collaterals) - o.amount.coin = t ∧
    ((∀ u ∈ r.collaterals, Value.WF u.out.amount) →
      ∀ pol n, Value.qty o.amount pol n = qtySum (bodyCollateral r.collaterals) pol n) := by
  obtain ⟨o', h1, _, h3, h4⟩ := collat_total p st r t h ht
  rw [ho] at h1; cases h1
  rw [body_is_list p st r ha hcons h]
  exact ⟨h3, h4⟩

/-- the same for collateral supplied by the caller, provided the caller listed pairwise distinct references -/
theorem collat_total_distinct_explicit (p : Params) (st : State) (r : Result) (t : Int) (o : Output)
    (hd : (st.explicit.map Utxo.ref).Nodup) (hne : st.explicit ≠ [])
    (h : run p st = .ok r) (ht : r.total = some t) (ho : r.ret = some o) :
    r.collaterals = st.explicit ∧ coinSum (bodyCollateral r.collaterals) - o.amount.coin = t := by
  have hc : r.collaterals = st.explicit := by
    rcases run_ok p st r h with ⟨_, rfl⟩ | ⟨addr, amt, _, _, _, h4⟩
    · rfl
    · have : colsOf p st addr amt = st.explicit := by
        cases he : st.explicit with
        | nil => exact absurd he hne
        | cons a l => simp [colsOf, he]
      rw [this] at h4
      exact (finish_ok _ _ _ _ _ _ _ h4).1
  obtain ⟨o', h1, _, h3, _⟩ := collat_total p st r t h ht
  rw [ho] at h1; cases h1
  refine ⟨hc, ?_⟩
  rw [bodyCollateral_of_nodup _ (hc ▸ hd)]
  exact h3

/-- the ledger's view of adequacy: Σ over the distinct collateral inputs covers the collateral amount -/
theorem collat_covers_distinct (p : Params) (st : State) (r : Result) (addr : Bytes) (amt : Int)
    (ha : st.explicit = []) (hcons : RefConsistent (st.inputs ++ st.potential ++ st.addrUtxos))
    (h : run p st = .ok r) (hs : st.hasScripts = true) (hr : st.retAddr = some addr)
    (hc : collateralAmount p st.refScriptSize st.feeBuffer = some amt) : amt ≤ coinSum (bodyCollateral r.collaterals) := by
  rw [body_is_list p st r ha hcons h]
  exact collat_covers p st r addr amt h hs hr hc

/-- whatever the lists, the body itself names pairwise distinct inputs, each of them one of the builder's, and
every UTxO of the builder's list is named -/
theorem body_distinct (cols : List Utxo) :
    ((bodyCollateral cols).map Utxo.ref).Nodup ∧ (bodyCollateral cols).Sublist cols ∧
    ∀ u ∈ cols, ∃ v ∈ bodyCollateral cols, v.ref = u.ref :=
  ⟨(dedupRef_nodup cols []).1, dedupRef_sublist cols [], fun u hu => dedupRef_mem cols [] u hu (by simp)⟩

/-! concrete witnesses: fee parameters with `max_tx_fee = 2 000 000` (constant term only), 150 %:
collateral amount 3 000 000; `uA` (2.5 ADA) and `uC` (2.6 ADA) sit at an enterprise key address -/

def cxFee (b : Int) : FeeParams :=
  { a := ⟨0, 1⟩, b := ⟨b, 1⟩, priceStep := ⟨0, 1⟩, priceMem := ⟨0, 1⟩, maxTxSize := 16384, maxTxExSteps := 0,
    maxTxExMem := 0 }
def cxParams (mx : Nat) : Params := { fee := cxFee 2000000, percent := 150, cpb := 4310, maxCollateralInputs := mx }
def keyAddr : Bytes := [0x60, 1, 2, 3]
def uA : Utxo := { txid := [0xaa], ix := 0, out := { addr := keyAddr, amount := ⟨2500000, []⟩ } }
/-- the reference of `uA` shown with a different output (a stale view) -/
def uA' : Utxo := { txid := [0xaa], ix := 0, out := { addr := keyAddr, amount := ⟨2600000, []⟩ } }
def uC : Utxo := { txid := [0xcc], ix := 1, out := { addr := keyAddr, amount := ⟨2600000, [([7], [([1], 5)])]⟩ } }
def uBig : Utxo := { txid := [0xbb], ix := 0, out := { addr := keyAddr, amount := ⟨10000000, []⟩ } }

def stBase : State :=
  { inputs := [], potential := [], addrUtxos := [], explicit := [], hasScripts := true, retAddr := some keyAddr,
    threshold := 1000000, refScriptSize := 0 }

/-- regression witness of f40c521: `uA` is a transaction input and also one of the UTxOs the chain index lists at
the return address (with `uBig`); it is taken once, then `uBig` -/
example : RefConsistent ([uA] ++ [] ++ [uBig, uA]) ∧
    okResult (run (cxParams 3) { stBase with inputs := [uA], addrUtxos := [uBig, uA] }) =
      some ⟨[uA, uBig], some { addr := keyAddr, amount := ⟨9500000, []⟩ }, some 3000000⟩ := by
  refine ⟨?_, by decide +kernel⟩
  intro u hu v hv
  simp only [List.append_nil, List.cons_append, List.nil_append, List.mem_cons, List.not_mem_nil, or_false] at hu hv
  rcases hu with rfl | rfl | rfl <;> rcases hv with rfl | rfl | rfl <;> decide +kernel

/-- alone, the doubly reachable `uA` is insufficient: it is counted once (twice before f40c521) -/
example : errOf (run (cxParams 3) { stBase with inputs := [uA], addrUtxos := [uA] }) = some .insufficient := by
  decide +kernel

/-- `RefConsistent` cannot be dropped from `collat_distinct`: two entries sharing the reference `(aa, 0)` with
different outputs are unequal for `UTxO.__eq__`, and both are taken -/
theorem inconsistent_view_taken_twice :
    ¬ ∀ (p : Params) (st : State) (r : Result), st.explicit = [] → run p st = .ok r →
        (r.collaterals.map Utxo.ref).Nodup := by
  intro h
  have hr : run (cxParams 3) { stBase with inputs := [uA], addrUtxos := [uA'] } =
      .ok ⟨[uA, uA'], some { addr := keyAddr, amount := ⟨2100000, []⟩ }, some 3000000⟩ :=
    eq_ok_of_okResult (by decide +kernel)
  have := h _ _ _ rfl hr
  revert this; decide +kernel

/-- collateral listed twice by the caller is still summed twice while the body names it once: the distinctness of
explicit collateral is the caller's obligation (hypothesis `hd` of `collat_total_distinct_explicit`) -/
theorem explicit_duplicate_counted_twice :
    ¬ ∀ (p : Params) (st : State) (r : Result) (t : Int) (o : Output), run p st = .ok r → r.total = some t →
        r.ret = some o → coinSum (bodyCollateral r.collaterals) - o.amount.coin = t := by
  intro h
  have hr : run (cxParams 3) { stBase with explicit := [uA, uA] } =
      .ok ⟨[uA, uA], some { addr := keyAddr, amount := ⟨2000000, []⟩ }, some 3000000⟩ :=
    eq_ok_of_okResult (by decide +kernel)
  have := h _ _ _ 3000000 _ hr rfl rfl
  revert this; decide +kernel

/-! ## adequacy -/

/-- the declared total collateral is `⌈max_tx_fee · percent / 100⌉`, hence at least `percent` % of every fee up to
the maximum fee: the ledger's `collateral · 100 ≥ fee · percent` -/
theorem collat_percent (p : Params) (st : State) (r : Result) (t mf : Int) (h : run p st = .ok r)
    (ht : r.total = some t) (hm : maxTxFee p.fee st.refScriptSize = some mf) :
    t = ((mf + st.feeBuffer) * p.percent + 99) / 100 ∧ (mf + st.feeBuffer) * p.percent ≤ t * 100 ∧
    t * 100 ≤ (mf + st.feeBuffer) * p.percent + 99 ∧
    ∀ fee : Int, 0 ≤ p.percent → fee ≤ mf + st.feeBuffer → fee * p.percent ≤ t * 100 := by
  rcases run_ok p st r h with ⟨_, rfl⟩ | ⟨addr, amt, _, _, h3, h4⟩
  · cases ht
  · obtain ⟨mf', hm', ha⟩ := collateralAmount_eq _ _ _ _ h3
    rw [hm] at hm'; cases hm'
    obtain ⟨_, _, _, hr⟩ := finish_ok _ _ _ _ _ _ _ h4
    rcases hr with ⟨_, h', _⟩ | ⟨_, htot, _, _⟩
    · rw [h'] at ht; cases ht
    · rw [htot] at ht; cases ht
      subst ha
      have hc := ceilDiv100 ((mf + st.feeBuffer) * p.percent)
      exact ⟨rfl, hc.1, hc.2, fun fee hp hf => Int.le_trans (Int.mul_le_mul_of_nonneg_right hf hp) hc.1⟩

/-- with or without a declared total: what is forfeitable (Σ collateral inputs − return, nothing returned when no
total is declared) is at least `percent` % of every fee up to the maximum fee -/
theorem collat_adequate (p : Params) (st : State) (r : Result) (addr : Bytes) (mf fee : Int) (h : run p st = .ok r)
    (hs : st.hasScripts = true) (hr : st.retAddr = some addr) (hm : maxTxFee p.fee st.refScriptSize = some mf)
    (hp : 0 ≤ p.percent) (hf : fee ≤ mf + st.feeBuffer) :
    fee * p.percent ≤ (coinSum r.collaterals - (match r.ret with | some o => o.amount.coin | none => 0)) * 100 := by
  cases ht : r.total with
  | none =>
    have hret : r.ret = none := by
      have := ret_iff_total p st r h
      rw [ht] at this
      cases hret : r.ret with
      | none => rfl
      | some o => rw [hret] at this; cases this
    have hcov := collat_covers p st r addr (((mf + st.feeBuffer) * p.percent + 99) / 100) h hs hr
      (by simp only [collateralAmount, hm])
    rw [hret, Int.sub_zero]
    exact Int.le_trans (Int.mul_le_mul_of_nonneg_right hf hp)
      (Int.le_trans (ceilDiv100 _).1 (Int.mul_le_mul_of_nonneg_right hcov (by decide)))
  | some t =>
    obtain ⟨o, ho, _, heq, _⟩ := collat_total p st r t h ht
    rw [ho, heq]
    exact (collat_percent p st r t mf h ht hm).2.2.2 fee hp hf

/-! ## number of collateral inputs -/

/-- the limit holds for the builder's list itself, for automatic and for explicit collateral -/
theorem collat_limit (p : Params) (st : State) (r : Result) (h : run p st = .ok r) (hs : st.hasScripts = true)
    (hr : st.retAddr.isSome) : r.collaterals.length ≤ p.maxCollateralInputs := by
  rcases run_ok p st r h with ⟨h0 | h0, _⟩ | ⟨addr, amt, _, _, _, h4⟩
  · rw [hs] at h0; cases h0
  · rw [h0] at hr; cases hr
  · obtain ⟨hc, hl, _⟩ := finish_ok _ _ _ _ _ _ _ h4
    rw [hc]; exact hl

/-- a transaction that runs scripts, built with a return address and a positive collateral amount, names at least
one and at most `max_collateral_inputs` distinct collateral inputs -/
theorem collat_count (p : Params) (st : State) (r : Result) (amt : Int) (hs : st.hasScripts = true)
    (hr : st.retAddr.isSome) (hc : collateralAmount p st.refScriptSize st.feeBuffer = some amt) (hpos : 0 < amt)
    (h : run p st = .ok r) :
    1 ≤ (bodyCollateral r.collaterals).length ∧ (bodyCollateral r.collaterals).length ≤ p.maxCollateralInputs := by
  obtain ⟨addr, hr'⟩ := Option.isSome_iff_exists.1 hr
  have hcov := collat_covers p st r addr amt h hs hr' hc
  constructor
  · have hne : r.collaterals ≠ [] := by
      intro he; rw [he] at hcov; simp at hcov; omega
    have := bodyCollateral_ne_nil _ hne
    cases hb : bodyCollateral r.collaterals with
    | nil => exact absurd hb this
    | cons _ _ => simp
  · have h1 : (bodyCollateral r.collaterals).length ≤ r.collaterals.length := (dedupRef_sublist _ _).length_le
    have h2 := collat_limit p st r h hs hr
    omega

/-- regression witness of 81c8cba: inputs `uA` (2.5 ADA) and `uC` (2.6 ADA, one token) are both needed; with limit 1
the call is refused, with limit 2 it succeeds -/
example :
    errOf (run (cxParams 1) { stBase with inputs := [uA], potential := [uC] }) = some .tooMany ∧
    okResult (run (cxParams 2) { stBase with inputs := [uA], potential := [uC] }) =
      some ⟨[uA, uC], some { addr := keyAddr, amount := ⟨2100000, [([7], [([1], 5)])]⟩ }, some 3000000⟩ := by
  decide +kernel

/-- the selection is minimal along its walk — no input is appended once the running total is adequate.  For every
chosen input `u`, the inputs chosen before it (`pre`) left the loop condition true: their Σ was short of the
collateral amount, or a return was due for it (`shouldAdd`) that would not reach its minimum ADA (`needMore`, the
`while` condition of the code) -/
theorem collat_needed (p : Params) (st : State) (r : Result) (pre post : List Utxo) (u : Utxo)
    (ha : st.explicit = []) (h : run p st = .ok r) (hsplit : r.collaterals = pre ++ u :: post) :
    ∃ addr amt, st.retAddr = some addr ∧ collateralAmount p st.refScriptSize st.feeBuffer = some amt ∧
      needMore p.cpb amt st.threshold addr (sumAmounts pre) (subInt (sumAmounts pre) amt) = true := by
  rcases auto_collaterals p st r ha h with h0 | ⟨addr, amt, h1, h2, hc⟩
  · rw [h0] at hsplit; simp at hsplit
  · refine ⟨addr, amt, h1, h2, ?_⟩
    have hn := selectAuto_taken p.cpb amt st.threshold addr st
    rw [← hc, hsplit, taken_append] at hn
    exact hn.2.1

/-! ## the return output -/

/-- a collateral return output holds at least its minimum ADA -/
theorem return_min_ada (p : Params) (st : State) (r : Result) (o : Output) (h : run p st = .ok r)
    (ho : r.ret = some o) : minLovelace p.cpb o ≤ o.amount.coin := by
  rcases run_ok p st r h with ⟨_, rfl⟩ | ⟨addr, amt, _, _, _, h4⟩
  · cases ho
  · obtain ⟨_, _, _, hr⟩ := finish_ok _ _ _ _ _ _ _ h4
    rcases hr with ⟨h', _, _⟩ | ⟨hret, _, _, hm⟩
    · rw [h'] at ho; cases ho
    · rw [hret] at ho; cases ho
      exact hm

/-- a return output is only produced for more than max(threshold, 1 ADA), or when native assets have to go back -/
theorem return_threshold (p : Params) (st : State) (r : Result) (o : Output) (h : run p st = .ok r)
    (ho : r.ret = some o) :
    o.amount.coin > max st.threshold 1000000 ∨ MultiAsset.count o.amount.ma (fun _ _ q => decide (q > 0)) > 0 := by
  rcases run_ok p st r h with ⟨_, rfl⟩ | ⟨addr, amt, _, _, _, h4⟩
  · cases ho
  · obtain ⟨_, _, _, hr⟩ := finish_ok _ _ _ _ _ _ _ h4
    rcases hr with ⟨h', _, _⟩ | ⟨hret, _, hs, _⟩
    · rw [h'] at ho; cases ho
    · rw [hret] at ho; cases ho
      simpa [shouldAdd, retOutput] using hs

/-- conversely, no return means nothing worth returning: at most max(threshold, 1 ADA) is forfeited beyond the
collateral amount -/
theorem no_return_small (p : Params) (st : State) (r : Result) (addr : Bytes) (amt : Int) (h : run p st = .ok r)
    (hs : st.hasScripts = true) (hr : st.retAddr = some addr) (hc : collateralAmount p st.refScriptSize st.feeBuffer = some amt)
    (hn : r.ret = none) :
    coinSum r.collaterals - amt ≤ max st.threshold 1000000 := by
  rcases run_ok p st r h with ⟨h0 | h0, _⟩ | ⟨addr', amt', _, _, h3, h4⟩
  · rw [hs] at h0; cases h0
  · rw [hr] at h0; cases h0
  · rw [hc] at h3; cases h3
    obtain ⟨hcols, _, _, hr'⟩ := finish_ok _ _ _ _ _ _ _ h4
    rcases hr' with ⟨_, _, hsa⟩ | ⟨hret, _, _, _⟩
    · rw [hcols]
      simp only [shouldAdd, Bool.or_eq_false_iff, decide_eq_false_iff_not, subInt_coin, sumAmounts_coin] at hsa
      omega
    · rw [hret] at hn; cases hn

/-- the selection loop terminates: `walk` is structurally recursive on the candidate list (every iteration pops
one candidate; no fuel), and it appends at most one collateral input per candidate -/
theorem loop_terminates (cpb amt thr : Int) (addr : Bytes) (cs : List Utxo) (total ret : Value) (chosen : List Utxo) :
    (walk cpb amt thr addr cs total ret chosen).2.length ≤ chosen.length + cs.length := by
  obtain ⟨ys, h1, _, h2, _⟩ := walk_spec cpb amt thr addr cs total ret chosen
  rw [h1, List.length_append]
  have := h2.length_le
  omega

/-- the candidates are handed out from the end of the key-sorted list, and sorting loses or invents nothing -/
theorem pop_order (l : List Utxo) :
    popOrder l = (sortCands l).reverse ∧ (sortCands l).Pairwise (fun a b => Collateral.keyLe a b = true) ∧
    (sortCands l).Perm l :=
  ⟨rfl, sortCands_eq l ▸ isort_pairwise Collateral.keyLe keyLe_trans keyLe_total l, sortCands_perm l⟩

/-! ## non-vacuity -/

/-- a wallet with candidates in all three lists, a script-locked candidate and one of exactly 2 ADA: the run
succeeds with a return and a declared total, the script-locked and the 2-ADA candidates are passed over, and the
equations of `collat_total` / `collat_percent` are the concrete numbers -/
example :
    let uS : Utxo := { txid := [0xdd], ix := 0, out := { addr := [0x70, 9], amount := ⟨50000000, []⟩ } }
    let u2 : Utxo := { txid := [0xee], ix := 0, out := { addr := keyAddr, amount := ⟨2000000, []⟩ } }
    let st : State := { stBase with inputs := [uS, u2], potential := [uA], addrUtxos := [uC, uBig] }
    collateralAmount (cxParams 3) st.refScriptSize = some 3000000 ∧
    okResult (run (cxParams 3) st) =
      some ⟨[uA, uC], some { addr := keyAddr, amount := ⟨2100000, [([7], [([1], 5)])]⟩ }, some 3000000⟩ ∧
    coinSum [uA, uC] - 2100000 = 3000000 ∧ qtySum [uA, uC] [7] [1] = 5 := by
  decide +kernel

/-- rounding up: max fee 2 000 001 at 150 % requires 3 000 001.5, the declared total is 3 000 002 -/
example :
    okResult (run { fee := cxFee 2000001, percent := 150, cpb := 4310, maxCollateralInputs := 3 }
      { stBase with inputs := [uBig] }) =
      some ⟨[uBig], some { addr := keyAddr, amount := ⟨6999998, []⟩ }, some 3000002⟩ := by
  decide +kernel

/-- explicit collateral skips the selection; an insufficient one is refused, too many are refused -/
example :
    okResult (run (cxParams 3) { stBase with inputs := [uA], explicit := [uBig] }) =
      some ⟨[uBig], some { addr := keyAddr, amount := ⟨7000000, []⟩ }, some 3000000⟩ ∧
    errOf (run (cxParams 3) { stBase with explicit := [uA] }) = some .insufficient ∧
    errOf (run (cxParams 1) { stBase with explicit := [uA, uBig] }) = some .tooMany ∧
    errOf (run (cxParams 3) { stBase with addrUtxos := [uC] }) = some .insufficient ∧
    okResult (run (cxParams 3) { stBase with inputs := [uBig], hasScripts := false }) = some ⟨[], none, none⟩ := by
  decide +kernel

end Pyc.C13

#print axioms Pyc.C13.auto_collaterals
#print axioms Pyc.C13.collat_key_locked
#print axioms Pyc.C13.collat_from_candidates
#print axioms Pyc.C13.ret_iff_total
#print axioms Pyc.C13.collat_total
#print axioms Pyc.C13.collat_covers
#print axioms Pyc.C13.collat_distinct
#print axioms Pyc.C13.body_is_list
#print axioms Pyc.C13.collat_total_distinct
#print axioms Pyc.C13.collat_total_distinct_explicit
#print axioms Pyc.C13.collat_covers_distinct
#print axioms Pyc.C13.body_distinct
#print axioms Pyc.C13.inconsistent_view_taken_twice
#print axioms Pyc.C13.explicit_duplicate_counted_twice
#print axioms Pyc.C13.collat_percent
#print axioms Pyc.C13.collat_adequate
#print axioms Pyc.C13.collat_limit
#print axioms Pyc.C13.collat_count
#print axioms Pyc.C13.collat_needed
#print axioms Pyc.C13.return_min_ada
#print axioms Pyc.C13.return_threshold
#print axioms Pyc.C13.no_return_small
#print axioms Pyc.C13.loop_terminates
#print axioms Pyc.C13.pop_order
