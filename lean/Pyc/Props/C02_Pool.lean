import Pyc.Proofs.PoolSpec

/-! # C02 (extension `Pool`) — pool registration / retirement certificates are written as the Conway CDDL prescribes

`Pyc/Spec/Pool.lean` is a hand transliteration of the CDDL rules `pool_registration`, `pool_params`, `relay`,
`pool_metadata`, `unit_interval`, `pool_retirement`, independent of the model, in two formulations: an encoder of
spec-level content (`enc…`) and a recogniser of items (`is…`).  `absParams` / `absRelay` (`Proofs/PoolSpec.lean`) give
the spec-level content of a model object — address TEXTS become the bytes they stand for — and are undefined exactly
where the Python annotations allow what the CDDL has no rule for.

Result: `registration_conforms_partial` (`toItem x = spec x`, and the item is in the grammar) for every object with
spec content within the value ranges; `registration_content_defined` shows that the ONLY obstacles for a constructed
registration are the two structural ones, each with a counterexample to the full statement: a `dns_name=None` is written
as `null`, a set `id` is appended as a tenth item (both recorded observations: content outside the reference model).
A third one — `relays=None`, the dataclass DEFAULT, written as `null` — was repaired in /repo (daec0e4: `__post_init__`
makes it `[]`): `registration_default_relays_conforms` states that the object constructed with the default conforms. -/

namespace Pyc.C02.Pool
open Pyc.Cbor Pyc.Pool

/-! ## the specification against itself -/

/-- what the spec encoder writes for content within the sizes and ranges of the CDDL, the spec recogniser accepts -/
theorem spec_relay_recognised (r : Spec.Pool.Relay) (h : Spec.Pool.relayOk r = true) :
    Spec.Pool.isRelay (Spec.Pool.encRelay r) = true := isRelay_enc r h

theorem spec_registration_recognised (c : Spec.Pool.PoolParams) (h : Spec.Pool.paramsOk c = true) :
    Spec.Pool.isPoolRegistration (Spec.Pool.encPoolRegistration c) = true := isPoolRegistration_enc c h

theorem spec_retirement_recognised (kh : Bytes) (epoch : Nat) (hk : kh.length = 28) (he : epoch < 2^64) :
    Spec.Pool.isPoolRetirement (Spec.Pool.encPoolRetirement kh epoch) = true := by
  simp [Spec.Pool.isPoolRetirement, Spec.Pool.encPoolRetirement, Spec.Pool.isBytesOf, Spec.Pool.isUint, hk]
  omega

/-! ## relays -/

/-- **`toItem r = spec (content r)`** for every relay with spec content and a port within `uint .le 65535`, a DNS name
within 128 bytes; the content has the sizes the CDDL fixes (4 / 16 address bytes), and the item is a `relay` -/
theorem relay_conforms (r : Relay) (c : Spec.Pool.Relay) (ha : absRelay r = some c) (hr : Spec.Pool.relayRanges c = true) :
    encRelay r = some (Spec.Pool.encRelay c) ∧ Spec.Pool.relayOk c = true ∧ Spec.Pool.isRelay (Spec.Pool.encRelay c) = true := by
  have hok : Spec.Pool.relayOk c = true := by simp [Spec.Pool.relayOk, absRelay_sizes r c ha, hr]
  exact ⟨encRelay_abs r c ha hr, hok, isRelay_enc c hok⟩

/-- `SingleHostAddr(port, ipv4=<4 bytes>, ipv6=<16 bytes>)` is written as `[0, port, ipv4, ipv6]` with exactly those bytes -/
theorem relay_from_bytes_conforms (port : Nat) (hp : port ≤ 65535) (b4 b6 : Bytes) (h4 : b4.length = 4) (h6 : b6.length = 16) :
    ∃ r, mkAddr (.int port) (.bytes b4) (.bytes b6) = some r ∧
      encRelay r = some (Spec.Pool.encRelay (.singleHostAddr (some port) (some b4) (some b6))) := by
  obtain ⟨r, pi, h1, _, h3, h4'⟩ := mkAddr_bytes (.int port) rfl b4 b6 h4 h6
  refine ⟨r, h1, ?_⟩
  have : pi = .uint port := by
    simp only [itemPort, Option.some.injEq] at h3
    rw [← h3, ofInt_uint (port : Int) (by omega) (by simp; omega)]
    simp
  rw [h4', this]
  rfl

/-! ## the registration certificate -/

/-- **`toItem x = spec x`**: for every registration that holds its class invariants (`paramsOkW`), has spec content `c`
and is within the value ranges of the CDDL, the flattened array is exactly `[3, operator, vrf_keyhash, pledge, cost,
#6.30([n, d]), reward_account, set<addr_keyhash>, [* relay], pool_metadata / null]` of that content — the owner set
tagged iff it is an `OrderedSet` with the tag — the content has the fixed sizes, and the item is a `pool_registration` -/
theorem registration_conforms_partial (p : PoolParams) (c : Spec.Pool.PoolParams) (hw : paramsOkW p = true)
    (ha : absParams p = some c) (hr : Spec.Pool.rangesOk c = true) :
    Spec.Pool.paramsOk c = true ∧ encRegistration p = some (Spec.Pool.encPoolRegistration c) ∧
      Spec.Pool.isPoolRegistration (Spec.Pool.encPoolRegistration c) = true := by
  have hok : Spec.Pool.paramsOk c = true := by simp [Spec.Pool.paramsOk, absParams_sizes p c hw ha, hr]
  refine ⟨hok, ?_, isPoolRegistration_enc c hok⟩
  simp [encRegistration, itemsParams_abs p c ha hr, Spec.Pool.encPoolRegistration]

/-- which objects that is: every constructed, well-typed registration (`paramsOk`) within the value ranges whose relays of
the name kinds have a name, and whose `id` is unset -/
theorem registration_content_defined (p : PoolParams) (hok : paramsOk p = true) (hv : valuesIn p = true)
    (hs : structIn p = true) : ∃ c, absParams p = some c ∧ Spec.Pool.rangesOk c = true :=
  absParams_defined p hok hv hs

/-- the full statement: every well-formed registration within the value ranges is written as a `pool_registration` -/
def registration_conforms_goal : Prop :=
  ∀ p, paramsOk p = true → valuesIn p = true → ∃ i, encRegistration p = some i ∧ Spec.Pool.isPoolRegistration i = true

def h28 (x : Nat) : Bytes := List.replicate 28 (UInt8.ofNat x)
def asc (s : String) : Bytes := s.toList.map fun c => UInt8.ofNat c.toNat

/-- `PoolParams(operator, vrf_keyhash, pledge, cost, margin, reward_account, pool_owners)`: `relays` left at its default —
the constructed object (`__post_init__`) -/
def exDefaultRelays : PoolParams :=
  postInit ⟨h28 1, List.replicate 32 2, 100, 200, ⟨1, 2⟩, 0xe1 :: h28 3, .list [h28 4], Option.none, Option.none, Option.none⟩

/-- a `SingleHostName` without a name -/
def exNoDns : PoolParams := { exDefaultRelays with relays := some [.name (.int 3001) .none] }

/-- the pool id (text of the key hash `01…01`) set -/
def exWithId : PoolParams :=
  { exDefaultRelays with relays := some [], id := some (asc "pool1qyqszqgpqyqszqgpqyqszqgpqyqszqgpqyqszqgpqyqszp9s8mq") }

private theorem not_goal_of (p : PoolParams) (h1 : paramsOk p = true) (h2 : valuesIn p = true)
    (h3 : (match encRegistration p with | some i => Spec.Pool.isPoolRegistration i | Option.none => false) = false) :
    ¬ registration_conforms_goal := by
  intro hg
  obtain ⟨i, hi, hc⟩ := hg p h1 h2
  simp [hi, hc] at h3

/-- **the constructor call with `relays` omitted or `None` conforms**: for all parameters holding `None` for the relays and no
`id`, the constructed object (`postInit`), if well typed and within the value ranges, has spec content, is written as
`[3, …, [], metadata / null]` of that content, and the item is a `pool_registration` (before daec0e4 `null` was
written in the relays position) -/
theorem registration_default_relays_conforms (p : PoolParams) (hn : p.relays = Option.none) (hid : p.id = Option.none)
    (hok : paramsOk (postInit p) = true) (hv : valuesIn (postInit p) = true) :
    ∃ c, absParams (postInit p) = some c ∧ Spec.Pool.paramsOk c = true ∧
      encRegistration (postInit p) = some (Spec.Pool.encPoolRegistration c) ∧
      Spec.Pool.isPoolRegistration (Spec.Pool.encPoolRegistration c) = true := by
  have hs : structIn (postInit p) = true := by simp [structIn, postInit, hn, hid]
  obtain ⟨c, hc, hr⟩ := absParams_defined (postInit p) hok hv hs
  have hw : paramsOkW (postInit p) = true := by
    simp only [paramsOk, Bool.and_eq_true] at hok
    exact hok.1
  exact ⟨c, hc, registration_conforms_partial (postInit p) c hw hc hr⟩

example : paramsOk exDefaultRelays = true ∧ valuesIn exDefaultRelays = true ∧
    (match encRegistration exDefaultRelays with | some i => Spec.Pool.isPoolRegistration i | Option.none => false) = true := by
  decide +kernel

-- `registration_conforms_goal` is FALSE, two ways (recorded observations: the Python annotations allow what the CDDL has no
-- rule for).

/-- (1) `dns_name=None` (allowed by `Optional[str]`) is written as `null` where the CDDL requires a text -/
theorem registration_conforms_counterexample_dns : ¬ registration_conforms_goal :=
  not_goal_of exNoDns (by decide +kernel) (by decide +kernel) (by decide +kernel)

/-- (2) a set `PoolParams.id` is appended to the certificate as a tenth item; the group `pool_params` has nine -/
theorem registration_conforms_counterexample_id : ¬ registration_conforms_goal :=
  not_goal_of exWithId (by decide +kernel) (by decide +kernel) (by decide +kernel)

-- the bytes of the default-relays object end in `80 f6`: relays `[]`, metadata `null`
example : ((encRegistration exDefaultRelays).map fun i => (encode i).drop ((encode i).length - 2)) = some [0x80, 0xf6] := by
  decide +kernel
-- the tenth item of the `id` witness
example : (match encRegistration exWithId with | some (.array xs) => xs.length == 11 | _ => false) = true := by decide +kernel

/-! ## the retirement certificate -/

/-- `(4, pool_keyhash, epoch)` for every retirement with an epoch in `uint` -/
theorem retirement_conforms (r : Retirement) (h : retirementOk r = true) (h0 : 0 ≤ r.epoch) (h1 : r.epoch.toNat < 2^64) :
    itemRetirement r = Spec.Pool.encPoolRetirement r.poolKeyHash r.epoch.toNat ∧
      Spec.Pool.isPoolRetirement (itemRetirement r) = true := by
  have e : itemRetirement r = Spec.Pool.encPoolRetirement r.poolKeyHash r.epoch.toNat := by
    simp [itemRetirement, Spec.Pool.encPoolRetirement, ofInt_uint r.epoch h0 h1]
  refine ⟨e, ?_⟩
  rw [e]
  exact spec_retirement_recognised _ _ (by simpa [retirementOk] using h) h1

/-! ## non-vacuity -/

def exRelays : List Relay :=
  [.addr (.int 3001) (some (asc "192.168.0.1")) (some (asc "2001:db8::ff00:42:8329")),
   .addr .none Option.none (some (asc "::ffff:1.2.3.4")),
   .name (.int 65535) (.text (asc "relay.example.com")),
   .multi (.text (asc "pool.example"))]

def exParams : PoolParams :=
  ⟨h28 1, List.replicate 32 2, 500000000, 340000000, ⟨3, 100⟩, 0xe1 :: h28 3, .oset true [h28 4, h28 5],
    some exRelays, some ⟨asc "https://pool.example/m.json", List.replicate 32 7⟩, Option.none⟩

theorem exParams_in : paramsOk exParams = true ∧ valuesIn exParams = true ∧ structIn exParams = true := by decide +kernel

-- the hypotheses of `registration_conforms_partial` are met, and the kernel evaluates both sides and the recogniser
example : (match absParams exParams with
    | some c => Spec.Pool.rangesOk c && Spec.Pool.paramsOk c &&
        ((encRegistration exParams).map encode == some (encode (Spec.Pool.encPoolRegistration c))) &&
        Spec.Pool.isPoolRegistration (Spec.Pool.encPoolRegistration c) &&
        (c.relays.head? == some (.singleHostAddr (some 3001) (some [192, 168, 0, 1])
          (some [0x20, 0x01, 0x0d, 0xb8, 0, 0, 0, 0, 0, 0, 0xff, 0, 0, 0x42, 0x83, 0x29])))
    | Option.none => false) = true := by decide +kernel

-- the recogniser is not trivially true: a relay code 3, an IPv4 of 3 bytes, a port 65536, a `SingleHostName` with `null`
-- for the name, an untagged rational are refused
example : Spec.Pool.isRelay (.array [.uint 3, .text [97]]) = false ∧
    Spec.Pool.isRelay (.array [.uint 0, .uint 1, .bytes [1, 2, 3], .simple 22]) = false ∧
    Spec.Pool.isRelay (.array [.uint 0, .uint 65536, .simple 22, .simple 22]) = false ∧
    Spec.Pool.isRelay (.array [.uint 1, .simple 22, .simple 22]) = false ∧
    Spec.Pool.isUnitInterval (.array [.uint 1, .uint 2]) = false := by decide

end Pyc.C02.Pool

#print axioms Pyc.C02.Pool.spec_relay_recognised
#print axioms Pyc.C02.Pool.spec_registration_recognised
#print axioms Pyc.C02.Pool.spec_retirement_recognised
#print axioms Pyc.C02.Pool.relay_conforms
#print axioms Pyc.C02.Pool.relay_from_bytes_conforms
#print axioms Pyc.C02.Pool.registration_conforms_partial
#print axioms Pyc.C02.Pool.registration_content_defined
#print axioms Pyc.C02.Pool.registration_default_relays_conforms
#print axioms Pyc.C02.Pool.registration_conforms_counterexample_dns
#print axioms Pyc.C02.Pool.registration_conforms_counterexample_id
#print axioms Pyc.C02.Pool.retirement_conforms
#print axioms Pyc.C02.Pool.exParams_in
