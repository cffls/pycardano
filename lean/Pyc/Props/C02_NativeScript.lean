import Pyc.Proofs.NativeScript

/-! # C02 (extension) — native scripts are written as the Conway CDDL rule `native_script` prescribes

Specification: `Pyc/Spec/NativeScript.lean` (`specNS`: the item the CDDL prescribes for a script, `matchNS`: a recogniser
of the rule on items, `inRangeB`: the ranges `hash28` / `int64` / `uint .size 8`), written from the CDDL without the
model's serializer; byte form: `Pyc.Spec.Ids.nativeBytes` (heads written out with `Cbor.head`, the shortest form, every
array with a definite length).  Model: `Pyc.Ids.NScript.item` (= `NativeScript.toItem`) and
`Pyc/Model/NativeScript.lean`, tied to /repo by `harness/checks/c02_ext_nativescript.py`.

The constructors of the library do not check the CDDL ranges (`InvalidBefore(-1)`, `ScriptNofK(2**63, [])` are built and
serialized), so conformance is stated for scripts within the ranges (`ns_cddl_item`), and the unrestricted statement is
refuted by a witness (`ns_cddl_all_counterexample`). -/

namespace Pyc.C02.NativeScript
open Pyc.Cbor Pyc.Ids Pyc.NativeScript Pyc.Spec.NativeScript

/-- **conformance, item level**: for every script within the CDDL ranges the primitive the code writes IS the item the
CDDL prescribes — type codes 0-5, the field order `[3, n, scripts]`, definite arrays, `n` / slots as plain integers -/
theorem ns_cddl_item (s : NScript) (h : inRangeB s = true) : toItem s = specNS s := toItem_spec s h

/-- **conformance, byte level**: the bytes are the CDDL bytes written out head by head (`Cbor.head` is the shortest
form; every array head carries its length, no break byte) -/
theorem ns_cddl_bytes (s : NScript) (h : inRangeB s = true) : toBytes s = Spec.Ids.nativeBytes s :=
  native_cbor_spec s (validNative_of_inRange s h)

/-- the prescribed item is recognised as a `native_script` by the recogniser written from the rule -/
theorem ns_cddl_recognised (s : NScript) (h : inRangeB s = true) (f : Nat) (hf : depth s ≤ f) :
    matchNS f (toItem s) = true := by
  rw [toItem_spec s h]; exact matchNS_spec s h f hf

/-- **definite lengths**, for EVERY script (no range hypothesis): no indefinite-length array or byte string occurs in
the primitive, at any depth -/
theorem ns_definite (s : NScript) : definiteB (toItem s) = true := toItem_definite s

/-- **the decoder accepts what the CDDL admits, and writes it back unchanged**: every item the recogniser admits is
decoded to a script whose primitive is that very item (so its bytes and its hash are those received) -/
theorem ns_cddl_accepted_reencode (f : Nat) (i : Item) (h : matchNS f i = true) :
    ∃ s, fromItem f i = .ok s ∧ toItem s = i := matchNS_accepts f i h

/-- "every script the constructors build is written in the CDDL form" is FALSE of the code: the int fields are not
range-checked.  Goal kept; `ns_cddl_item` / `ns_cddl_recognised` are the partial results under `inRangeB`. -/
def ns_cddl_all_goal : Prop := ∀ s : NScript, wfB s = true → matchNS (depth s) (toItem s) = true

theorem ns_cddl_all_counterexample : ¬ ns_cddl_all_goal := by
  intro h
  have := h (.before (-1)) rfl
  revert this
  decide

/-! ## non-vacuity -/

def kh1 : Bytes := List.replicate 28 0xab
def exInRange : NScript :=
  .any [.pubkey kh1, .nofk (-3) [.pubkey kh1, .all [], .before 24], .hereafter 18446744073709551615, .nofk 9223372036854775807 []]

example : inRangeB exInRange = true := by decide +kernel
example : toItem exInRange = specNS exInRange := ns_cddl_item exInRange (by decide +kernel)
example : matchNS 3 (toItem exInRange) = true := ns_cddl_recognised exInRange (by decide +kernel) 3 (by decide +kernel)
-- the recogniser is not trivially true: a swapped code / field order, a 27-byte hash, an int64 overflow are refused
example : matchNS 3 (.array [.uint 3, .array [], .uint 1]) = false := by decide +kernel
example : matchNS 3 (.array [.uint 0, .bytes (List.replicate 27 0)]) = false := by decide +kernel
example : matchNS 3 (.array [.uint 3, .uint 9223372036854775808, .array []]) = false := by decide +kernel
example : matchNS 3 (.array [.uint 6, .uint 0]) = false := by decide +kernel
example : matchNS 3 (.array [.uint 1, .arrayIndef []]) = false := by decide +kernel
-- the first bytes of a 2-of-k script: array(3), 3, 2, array(1), ...
example : (toBytes (.nofk 2 [.before 24])).take 6 = [0x83, 0x03, 0x02, 0x81, 0x82, 0x04] := by decide +kernel

end Pyc.C02.NativeScript

#print axioms Pyc.C02.NativeScript.ns_cddl_item
#print axioms Pyc.C02.NativeScript.ns_cddl_bytes
#print axioms Pyc.C02.NativeScript.ns_cddl_recognised
#print axioms Pyc.C02.NativeScript.ns_definite
#print axioms Pyc.C02.NativeScript.ns_cddl_accepted_reencode
#print axioms Pyc.C02.NativeScript.ns_cddl_all_counterexample
