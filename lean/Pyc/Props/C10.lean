import Mathlib.Data.ZMod.Basic
import Pyc.Proofs.SigScheme
import Pyc.Proofs.SizeDomWits

/-! # C10 — witnesses authorise exactly this transaction

Model: `Pyc/Model/Witness.lean` (required key-hash collection, `_witness_count`, `_build_fake_vkey_witnesses`, the
signing loop of `build_and_sign`, `VerificationKeyWitness.__post_init__`), `Pyc/Proofs/SigScheme.lean` (RFC 8032 and
BIP32-Ed25519 signing over an abstract group).  Not proved: that edwards25519 / SHA-512 / BLAKE2b instantiate the
group, `Hs`, `H28`, `H32` (trusted; checked differentially against an independent RFC 8032 verifier). -/

namespace Pyc.C10
open Pyc.Witness Pyc.Sig

/-! ## signatures -/

/-- standard Ed25519 signing satisfies the verification equation `[S]B = R + [h]A`, every key, every message -/
theorem std_sign_correct {G : Type} [AddCommGroup G] (B : G) (L : ℕ) (Hs : Bytes → ℕ) (enc : G → Bytes)
    (hL : L • B = 0) (sk : Expanded) (m : Bytes) :
    VerifyEq B Hs enc (commit B Hs sk m) (pubPoint B sk) (stdS B L Hs enc sk m) m :=
  Sig.std_sign_correct B L Hs enc hL sk m

/-- BIP32-Ed25519 extended signing as bip32.py computes it (`r = H(kR‖m) mod L`, `S = (h·kL + r) mod L`)
satisfies the same equation under `A = [kL]B` -/
theorem ext_sign_correct {G : Type} [AddCommGroup G] (B : G) (L : ℕ) (Hs : Bytes → ℕ) (enc : G → Bytes)
    (hL : L • B = 0) (sk : Expanded) (m : Bytes) :
    VerifyEq B Hs enc (commit B Hs sk m) (pubPoint B sk) (extS B L Hs enc sk m) m :=
  Sig.ext_sign_correct B L Hs enc hL sk m

/-! ## required key hashes -/

/-- membership characterisation of `_build_required_vkeys`: exactly the payment key hashes of inputs and
collateral, the required signers, the pubkey leaves — at any depth, n-of-k included — of every native script the
builder holds (`native_scripts`, scripts bound to inputs incl. reference scripts, minting / withdrawal /
certificate scripts), the key credential of every certificate (pool operator / retiring pool unconditionally) and
the owners of pool registrations, the key reward accounts withdrawn from, and the key voters -/
theorem required_vkeys_spec (st : State) (h : Bytes) :
    h ∈ requiredVkeys st ↔
      ((⟨true, h⟩ : Cred) ∈ st.inputs ∨ (⟨true, h⟩ : Cred) ∈ st.collaterals
      ∨ h ∈ st.requiredSigners
      ∨ (∃ s, (s ∈ st.nativeScripts ∨ s ∈ st.inputScripts ∨ s ∈ st.mintScripts ∨ s ∈ st.withdrawalScripts
              ∨ s ∈ st.certScripts) ∧ HasKey h s)
      ∨ (∃ c, c ∈ st.certificates ∧
            ((h = c.cred.hash ∧ (c.cred.isKey = true ∨ c.kind = .poolReg ∨ c.kind = .poolRetire))
              ∨ (c.kind = .poolReg ∧ h ∈ c.owners)))
      ∨ (∃ hd, hd :: h ∈ st.withdrawals ∧ hd.toNat / 16 = 14)
      ∨ (⟨true, h⟩ : Cred) ∈ st.voters) := by
  unfold requiredVkeys
  rw [mem_dedup]
  simp only [List.mem_append, inputVkeys, nativeVkeys, certificateVkeys, withdrawalVkeys, voteVkeys, mem_keyCreds,
    mem_keysList_iff, List.mem_flatMap, mem_certVkeys, mem_rewardKeyHash, mem_allNativeScripts]
  constructor
  · rintro (((((h1 | h1) | h1) | h1) | h1) | h1)
    · exact h1.elim Or.inl (fun x => Or.inr (Or.inl x))
    · exact Or.inr (Or.inr (Or.inl h1))
    · exact Or.inr (Or.inr (Or.inr (Or.inl h1)))
    · exact Or.inr (Or.inr (Or.inr (Or.inr (Or.inl h1))))
    · obtain ⟨b, hb, hd, rfl, h14⟩ := h1
      exact Or.inr (Or.inr (Or.inr (Or.inr (Or.inr (Or.inl ⟨hd, hb, h14⟩)))))
    · exact Or.inr (Or.inr (Or.inr (Or.inr (Or.inr (Or.inr h1)))))
  · rintro (h1 | h1 | h1 | h1 | h1 | h1 | h1)
    · exact Or.inl (Or.inl (Or.inl (Or.inl (Or.inl (Or.inl h1)))))
    · exact Or.inl (Or.inl (Or.inl (Or.inl (Or.inl (Or.inr h1)))))
    · exact Or.inl (Or.inl (Or.inl (Or.inl (Or.inr h1))))
    · exact Or.inl (Or.inl (Or.inl (Or.inr h1)))
    · exact Or.inl (Or.inl (Or.inr h1))
    · obtain ⟨hd, hb, h14⟩ := h1
      exact Or.inl (Or.inr ⟨_, hb, hd, rfl, h14⟩)
    · exact Or.inr h1

/-- the required key hashes are a set: no duplicates, whatever overlaps the sources have -/
theorem required_nodup (st : State) : (requiredVkeys st).Nodup := nodup_dedup _

/-- every `ScriptPubkey` leaf of a native script the builder holds — in `native_scripts` or attached to an input,
a mint, a withdrawal or a certificate — at any nesting depth and below any combinator (`all`, `any`, n-of-k), is a
required key hash (induction over the script tree) -/
theorem native_keys_complete (st : State) (s : NScript) (hs : s ∈ allNativeScripts st) (h : Bytes)
    (hk : HasKey h s) : h ∈ requiredVkeys st :=
  (required_vkeys_spec st h).2
    (Or.inr (Or.inr (Or.inr (Or.inl ⟨s, (mem_allNativeScripts s st).1 hs, hk⟩))))

/-- … and nothing else is collected from a script -/
theorem native_keys_exact (s : NScript) (h : Bytes) : h ∈ s.keys ↔ HasKey h s := mem_keys_iff h s

/-- GOAL as the pinned tree implemented `_dfs` (`ScriptAll`, `ScriptAny` only) -/
def native_keys_pinned_goal : Prop := ∀ (s : NScript) (h : Bytes), HasKey h s → h ∈ s.keysPinned

/-- the pinned `_dfs` loses the keys below an n-of-k script (repaired in /repo by `fix:` commit 27bcd91;
`NScript.keys` models the repaired code) -/
theorem native_keys_pinned_counterexample : ¬ native_keys_pinned_goal := by
  intro h
  have := h (.nofk 1 [.pubkey [1], .pubkey [2]]) [1] (.nofk (s := .pubkey [1]) (by simp) .pubkey)
  simp [NScript.keysPinned] at this

/-- GOAL as the pinned tree collected native-script keys: from `self.native_scripts` only -/
def attached_native_pinned_goal : Prop :=
  ∀ (st : State) (s : NScript), s ∈ allNativeScripts st → ∀ h, HasKey h s → h ∈ nativeVkeysPinned st

/-- the pinned collection loses the keys of a native script attached to an input (repaired in /repo by `fix:`
commit 31135c8; `nativeVkeys` models the repaired code) -/
theorem attached_native_pinned_counterexample : ¬ attached_native_pinned_goal := by
  intro h
  have := h ⟨[], [], [], [], [.pubkey [1]], [], [], [], [], [], [], none⟩ (.pubkey [1])
    (by simp [allNativeScripts]) [1] .pubkey
  simp [nativeVkeysPinned, NScript.keysList] at this

/-- property text, "certificate … credentials", at full strength: the key credential of every certificate — all
17 kinds of pycardano/certificate.py — and every owner of a pool registration is a required key hash -/
theorem cert_coverage (st : State) (c : Cert) (hc : c ∈ st.certificates) (h : Bytes) (hm : h ∈ certVkeysFull c) :
    h ∈ requiredVkeys st := by
  have := (mem_certVkeys h c).1 (certVkeysFull_subset h c hm)
  exact (required_vkeys_spec st h).2 (Or.inr (Or.inr (Or.inr (Or.inr (Or.inl ⟨c, hc, this⟩)))))

/-- … and a certificate contributes nothing beyond that, except that the operator of a pool registration and the
hash of a retiring pool are taken as they are (they are key hashes by type) -/
theorem cert_exact (c : Cert) (h : Bytes) (hm : h ∈ certVkeys c) :
    h ∈ certVkeysFull c ∨ (h = c.cred.hash ∧ (c.kind = .poolReg ∨ c.kind = .poolRetire)) := by
  rcases (mem_certVkeys h c).1 hm with ⟨he, hk | hk | hk⟩ | ⟨hp, ho⟩
  · left; simp [certVkeysFull, credKey, hk, he]
  · exact Or.inr ⟨he, Or.inl hk⟩
  · exact Or.inr ⟨he, Or.inr hk⟩
  · left; simp [certVkeysFull, hp, ho]

/-- GOAL as the pinned tree collected certificate credentials -/
def cert_coverage_pinned_goal : Prop :=
  ∀ (c : Cert) (h : Bytes), h ∈ certVkeysFull c → h ∈ certVkeysPinned c

/-- the pinned loop misses DRep deregistration (also: DRep update, committee hot-key authorisation and cold-key
resignation, pool owners other than the operator) — repaired in /repo by `fix:` commit e281a78; `certVkeys`
models the repaired code -/
theorem cert_coverage_pinned_counterexample : ¬ cert_coverage_pinned_goal := by
  intro h
  have := h ⟨.unregDRep, ⟨true, [7]⟩, []⟩ [7] (by simp [certVkeysFull, credKey])
  revert this; decide

/-! ## the signing loop -/

section loop
variable {κ : Type} [DecidableEq κ] (ops : KeyOps κ) (H28 H32 : Bytes → Bytes)

/-- every supplied key whose hash is required yields a witness carrying its 32-byte key and its signature of the
transaction id -/
theorem witnesses_cover (st : State) (force : Bool) (body : Bytes) (keys : List κ) (k : κ) (hk : k ∈ keys)
    (hreq : keyHash ops H28 k ∈ requiredVkeys st) :
    (⟨vkey32 ops k, ops.sign k (H32 body)⟩ : Witness) ∈ buildAndSign ops H28 H32 st force body keys := by
  unfold buildAndSign
  rw [mem_signLoop]
  exact ⟨k, hk, by simp [signs, hreq], rfl⟩

/-- without `force_skeys`, every witness comes from a supplied key whose hash is required: keys the transaction
does not need are left out -/
theorem witnesses_minimal (st : State) (body : Bytes) (keys : List κ) (w : Witness)
    (hw : w ∈ buildAndSign ops H28 H32 st false body keys) :
    ∃ k, k ∈ keys ∧ w.vkey = vkey32 ops k ∧ H28 w.vkey ∈ requiredVkeys st := by
  unfold buildAndSign at hw
  rw [mem_signLoop] at hw
  obtain ⟨k, hk, hs, rfl⟩ := hw
  refine ⟨k, hk, rfl, ?_⟩
  simpa [signs, keyHash] using hs

/-- with `force_skeys`, every supplied key signs -/
theorem witnesses_forced (st : State) (body : Bytes) (keys : List κ) (k : κ) (hk : k ∈ keys) :
    (⟨vkey32 ops k, ops.sign k (H32 body)⟩ : Witness) ∈ buildAndSign ops H28 H32 st true body keys := by
  unfold buildAndSign
  rw [mem_signLoop]
  exact ⟨k, hk, by simp [signs], rfl⟩

/-- the witness set depends on the *set* of supplied keys only (order, duplicates irrelevant): `set(signing_keys)` -/
theorem witnesses_order_free (st : State) (force : Bool) (body : Bytes) (keys keys' : List κ)
    (hset : ∀ k, k ∈ keys ↔ k ∈ keys') (w : Witness) :
    w ∈ buildAndSign ops H28 H32 st force body keys ↔ w ∈ buildAndSign ops H28 H32 st force body keys' := by
  unfold buildAndSign
  rw [mem_signLoop, mem_signLoop]
  constructor <;> rintro ⟨k, hk, h⟩
  · exact ⟨k, (hset k).1 hk, h⟩
  · exact ⟨k, (hset k).2 hk, h⟩

omit [DecidableEq κ] in
/-- the witness key is 32 bytes for an ordinary (32-byte) and for an extended (64-byte: key ‖ chain code)
verification key alike -/
theorem vkey_trim (k : κ)
    (hwf : (ops.ext k = false ∧ (ops.vk k).length = 32) ∨ (ops.ext k = true ∧ (ops.vk k).length = 64)) :
    (vkey32 ops k).length = 32 ∧ (ops.ext k = true → vkey32 ops k = (ops.vk k).take 32) := by
  unfold vkey32
  rcases hwf with ⟨h1, h2⟩ | ⟨h1, h2⟩ <;> simp [h1, h2]

/-- under a correct signature scheme whose keys are the supplied ones (witness key = public key, `sign` = the
scheme's signing), every produced witness verifies against `H32 (body bytes)` — the transaction id — and carries a
32-byte key -/
theorem witnesses_valid (S : SigScheme) (sec : κ → S.SK) (hpk : ∀ k, vkey32 ops k = S.pk (sec k))
    (hsig : ∀ k m, ops.sign k m = S.sign (sec k) m)
    (hwf : ∀ k, (ops.ext k = false ∧ (ops.vk k).length = 32) ∨ (ops.ext k = true ∧ (ops.vk k).length = 64))
    (st : State) (force : Bool) (body : Bytes) (keys : List κ) (w : Witness)
    (hw : w ∈ buildAndSign ops H28 H32 st force body keys) :
    S.verify w.vkey (H32 body) w.sig ∧ w.vkey.length = 32 := by
  unfold buildAndSign at hw
  rw [mem_signLoop] at hw
  obtain ⟨k, _, _, rfl⟩ := hw
  refine ⟨?_, (vkey_trim ops k (hwf k)).1⟩
  simp only [hpk, hsig]
  exact S.correct _ _

end loop

/-- key objects over the abstract group: `inl` an ordinary key, `inr` an extended key with its chain code -/
abbrev GKey := Expanded ⊕ (Expanded × Bytes)

instance : DecidableEq Expanded := fun a b => by
  cases a; cases b; simp only [Expanded.mk.injEq]; exact inferInstance

/-- `to_verification_key()` / `sign` of pycardano's two key classes over the abstract group -/
def groupOps {G : Type} [AddCommGroup G] (B : G) (L : ℕ) (Hs : Bytes → ℕ) (enc : G → Bytes) (encS : ℕ → Bytes) :
    KeyOps GKey where
  ext k := k.isRight
  vk k := match k with
    | .inl s => enc (pubPoint B s)
    | .inr (s, cc) => enc (pubPoint B s) ++ cc
  sign k m := match k with
    | .inl s => enc (commit B Hs s m) ++ encS (stdS B L Hs enc s m)
    | .inr (s, _) => enc (extCommit B L Hs s m) ++ encS (extS B L Hs enc s m)

/-- `witnesses_valid` instantiated: for ordinary and extended keys over any group with `L • B = 0` and 32-byte
point encodings, every witness `build_and_sign` produces passes RFC 8032 verification of the transaction id -/
theorem witnesses_valid_ed25519 {G : Type} [AddCommGroup G] (B : G) (L : ℕ) (Hs : Bytes → ℕ) (enc : G → Bytes)
    (encS : ℕ → Bytes) (hL : L • B = 0) (henc : ∀ P, (enc P).length = 32) (H28 H32 : Bytes → Bytes)
    (st : State) (force : Bool) (body : Bytes) (keys : List GKey)
    (w : Witness) (hw : w ∈ buildAndSign (groupOps B L Hs enc encS) H28 H32 st force body keys) :
    verifyBytes B Hs enc encS w.vkey (H32 body) w.sig ∧ w.vkey.length = 32 := by
  unfold buildAndSign at hw
  rw [mem_signLoop] at hw
  obtain ⟨k, _, _, rfl⟩ := hw
  cases k with
  | inl s =>
    refine ⟨?_, by simp [vkey32, groupOps, henc]⟩
    simp only [vkey32, groupOps, Sum.isRight_inl, Bool.false_eq_true, if_false]
    exact (stdScheme B L Hs enc encS hL).correct s (H32 body)
  | inr p =>
    obtain ⟨s, cc⟩ := p
    have ht : (enc (pubPoint B s) ++ cc).take 32 = enc (pubPoint B s) := by
      rw [List.take_append_of_le_length (by simp [henc]), List.take_of_length_le (by simp [henc])]
    refine ⟨?_, by simp [vkey32, groupOps, ht, henc]⟩
    simp only [vkey32, groupOps, Sum.isRight_inr, if_true, ht]
    exact (extScheme B L Hs enc encS hL).correct s (H32 body)

/-! ## placeholder witnesses -/

/-- `witness_override or len(required)`: `None` and `0` both mean "count the required key hashes" -/
theorem witness_count_spec (st : State) :
    witnessCount st = (match st.witnessOverride with
      | some n => if n = 0 then (requiredVkeys st).length else n
      | none => (requiredVkeys st).length) := by
  unfold witnessCount
  cases st.witnessOverride with
  | none => rfl
  | some n => by_cases h : n = 0 <;> simp [h]

/-- placeholder witnesses (key, signature) are pairwise distinct for every index the code can run: `i.to_bytes(32, "big")`
exists exactly for `i < 2^256` (XOR with a constant and the big-endian rendering are one-to-one; since repair 504b48a —
the AND of the pinned tree made placeholder 256 equal placeholder 0) -/
theorem fake_witnesses_distinct (i j : Nat) (hi : i < 2 ^ 256) (hj : j < 2 ^ 256) (h : fakeWitness i = fakeWitness j) :
    i = j := fakeWitness_inj i j hi hj h

/-- the placeholder KEYS alone are pairwise distinct too (under the AND of the pinned tree indices 0 and 2 shared a key) -/
theorem fake_vkeys_distinct (i j : Nat) (hi : i < 2 ^ 256) (hj : j < 2 ^ 256)
    (h : (fakeWitness i).vkey = (fakeWitness j).vkey) : i = j := fakeVkey_inj i j hi hj h

/-- what the MODEL does at the bound, where Python raises `OverflowError`: the index wraps (nothing is claimed beyond) -/
theorem fake_witness_model_wraps : fakeWitness (2 ^ 256) = fakeWitness 0 := by decide +kernel

/-- **without an override the number of placeholder witnesses is the number of distinct required key hashes**, for
every state the code can run (full statement since repair 504b48a) -/
theorem placeholder_count (st : State) (ho : st.witnessOverride = none ∨ st.witnessOverride = some 0)
    (hn : (requiredVkeys st).length ≤ 2 ^ 256) :
    (fakeWitnesses st).length = (requiredVkeys st).length ∧ (requiredVkeys st).Nodup := by
  refine ⟨?_, required_nodup st⟩
  have hc : witnessCount st = (requiredVkeys st).length := by
    rcases ho with h | h <;> simp [witnessCount, h]
  unfold fakeWitnesses
  rw [hc]
  exact length_fakeWitnessesN _ hn

/-- with an override `n` there are exactly `n` placeholder witnesses -/
theorem placeholder_count_override (st : State) (n : Nat) (ho : st.witnessOverride = some n) (h0 : n ≠ 0)
    (hn : n ≤ 2 ^ 256) : (fakeWitnesses st).length = n := by
  have hc : witnessCount st = n := by simp [witnessCount, ho, h0]
  unfold fakeWitnesses
  rw [hc]
  exact length_fakeWitnessesN _ hn

/-- non-vacuity beyond 256, where the AND of the pinned tree wrapped: 300 placeholders are 300 -/
example : (fakeWitnessesN 300).length = 300 := length_fakeWitnessesN 300 (by decide)

/-! ## non-vacuity -/

/-- a group with a base point of order `L` exists (the hypotheses `hL` of the signature theorems are satisfiable
non-trivially): `ZMod 13`, `B = 1`, `L = 13` -/
example : (13 : ℕ) • (1 : ZMod 13) = 0 := by decide

/-- a state drawing required key hashes from every source (input, collateral, required signer, n-of-k script nested
in `all`, scripts attached to an input / a mint / a withdrawal / a certificate, certificates incl. DRep
deregistration, committee resignation and a pool registration with a second owner, key withdrawal, voter) with
overlaps; script credentials contribute nothing -/
example :
    requiredVkeys ⟨[⟨true, [1]⟩, ⟨false, [9]⟩], [⟨true, [2]⟩, ⟨true, [1]⟩], [[3], [1]],
      [.all [.nofk 1 [.pubkey [4], .any [.pubkey [5], .before 7]], .pubkey [3]]],
      [.nofk 2 [.pubkey [16], .pubkey [4]]], [.pubkey [17]], [.any [.pubkey [18]]], [.all [.pubkey [19], .after 3]],
      [⟨.stakeDeleg, ⟨true, [6]⟩, []⟩, ⟨.stakeDereg, ⟨false, [10]⟩, []⟩, ⟨.unregDRep, ⟨true, [11]⟩, []⟩,
       ⟨.resignCold, ⟨true, [20]⟩, []⟩, ⟨.authHot, ⟨false, [21]⟩, []⟩, ⟨.poolReg, ⟨true, [12]⟩, [[12], [13]]⟩],
      [[0xe0, 7], [0xf0, 14]], [⟨true, [8]⟩, ⟨false, [15]⟩], none⟩
      = [[2], [1], [5], [3], [16], [4], [17], [18], [19], [6], [11], [20], [12], [13], [7], [8]] := by decide +kernel

/-- the signing loop on a mixed key set: ordinary key required, extended key required (64-byte verification key
trimmed to its first 32 bytes), the ordinary key supplied twice, and an unrelated key; not forced -/
example :
    (signLoop slotOps (fun b => b.take 1) false [[1], [2]] [] [⟨false, List.replicate 32 1, 0⟩,
      ⟨true, List.replicate 32 2 ++ List.replicate 32 9, 1⟩, ⟨false, List.replicate 32 1, 0⟩,
      ⟨false, List.replicate 32 3, 2⟩]).map (·.vkey) = [List.replicate 32 2, List.replicate 32 1] := by decide +kernel

end Pyc.C10

#print axioms Pyc.C10.std_sign_correct
#print axioms Pyc.C10.ext_sign_correct
#print axioms Pyc.C10.required_vkeys_spec
#print axioms Pyc.C10.required_nodup
#print axioms Pyc.C10.native_keys_complete
#print axioms Pyc.C10.native_keys_exact
#print axioms Pyc.C10.native_keys_pinned_counterexample
#print axioms Pyc.C10.attached_native_pinned_counterexample
#print axioms Pyc.C10.cert_coverage
#print axioms Pyc.C10.cert_exact
#print axioms Pyc.C10.cert_coverage_pinned_counterexample
#print axioms Pyc.C10.witnesses_cover
#print axioms Pyc.C10.witnesses_minimal
#print axioms Pyc.C10.witnesses_forced
#print axioms Pyc.C10.witnesses_order_free
#print axioms Pyc.C10.vkey_trim
#print axioms Pyc.C10.witnesses_valid
#print axioms Pyc.C10.witnesses_valid_ed25519
#print axioms Pyc.C10.witness_count_spec
#print axioms Pyc.C10.fake_witnesses_distinct
#print axioms Pyc.C10.fake_vkeys_distinct
#print axioms Pyc.C10.fake_witness_model_wraps
#print axioms Pyc.C10.placeholder_count
#print axioms Pyc.C10.placeholder_count_override
