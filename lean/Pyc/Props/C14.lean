import Pyc.Proofs.CoinSel

/-! # C14 — coin selection returns a covering subset or fails explicitly

Model: `Pyc/Model/CoinSel.lean` (`lfSelect` = `LargestFirstSelector.select`, `riSelect` =
`RandomImproveMultiAsset.select` with the injected index stream as an argument).  Every theorem is for every
pool, every request, every limit, both flags, every chain context (`Env`: maximum fee, minimum-change function,
fake address) and — for the randomized strategy — every index stream.

Hypotheses (exactly those the proofs use):
* `Distinct pool` — the inputs of the pool are pairwise distinct (what a UTxO set is);
* `PoolWF pool` — every amount is a legal dict (unique keys: true of every Python dict);
* `OutsWF outputs` — the requested amounts are legal dicts;
* for the coverage of the randomized strategy only (`ri_covers`), `PoolOK pool` — `PoolWF` and no negative quantity in
  the pool.  `Value.__le__` is the component-wise order for all operands (`Pyc.C05.le_iff`, after the repair of
  KF-C05-le-negative), so every loop that ends on `requested <= selected_amount` ends covering, whatever the pool
  holds: largest-first needs no sign hypothesis at all (`lf_covers`; its top-up ends on `<=` against an ADA-only
  request, which also demands that the added inputs hold no net negative quantity).  Random-improve covers the
  single-asset requests one after the other and then improves without testing `<=` again, so an input taken later
  that carries a negative quantity of an asset covered earlier leaves that asset under-covered (witness below);
  the ledger admits no such entry.

The input limit (`lf_limit`, `ri_limit`) needs none of these hypotheses: it holds for every pool, request, flags, index
stream and every limit `l ≥ 0`, the inputs added by the min-change top-up included.  `max_input_count` is tested with
`is not None` everywhere (repair of KF-C14-limit), so `0` is a limit — "no input may be selected" — and the top-up is
handed the remaining budget `l - len(selected)`, where `0` means "no further input".

Pool immutability is not a theorem: the model is pure (`pool` is an argument, never returned or rebound), and the
implementation's working copies (`sorted(utxos)`, `list(utxos)`) are checked by byte snapshot in the harness. -/

namespace Pyc.C14
open Pyc.CoinSel

def Distinct (pool : List UTxO) : Prop := (pool.map UTxO.ref).Nodup
def PoolWF (pool : List UTxO) : Prop := ∀ u ∈ pool, Value.WF u.amount
def OutsWF (outputs : List Output) : Prop := ∀ o ∈ outputs, Value.WF o.amount

/-- requested ADA: the fee in force plus the outputs -/
def reqCoin (fee : Int) (outputs : List Output) : Int := fee + (outputs.map (fun o => o.amount.coin)).sum
/-- requested quantity of asset `(p, n)` -/
def reqQty (outputs : List Output) (p n : Bytes) : Int := (outputs.map (fun o => Value.qty o.amount p n)).sum
/-- ADA / quantity of asset `(p, n)` held by a list of UTxOs -/
def heldCoin (l : List UTxO) : Int := sumBy coinOf l
def heldQty (l : List UTxO) (p n : Bytes) : Int := sumBy (qtyOf p n) l

/-! ## LargestFirstSelector -/

/-- the selected inputs are pairwise distinct entries of the pool (a sub-multiset of it) -/
theorem lf_subset (env : Env) (pool : List UTxO) (outputs : List Output) (limit : Option Int)
    (includeFee respectMin : Bool) (sel : List UTxO) (change : Value)
    (hd : Distinct pool) (hp : PoolWF pool) (ho : OutsWF outputs)
    (h : lfSelect env pool outputs limit includeFee respectMin = .ok (sel, change)) :
    (sel.map UTxO.ref).Nodup ∧ (∀ u ∈ sel, u ∈ pool) ∧ ∃ rest, (sel ++ rest).Perm pool := by
  obtain ⟨_, _, g⟩ := lfSelect_ok hp hd ho h
  exact g.subset

/-- request (plus the maximum fee when asked) ≤ Σ selected, in ADA and in every asset — for every pool of legal
dicts, negative quantities included (`PoolWF`; the hypothesis was `PoolOK` while `<=` was key-directed) -/
theorem lf_covers (env : Env) (pool : List UTxO) (outputs : List Output) (limit : Option Int)
    (includeFee respectMin : Bool) (sel : List UTxO) (change : Value)
    (hd : Distinct pool) (hp : PoolWF pool) (ho : OutsWF outputs)
    (h : lfSelect env pool outputs limit includeFee respectMin = .ok (sel, change)) :
    ∃ fee, feeOf env includeFee = some fee ∧ reqCoin fee outputs ≤ heldCoin sel ∧
      ∀ p n, reqQty outputs p n ≤ heldQty sel p n := by
  obtain ⟨f, hf, g⟩ := lfSelect_ok hp hd ho h
  exact ⟨f, hf, g.coverCoin trivial, g.coverQty trivial⟩

/-- change = Σ selected − request, in ADA and in every asset -/
theorem lf_change (env : Env) (pool : List UTxO) (outputs : List Output) (limit : Option Int)
    (includeFee respectMin : Bool) (sel : List UTxO) (change : Value)
    (hd : Distinct pool) (hp : PoolWF pool) (ho : OutsWF outputs)
    (h : lfSelect env pool outputs limit includeFee respectMin = .ok (sel, change)) :
    ∃ fee, feeOf env includeFee = some fee ∧ change.coin = heldCoin sel - reqCoin fee outputs ∧
      ∀ p n, Value.qty change p n = heldQty sel p n - reqQty outputs p n := by
  obtain ⟨f, hf, g⟩ := lfSelect_ok hp hd ho h
  exact ⟨f, hf, g.changeCoin, g.changeQty⟩

/-- never more inputs than the stated limit: whenever a selection is returned and a limit `l ≥ 0` was given,
`len(selected) ≤ l` — the inputs added by the min-change top-up included (it is handed the remaining budget
`l - len(selected)`, and a remaining budget of 0 means "no further input") -/
theorem lf_limit (env : Env) (pool : List UTxO) (outputs : List Output) (l : Int)
    (includeFee respectMin : Bool) (sel : List UTxO) (change : Value) (hl : 0 ≤ l)
    (h : lfSelect env pool outputs (some l) includeFee respectMin = .ok (sel, change)) :
    (sel.length : Int) ≤ l :=
  le_of_overLimit (lfSelect_limit (overLimit_zero hl) h)

/-- `max_input_count=0` is a limit ("no input may be selected"), not "no limit": a returned selection is empty -/
theorem lf_limit_zero (env : Env) (pool : List UTxO) (outputs : List Output)
    (includeFee respectMin : Bool) (sel : List UTxO) (change : Value)
    (h : lfSelect env pool outputs (some 0) includeFee respectMin = .ok (sel, change)) : sel = [] := by
  have := lf_limit env pool outputs 0 includeFee respectMin sel change (by decide) h
  exact List.eq_nil_of_length_eq_zero (by omega)

/-! ### witnesses (the inputs on which the limit was exceeded before the repair, KF-C14-limit) -/

def wFee : FeeParams :=
  { a := ⟨44, 1⟩, b := ⟨155381, 1⟩, priceStep := ⟨721, 10000000⟩, priceMem := ⟨577, 10000⟩,
    maxTxSize := 16384, maxTxExSteps := 10000000000, maxTxExMem := 10000000 }
/-- mainnet-like context: 4310 lovelace per byte, a 57-byte address -/
def wEnv : Env := Env.real wFee 4310 (List.replicate 57 0)
def wUtxo (i : Nat) (v : Value) : UTxO := ⟨[UInt8.ofNat i], 0, { addr := [0x61], amount := v }⟩
def wOut (v : Value) : Output := { addr := [0x61], amount := v }
/-- 3 ADA and 2 ADA; 2.9 ADA requested: the first input covers, its change (0.1 ADA) is below the minimum -/
def wPool : List UTxO := [wUtxo 1 ⟨3000000, []⟩, wUtxo 2 ⟨2000000, []⟩]
/-- 3 ADA and twice 0.5 ADA: the change of 0.1 ADA needs both small entries to reach the minimum (978 370) -/
def wPool1 : List UTxO := [wUtxo 1 ⟨3000000, []⟩, wUtxo 2 ⟨500000, []⟩, wUtxo 3 ⟨500000, []⟩]

/-- `LargestFirstSelector().select(pool, [2.9 ADA], ctx, max_input_count=1, include_max_fee=False)`: the first phase
ends exactly at the limit, the top-up runs with the remaining budget 0 and refuses the second input
(`MaxInputCountExceededException`; 2 inputs were returned before the repair); with `max_input_count=2` the same
call returns the 2 inputs.  On `wPool1` the top-up needs two more inputs: refused for the limits 1 and 2 (3 inputs
were returned for the limit 1 before the repair), 3 inputs for the limit 3. -/
example :
    errOf (lfSelect wEnv wPool [wOut ⟨2900000, []⟩] (some 1) false true) = some .maxInputs ∧
    selLen (lfSelect wEnv wPool [wOut ⟨2900000, []⟩] (some 2) false true) = 2 ∧
    errOf (lfSelect wEnv wPool1 [wOut ⟨2900000, []⟩] (some 1) false true) = some .maxInputs ∧
    errOf (lfSelect wEnv wPool1 [wOut ⟨2900000, []⟩] (some 2) false true) = some .maxInputs ∧
    selLen (lfSelect wEnv wPool1 [wOut ⟨2900000, []⟩] (some 3) false true) = 3 := by decide +kernel

/-- `max_input_count=0`: an empty request is served with no input; a request that needs an input is refused
(`MaxInputCountExceededException`, or `InsufficientUTxOBalanceException` when the pool is empty: that test comes
first); an empty request whose (zero) change is below the minimum is refused by the top-up -/
example :
    selLen (lfSelect wEnv wPool [] (some 0) false false) = 0 ∧
    errOf (lfSelect wEnv wPool [] (some 0) false false) = none ∧
    errOf (lfSelect wEnv wPool [wOut ⟨1000000, []⟩] (some 0) false false) = some .maxInputs ∧
    errOf (lfSelect wEnv [] [wOut ⟨1000000, []⟩] (some 0) false false) = some .insufficient ∧
    errOf (lfSelect wEnv wPool [] (some 0) false true) = some .maxInputs := by decide +kernel

/-- when largest-first reports an insufficient balance, the pool does not cover the request (plus fee) — or, in
min-change mode, what the first phase left (`s.avail`) does not cover the ADA-only top-up request: the pool's ADA is
below request + the minimum change of the first-phase selection, or `s.avail` holds a net negative quantity of some
asset (the top-up ends on the component-wise `<=`).  For every pool of legal dicts and every request of legal dicts
(the non-negativity of the requested quantities, needed while `<=` was key-directed, is dropped). -/
theorem lf_insufficient_genuine_wf (env : Env) (pool : List UTxO) (outputs : List Output) (limit : Option Int)
    (includeFee respectMin : Bool) (hd : Distinct pool) (hw : PoolWF pool) (ho : OutsWF outputs)
    (h : lfSelect env pool outputs limit includeFee respectMin = .error .insufficient) :
    ∃ fee, feeOf env includeFee = some fee ∧
      (¬ (reqCoin fee outputs ≤ heldCoin pool ∧ ∀ p n, reqQty outputs p n ≤ heldQty pool p n) ∨
       (respectMin = true ∧ ∃ s minChange, lfBase fee pool outputs limit = .ok s ∧
          env.minChange (Value.sub s.amt (requestSum fee outputs)) = some minChange ∧
          ¬ (reqCoin fee outputs + minChange ≤ heldCoin pool ∧ ∀ p n, 0 ≤ heldQty s.avail p n))) :=
  lfSelect_insufficient hw hd ho h

/-- when largest-first reports an insufficient balance, the pool does not cover the request (plus fee) — or, in
min-change mode, the pool's ADA is below request + the minimum change of the first-phase selection.  The pool holds
no negative quantity (`PoolOK`: the top-up's component-wise `<=` refuses a net negative quantity in what was left,
see `lf_insufficient_genuine_wf` for the statement without this hypothesis); the requested quantities are arbitrary
(their non-negativity, needed while `<=` was key-directed, is dropped). -/
theorem lf_insufficient_genuine (env : Env) (pool : List UTxO) (outputs : List Output) (limit : Option Int)
    (includeFee respectMin : Bool) (hd : Distinct pool) (hw : PoolOK pool) (ho : OutsWF outputs)
    (h : lfSelect env pool outputs limit includeFee respectMin = .error .insufficient) :
    ∃ fee, feeOf env includeFee = some fee ∧
      (¬ (reqCoin fee outputs ≤ heldCoin pool ∧ ∀ p n, reqQty outputs p n ≤ heldQty pool p n) ∨
       (respectMin = true ∧ ∃ s minChange, lfBase fee pool outputs limit = .ok s ∧
          env.minChange (Value.sub s.amt (requestSum fee outputs)) = some minChange ∧
          heldCoin pool < reqCoin fee outputs + minChange)) := by
  have hwf : PoolWF pool := fun u hu => (hw u hu).1
  obtain ⟨f, hf, hh⟩ := lf_insufficient_genuine_wf env pool outputs limit includeFee respectMin hd hwf ho h
  refine ⟨f, hf, ?_⟩
  rcases hh with hh | ⟨hm, s, mc, h1, h2, h3⟩
  · exact Or.inl hh
  · right
    refine ⟨hm, s, mc, h1, h2, ?_⟩
    obtain ⟨_, _, hperm⟩ := lfBase_ok hwf hd h1
    have hnn : ∀ p n, 0 ≤ heldQty s.avail p n := fun p n =>
      sumBy_nonneg _ _ (fun u hu => (hw u (hperm.subset (List.mem_append_right _ hu))).2.2 p n)
    apply Int.not_le.1
    intro hc
    exact h3 ⟨hc, hnn⟩

/-! ## RandomImproveMultiAsset (`stream` = the injected random indices, universally quantified) -/

/-- the selected inputs are pairwise distinct entries of the pool (a sub-multiset of it) -/
theorem ri_subset (env : Env) (pool : List UTxO) (outputs : List Output) (limit : Option Int)
    (includeFee respectMin : Bool) (stream : List Nat) (sel : List UTxO) (change : Value)
    (hd : Distinct pool) (hp : PoolWF pool) (ho : OutsWF outputs)
    (h : riSelect env pool outputs limit includeFee respectMin stream = .ok (sel, change)) :
    (sel.map UTxO.ref).Nodup ∧ (∀ u ∈ sel, u ∈ pool) ∧ ∃ rest, (sel ++ rest).Perm pool := by
  obtain ⟨_, _, g⟩ := riSelect_ok (PoolN.ofWF hp) hd ho h
  exact g.subset

/-- request (plus the maximum fee when asked) ≤ Σ selected, in ADA and in every asset -/
theorem ri_covers (env : Env) (pool : List UTxO) (outputs : List Output) (limit : Option Int)
    (includeFee respectMin : Bool) (stream : List Nat) (sel : List UTxO) (change : Value)
    (hd : Distinct pool) (hp : PoolOK pool) (ho : OutsWF outputs)
    (h : riSelect env pool outputs limit includeFee respectMin stream = .ok (sel, change)) :
    ∃ fee, feeOf env includeFee = some fee ∧ reqCoin fee outputs ≤ heldCoin sel ∧
      ∀ p n, reqQty outputs p n ≤ heldQty sel p n := by
  obtain ⟨f, hf, g⟩ := riSelect_ok (PoolN.ofOK hp) hd ho h
  exact ⟨f, hf, g.coverCoin trivial, g.coverQty trivial⟩

/-- change = Σ selected − request, in ADA and in every asset -/
theorem ri_change (env : Env) (pool : List UTxO) (outputs : List Output) (limit : Option Int)
    (includeFee respectMin : Bool) (stream : List Nat) (sel : List UTxO) (change : Value)
    (hd : Distinct pool) (hp : PoolWF pool) (ho : OutsWF outputs)
    (h : riSelect env pool outputs limit includeFee respectMin stream = .ok (sel, change)) :
    ∃ fee, feeOf env includeFee = some fee ∧ change.coin = heldCoin sel - reqCoin fee outputs ∧
      ∀ p n, Value.qty change p n = heldQty sel p n - reqQty outputs p n := by
  obtain ⟨f, hf, g⟩ := riSelect_ok (PoolN.ofWF hp) hd ho h
  exact ⟨f, hf, g.changeCoin, g.changeQty⟩

/-- `_random_select_subset`, `_improve` and the recursive top-up terminate: the recursion budgets the model gives
them (`len(remaining) + 1`, one element leaves `remaining` per iteration / activation) are never exhausted -/
theorem ri_terminates (env : Env) (pool : List UTxO) (outputs : List Output) (limit : Option Int)
    (includeFee respectMin : Bool) (stream : List Nat) :
    riSelect env pool outputs limit includeFee respectMin stream ≠ .error .fuel := by
  intro h
  obtain ⟨f, _, hb | ⟨s, mc, _, _, _, h2⟩⟩ := (riSelect_topUp h).resolve_left (by decide)
  · exact riBase_spec True hb rfl
  · exact riBase_spec True h2 rfl

/-- never more inputs than the stated limit, whatever the random choices: whenever a selection is returned and a
limit `l ≥ 0` was given, `len(selected) ≤ l`.  Phase 1 tests the limit after each asset's subset, `_improve` returns
before appending when `len(selected) >= max_input_count`, and the recursive min-change top-up is handed the remaining
budget `l - len(selected)` (0 = "no further input"). -/
theorem ri_limit (env : Env) (pool : List UTxO) (outputs : List Output) (l : Int)
    (includeFee respectMin : Bool) (stream : List Nat) (sel : List UTxO) (change : Value) (hl : 0 ≤ l)
    (h : riSelect env pool outputs (some l) includeFee respectMin stream = .ok (sel, change)) :
    (sel.length : Int) ≤ l :=
  le_of_overLimit (riSelect_limit (overLimit_zero hl) h)

/-- `max_input_count=0` is a limit ("no input may be selected"), not "no limit": a returned selection is empty -/
theorem ri_limit_zero (env : Env) (pool : List UTxO) (outputs : List Output)
    (includeFee respectMin : Bool) (stream : List Nat) (sel : List UTxO) (change : Value)
    (h : riSelect env pool outputs (some 0) includeFee respectMin stream = .ok (sel, change)) : sel = [] := by
  have := ri_limit env pool outputs 0 includeFee respectMin stream sel change (by decide) h
  exact List.eq_nil_of_length_eq_zero (by omega)

/-- three UTxOs of 1 ADA, 1 ADA requested, indices 0,0,0.  `max_input_count=1`: the first phase takes one input and
the improvement step (ideal 2 ADA) now returns without appending — 1 input (2 before the repair: the limit was tested
with `>` before appending).  `max_input_count=2`: the improvement step appends the second input; no limit: the same. -/
example :
    selLen (riSelect wEnv [wUtxo 1 ⟨1000000, []⟩, wUtxo 2 ⟨1000000, []⟩, wUtxo 3 ⟨1000000, []⟩]
      [wOut ⟨1000000, []⟩] (some 1) false false [0, 0, 0]) = 1 ∧
    selLen (riSelect wEnv [wUtxo 1 ⟨1000000, []⟩, wUtxo 2 ⟨1000000, []⟩, wUtxo 3 ⟨1000000, []⟩]
      [wOut ⟨1000000, []⟩] (some 2) false false [0, 0, 0]) = 2 ∧
    selLen (riSelect wEnv [wUtxo 1 ⟨1000000, []⟩, wUtxo 2 ⟨1000000, []⟩, wUtxo 3 ⟨1000000, []⟩]
      [wOut ⟨1000000, []⟩] none false false [0, 0, 0]) = 2 := by decide +kernel

/-- the top-up mechanism on the randomized strategy: on the largest-first witnesses the recursive top-up, run with the
remaining budget 0, refuses a further input (2 resp. 3 inputs were returned for the limit 1 before the repair).  At the
limit `_improve` returns before drawing an index, so the whole stream after phase 1 goes to the top-up; below the limit
(limits 2, 3 on `wPool1`) it draws the out-of-range index 5, which ends the improvement step.  With a sufficient limit
the inputs are returned. -/
example :
    errOf (riSelect wEnv wPool [wOut ⟨2900000, []⟩] (some 1) false true [0, 0, 0, 0]) = some .maxInputs ∧
    selLen (riSelect wEnv wPool [wOut ⟨2900000, []⟩] (some 2) false true [0, 0, 0, 0]) = 2 ∧
    errOf (riSelect wEnv wPool1 [wOut ⟨2900000, []⟩] (some 1) false true [0, 0, 0, 0]) = some .maxInputs ∧
    errOf (riSelect wEnv wPool1 [wOut ⟨2900000, []⟩] (some 2) false true [0, 5, 0, 0]) = some .maxInputs ∧
    selLen (riSelect wEnv wPool1 [wOut ⟨2900000, []⟩] (some 3) false true [0, 5, 0, 0]) = 3 := by decide +kernel

/-- `max_input_count=0`: an empty request is served with no input, a request that needs an input is refused
(`MaxInputCountExceededException` by phase 1; `InputUTxODepletedException` when the pool is empty: that test comes
first); an empty request whose (zero) change is below the minimum is refused by the top-up -/
example :
    selLen (riSelect wEnv wPool [] (some 0) false false [0]) = 0 ∧
    errOf (riSelect wEnv wPool [] (some 0) false false [0]) = none ∧
    errOf (riSelect wEnv wPool [wOut ⟨1000000, []⟩] (some 0) false false [0]) = some .maxInputs ∧
    errOf (riSelect wEnv [] [wOut ⟨1000000, []⟩] (some 0) false false [0]) = some .depleted ∧
    errOf (riSelect wEnv wPool [] (some 0) false true [0]) = some .maxInputs := by decide +kernel

/-! ## negative quantities in the pool -/

/-- quantity of asset `(p, n)` held by the inputs of a result -/
def resultQty (r : Except SelErr (List UTxO × Value)) (p n : Bytes) : Option Int :=
  match r with
  | .ok (s, _) => some (heldQty s p n)
  | .error _ => none

/-- a pool entry carrying −5 of a token, for a request that does not mention the token: while `<=` was key-directed
both strategies returned it (requested 0, held −5: KF-C05-le-negative); the component-wise `<=` is never satisfied
with −5 of the token selected, so both now refuse (`InsufficientUTxOBalanceException`, `InputUTxODepletedException`)
— the same on /repo -/
example :
    errOf (lfSelect wEnv [wUtxo 1 ⟨3000000, [([7, 7], [([1], -5)])]⟩, wUtxo 2 ⟨2000000, []⟩]
      [wOut ⟨2500000, []⟩] none false false) = some .insufficient ∧
    errOf (riSelect wEnv [wUtxo 1 ⟨3000000, [([7, 7], [([1], -5)])]⟩, wUtxo 2 ⟨2000000, []⟩]
      [wOut ⟨2500000, []⟩] none false false [0, 0, 0]) = some .depleted := by decide +kernel

/-- the largest-first top-up refuses an input that would bring a net negative quantity: 3 ADA cover the 2.9 ADA
requested, the change of 0.1 ADA is below the minimum, and the only other entry (2 ADA, −5 of a token) does not
satisfy `Value(min_change - change.coin) <= selected_amount` -/
example :
    errOf (lfSelect wEnv [wUtxo 1 ⟨3000000, []⟩, wUtxo 2 ⟨2000000, [([7, 7], [([1], -5)])]⟩]
      [wOut ⟨2900000, []⟩] none false true) = some .insufficient := by decide +kernel

/-- **the non-negativity hypothesis of `ri_covers` is needed**: 5 000 000 of a token and 1 ADA requested.  Phase 1
covers the token first (the larger single-asset request) with entry 1, then the ADA with entry 2, which carries −3 of
the token: `Value(1000000) <= selected_amount` holds (0 ≤ 4 999 997), the token request is not looked at again —
4 999 997 held for 5 000 000 requested.  The same on /repo.  No ledger UTxO looks like entry 2. -/
example :
    resultQty (riSelect wEnv [wUtxo 1 ⟨500000, [([7, 7], [([1], 5000000)])]⟩, wUtxo 2 ⟨2000000, [([7, 7], [([1], -3)])]⟩]
      [wOut ⟨1000000, [([7, 7], [([1], 5000000)])]⟩] none false false [0, 0, 0]) [7, 7] [1] = some 4999997 := by
  decide +kernel

/-! ## non-vacuity -/

def wToken : Value := ⟨2000000, [([7, 7], [([1], 10), ([2], 3)])]⟩
def wPool3 : List UTxO := [wUtxo 1 ⟨1500000, []⟩, wUtxo 2 wToken, wUtxo 3 ⟨4000000, []⟩, wUtxo 4 ⟨1500000, []⟩]
def wOuts3 : List Output := [wOut ⟨1000000, [([7, 7], [([1], 10)])]⟩, wOut ⟨300000, []⟩]

/-- the hypotheses are satisfiable by a pool with ties and a token-carrying entry, a two-output request with the
maximum fee (2 174 277 lovelace) and the minimum change in force; both strategies succeed on it (the randomized one
with indices 1, 1, 0, ...: token entry first), largest-first with 2 inputs and the top-up not needed -/
example : Distinct wPool3 ∧ PoolOK wPool3 ∧ OutsWF wOuts3 ∧
    selLen (lfSelect wEnv wPool3 wOuts3 (some 3) true true) = 2 ∧
    selLen (riSelect wEnv wPool3 wOuts3 (some 3) true true [1, 1, 0, 0, 0, 0]) = 3 ∧
    errOf (lfSelect wEnv wPool3 [wOut ⟨9000001, []⟩] none false true) = some .insufficient := by
  exact ⟨by unfold Distinct; decide, poolOK_of_stored (by decide), by unfold OutsWF; decide, by decide +kernel,
    by decide +kernel, by decide +kernel⟩

end Pyc.C14

#print axioms Pyc.C14.lf_subset
#print axioms Pyc.C14.lf_covers
#print axioms Pyc.C14.lf_change
#print axioms Pyc.C14.lf_limit
#print axioms Pyc.C14.lf_limit_zero
#print axioms Pyc.C14.lf_insufficient_genuine_wf
#print axioms Pyc.C14.lf_insufficient_genuine
#print axioms Pyc.C14.ri_subset
#print axioms Pyc.C14.ri_covers
#print axioms Pyc.C14.ri_change
#print axioms Pyc.C14.ri_terminates
#print axioms Pyc.C14.ri_limit
#print axioms Pyc.C14.ri_limit_zero
