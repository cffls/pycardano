import Pyc.Proofs.PackFit

/-! # C08 — built outputs are ledger-valid; otherwise the builder refuses

Models: `Pyc/Model/Output.lean` (`TransactionOutput` serialization, `min_lovelace_post_alonzo`, the negative-quantity
refusal) and `Pyc/Model/Builder.lean` (`_calc_change`, token packing). -/

namespace Pyc.C08
open Pyc.Builder Pyc.Cbor Pyc.PackFit

/-- the amount the utility prices: an output holding 0 lovelace is priced as if it held 1 ADA -/
def priced (v : Value) : Value := if v.coin = 0 then ⟨1000000, v.ma⟩ else v

/-- **minimum-ADA formula**: (160 + size of the output serialized in map form) × coins per byte -/
theorem minAda_formula (cpb : Int) (o : Output) :
    minLovelace cpb o
      = (160 + ((Output.enc { o with amount := priced o.amount, postAlonzo := true }).length : Int)) * cpb := by
  unfold minLovelace priced Output.enc Output.item Output.usesMap
  simp

/-- the minimum ADA of an output does not depend on its coin as long as the coin is encoded in the same CBOR width
as the 1-ADA placeholder (5 bytes: 65 536 ≤ coin < 2^32) — so an output funded with exactly the computed minimum
meets its own requirement -/
theorem minAda_indep_coin (cpb : Int) (addr : Bytes) (m : MultiAsset) (c : Int) (h1 : 65536 ≤ c) (h2 : c < 4294967296) :
    minLovelace cpb { addr := addr, amount := ⟨c, m⟩ } = minLovelace cpb { addr := addr, amount := ⟨0, m⟩ } := by
  have w5 : ∀ x : Int, 65536 ≤ x → x < 4294967296 → coinLen x = 5 := fun x l u =>
    Nat.le_antisymm (coinLen_le5 x (by omega) u) (coinLen_ge5 x l)
  have hv : vlen ⟨c, m⟩ = vlen ⟨1000000, m⟩ := by
    have := vlen_shift c 1000000 m
    rw [w5 c h1 h2, w5 1000000 (by omega) (by omega)] at this
    omega
  show minAda ⟨cpb, 0, 0, 0⟩ addr ⟨c, m⟩ = minAda ⟨cpb, 0, 0, 0⟩ addr ⟨0, m⟩
  rw [minAda_vlen, minAda_vlen]
  dsimp only
  rw [if_neg (show ¬ c = 0 by omega), if_pos rfl, hv]

/-- **change outputs hold their minimum ADA** (when the check is not disabled by `merge_change`): every change
output holds at least the minimum computed for its bundle with the 1-ADA placeholder, ADA-only change at least its
exact minimum -/
theorem changeLoop_min_ada (P : Params) (addr : Bytes) (ms : List MultiAsset) (ch : Value) (outs : List Output)
    (h : changeLoop P addr true ms ch = .ok outs) :
    ∀ o ∈ outs, minAda P addr ⟨0, o.amount.ma⟩ ≤ o.amount.coin := by
  induction ms generalizing ch outs with
  | nil => rw [changeLoop_nil_ok h]; exact fun _ ho => nomatch ho
  | cons m rest ih =>
    obtain ⟨hchk, outs', hloop, rfl⟩ := changeLoop_cons_ok.1 h
    intro o ho
    rcases List.mem_cons.1 ho with rfl | ho
    · have : minAda P addr ⟨0, m⟩ ≤ ch.coin := Int.not_lt.1 fun hlt => hchk ⟨rfl, hlt⟩
      show minAda P addr ⟨0, (changeOut P addr m rest.isEmpty ch).ma⟩ ≤ (changeOut P addr m rest.isEmpty ch).coin
      unfold changeOut
      split
      · exact this
      · exact Int.le_refl _
    · exact ih _ _ hloop o ho

theorem change_min_ada (P : Params) (a : ChangeArgs) (cs : List Output) (h : calcChange P a = .ok cs) (hr : a.respect = true) :
    ∀ o ∈ cs, (o.amount.ma = [] ∧ minAda P a.addr o.amount ≤ o.amount.coin) ∨
              minAda P a.addr ⟨0, o.amount.ma⟩ ≤ o.amount.coin := by
  rcases (calcChange_ok h).2 with ⟨he, hchk, rfl⟩ | ⟨-, hloop⟩
  · intro o ho
    rw [List.mem_singleton.1 ho]
    -- the ADA-only change is the change value itself
    have e : changeValue a = ⟨(changeValue a).coin, []⟩ := by rw [← he]
    exact Or.inl ⟨rfl, e ▸ Int.not_lt.1 fun hlt => hchk ⟨hr, hlt⟩⟩
  · rw [hr] at hloop
    exact fun o ho => Or.inr (changeLoop_min_ada P a.addr _ _ cs hloop o ho)

/-- **the change outputs `_add_change_and_fee` ADDS hold their minimum ADA**: the final output list is either the
requested outputs with the single change merged into the output found at the change address, or the requested outputs
followed by change outputs each holding at least its minimum ADA — also when `merge_change` is set and the change
comes out split over several outputs -/
theorem final_added_min_ada (P : Params) (outs fo : List Output) (a : ChangeArgs) (mc : Bool)
    (h : finalOutputs P outs a mc = .ok fo) :
    (∃ (i : Nat) (c : Output), mergeIndex outs a mc = some i ∧ fo = addAt c.amount i outs) ∨
    ∃ cs, fo = outs ++ cs ∧ ∀ o ∈ cs, (o.amount.ma = [] ∧ minAda P a.addr o.amount ≤ o.amount.coin) ∨
              minAda P a.addr ⟨0, o.amount.ma⟩ ≤ o.amount.coin := by
  obtain ⟨cs, r, hcalc, hnone, hlen, rfl⟩ := finalOutputs_ok h
  have hmin : r = true → ∀ o ∈ cs, (o.amount.ma = [] ∧ minAda P a.addr o.amount ≤ o.amount.coin) ∨
            minAda P a.addr ⟨0, o.amount.ma⟩ ≤ o.amount.coin := fun hr =>
    change_min_ada P (withRespect (finalArgs outs a mc) r) cs hcalc hr
  cases hm : mergeIndex outs a mc with
  | none => exact Or.inr ⟨cs, rfl, hmin (hnone hm)⟩
  | some i =>
    match cs, hlen, hmin with
    | [c], _, _ => exact Or.inl ⟨i, c, rfl, rfl⟩
    | [], hlen, hmin => exact Or.inr ⟨[], rfl, hmin (hlen (by decide))⟩
    | c :: d :: t, hlen, hmin => exact Or.inr ⟨c :: d :: t, rfl, hmin (hlen (by simp))⟩

/-- special case: no output to merge into (merge_change off, or on without an output at the change address) -/
theorem final_change_min_ada (P : Params) (outs fo : List Output) (a : ChangeArgs) (mc : Bool)
    (h : finalOutputs P outs a mc = .ok fo) (hn : mergeIndex outs a mc = none) :
    ∃ cs, fo = outs ++ cs ∧ ∀ o ∈ cs, (o.amount.ma = [] ∧ minAda P a.addr o.amount ≤ o.amount.coin) ∨
              minAda P a.addr ⟨0, o.amount.ma⟩ ≤ o.amount.coin := by
  rcases final_added_min_ada P outs fo a mc h with ⟨i, c, hi, _⟩ | h'
  · rw [hn] at hi; cases hi
  · exact h'

/-- with merge_change off there is never a merge target -/
theorem no_merge_target_when_off (outs : List Output) (a : ChangeArgs) : mergeIndex outs a false = none := by
  simp [mergeIndex]

def exP0 : Params := { cpb := 4310, maxValSize := 5000, keyDeposit := 2000000, poolDeposit := 500000000 }
def exBurn : ChangeArgs :=
  { fee := 170000
    inputs := [⟨9000000, []⟩]
    outputs := []
    mint := [([1, 1], [([7], -5)])]
    withdrawals := []
    deposits := 0
    addr := [0x60, 1, 2]
    respect := true }

/-- the refusal branches of `_calc_change` are exactly: requested not strictly below provided; ADA-only change
below its minimum ADA (unless disabled); a bundle's minimum ADA not covered by the ADA left (unless disabled) -/
theorem refuses_invalid_iff (P : Params) (a : ChangeArgs) :
    calcChange P a = .error .invalidTx ↔ Value.lt (requested a) (provided a) = false :=
  calcChange_invalidTx_iff P a

/-- no change is produced without the amounts being covered: a result implies `requested < provided` held -/
theorem result_implies_covered (P : Params) (a : ChangeArgs) (cs : List Output) (h : calcChange P a = .ok cs) :
    Value.lt (requested a) (provided a) = true :=
  (calcChange_ok h).1

/-- `requested < provided` read on contents: `<` is `<=` and not `==`, and `<=` is the component-wise order for all
operands (`Pyc.C05.le_iff`, after the repair of KF-C05-le-negative) — the refusal is exact: `_calc_change` raises
`InvalidTransactionException` exactly when some requested amount (ADA or any asset, a burn of an asset the inputs do
not hold included) is not covered by what is provided, or the two values are `==` -/
theorem refuses_invalid_iff_componentwise (P : Params) (a : ChangeArgs) :
    calcChange P a = .error .invalidTx ↔
      ¬ (((requested a).coin ≤ (provided a).coin ∧
          ∀ p n, Value.qty (requested a) p n ≤ Value.qty (provided a) p n) ∧
         Value.eq (requested a) (provided a) = false) := by
  rw [refuses_invalid_iff, ← Value.lt_iff_le_ne]
  simp

/-- no change is produced without every amount being covered: a result implies `requested ≤ provided` in ADA and in
every asset (and `requested != provided`) — for all arguments -/
theorem result_implies_covered_componentwise (P : Params) (a : ChangeArgs) (cs : List Output)
    (h : calcChange P a = .ok cs) :
    ((requested a).coin ≤ (provided a).coin ∧
      ∀ p n, Value.qty (requested a) p n ≤ Value.qty (provided a) p n) ∧
    Value.eq (requested a) (provided a) = false :=
  (Value.lt_iff_le_ne _ _).1 (result_implies_covered P a cs h)

/-- a burn of 5 units of an asset the inputs do not hold: `requested = Value(fee)`, `provided = inputs + mint` stores
−5; while `<=` was key-directed `requested < provided` held and change was computed, now the builder refuses -/
example : (match calcChange exP0 exBurn with | .error .invalidTx => true | _ => false) = true := by decide +kernel

/-- token packing loses and duplicates nothing (shared with C06) -/
theorem pack_preserves (P : Params) (addr : Bytes) (ch : Value) (hw : MultiAsset.WF ch.ma)
    (hnb : (packTokens P addr ch).2 = false) (p n : Bytes) :
    sumQty (packTokens P addr ch).1 p n = MultiAsset.qty ch.ma p n :=
  packTokens_preserves P addr ch hw hnb p n

/-! ## serialization refuses negative quantities at every nesting level -/

theorem foldl_count_ge (f : Nat → Bytes × Int → Bool) (a : Asset) (c : Nat) :
    c ≤ a.foldl (fun c q => if f c q then c + 1 else c) c := by
  induction a generalizing c with
  | nil => simp
  | cons q r ih =>
    simp only [List.foldl_cons]
    split
    · exact Nat.le_trans (Nat.le_succ c) (ih _)
    · exact ih _

/-- `MultiAsset.count` is positive exactly when some stored entry satisfies the criterion -/
theorem count_pos_iff (m : MultiAsset) (crit : Bytes → Bytes → Int → Bool) :
    0 < MultiAsset.count m crit ↔ ∃ pa ∈ m, ∃ q ∈ pa.2, crit pa.1 q.1 q.2 = true := by
  rw [MultiAsset.count_eq, List.sum_pos_iff_exists_pos_nat]
  constructor
  · rintro ⟨_, hx, h⟩
    obtain ⟨pa, hpa, rfl⟩ := List.mem_map.1 hx
    exact ⟨pa, hpa, List.countP_pos_iff.1 h⟩
  · rintro ⟨pa, hpa, h⟩
    exact ⟨_, List.mem_map.2 ⟨pa, hpa, rfl⟩, List.countP_pos_iff.2 h⟩

/-- an output is refused by serialization exactly when its ADA or some stored asset quantity is negative -/
theorem negative_iff (o : Output) :
    Output.negative o = true ↔ o.amount.coin < 0 ∨ ∃ pa ∈ o.amount.ma, ∃ q ∈ pa.2, q.2 < 0 := by
  unfold Output.negative
  rw [Bool.or_eq_true, decide_eq_true_eq, decide_eq_true_eq, gt_iff_lt, count_pos_iff]
  simp only [decide_eq_true_eq]

/-- … and a body / transaction is refused exactly when some nested output (requested, change, or collateral return)
is: no nesting level hides a negative quantity -/
theorem body_refuses_iff (outs : List Output) (cr : Option Output) :
    bodyRefuses outs cr = true ↔ (∃ o ∈ outs, Output.negative o = true) ∨ (∃ o, cr = some o ∧ Output.negative o = true) := by
  unfold bodyRefuses
  simp only [Bool.or_eq_true, List.any_eq_true]
  cases cr <;> simp

/-- non-vacuity: a two-policy bundle with little ADA under a small value-size limit is split into two change
outputs, each holding its minimum ADA; evaluated by the kernel -/
def exP : Params := { cpb := 4310, maxValSize := 22, keyDeposit := 2000000, poolDeposit := 500000000 }
def exArgs : ChangeArgs :=
  { fee := 170000
    inputs := [⟨9000000, [([1, 1], [([7], 3), ([8], 4)]), ([2, 2], [([9, 9, 9], 5)])]⟩]
    outputs := []
    mint := []
    withdrawals := []
    deposits := 0
    addr := [0x60, 1, 2]
    respect := true }

example : (match calcChange exP exArgs with
    | .ok cs => cs.length == 2 && cs.all (fun o => decide (minAda exP exArgs.addr ⟨0, o.amount.ma⟩ ≤ o.amount.coin))
    | .error _ => false) = true := by decide +kernel

end Pyc.C08

#print axioms Pyc.C08.minAda_formula
#print axioms Pyc.C08.minAda_indep_coin
#print axioms Pyc.C08.changeLoop_min_ada
#print axioms Pyc.C08.change_min_ada
#print axioms Pyc.C08.refuses_invalid_iff
#print axioms Pyc.C08.result_implies_covered
#print axioms Pyc.C08.refuses_invalid_iff_componentwise
#print axioms Pyc.C08.result_implies_covered_componentwise
#print axioms Pyc.C08.pack_preserves
#print axioms Pyc.C08.foldl_count_ge
#print axioms Pyc.C08.count_pos_iff
#print axioms Pyc.C08.negative_iff
#print axioms Pyc.C08.body_refuses_iff
#print axioms Pyc.C08.final_change_min_ada
#print axioms Pyc.C08.no_merge_target_when_off
#print axioms Pyc.C08.final_added_min_ada
