import Pyc.Proofs.Builder

/-! # C06 — built transactions conserve value

Model: `Pyc/Model/Builder.lean` (deposit totals, `_calc_change`, `_pack_tokens_for_change`, `_merge_changes`,
the final output list of `_add_change_and_fee`).  The fee is universally quantified: conservation does not depend on
how it was estimated.  `sumCoin` / `sumAsset` add up a list of outputs; `MultiAsset.qty` is the content of a bundle.

Ledger equation (Conway): inputs + withdrawals + mint⁺ + refunds = outputs + fee + mint⁻ + deposits + donation.
With `mint` signed and `deposits` net of refunds (+ proposal deposits + donation) this is
`inputs + withdrawals + mint = outputs + fee + deposits`, which is what the theorems state. -/

namespace Pyc.C06
open Pyc.Builder

/-- ledger-side net deposit of one certificate (specification) -/
def specDeposit (P : Params) (initialPool : Bool) : CertD → Int
  | .stakeReg _ => P.keyDeposit
  | .stakeDereg => -P.keyDeposit
  | .explicitDeposit k => k
  | .explicitRefund k => -k
  | .poolReg _ => if initialPool then P.poolDeposit else 0
  | .other => 0


theorem dedup_of_nodup (l : List Bytes) (h : l.Nodup) : dedup l = l := by
  induction l with
  | nil => rfl
  | cons x xs ih =>
    rw [List.nodup_cons] at h
    have : xs.contains x = false := by simpa using h.1
    rw [dedup, this, ih h.2]
    rfl

/-- the builder's deposit total is the ledger's: every certificate pays / returns what the ledger charges /
refunds, provided no credential is registered twice in the same transaction (which the ledger refuses anyway) -/
theorem deposit_spec (P : Params) (certs : List CertD) (ip : Bool)
    (h1 : (regCreds certs).Nodup) (h2 : (poolOps certs).Nodup) :
    totalKeyDeposit P certs ip = (certs.map (specDeposit P ip)).sum := by
  unfold totalKeyDeposit
  rw [dedup_of_nodup _ h1, dedup_of_nodup _ h2]
  clear h1 h2
  -- both sides charge a pool registration `pd`: the pool deposit, or nothing when `initial_stake_pool_registration` is off
  have e : ∀ n : Nat, P.poolDeposit * (if ip = true then (n : Int) else 0) = (if ip = true then P.poolDeposit else 0) * n := by
    intro n; cases ip <;> simp
  rw [e]
  have hs : specDeposit P ip = fun c => match c with
      | .stakeReg _ => P.keyDeposit | .stakeDereg => -P.keyDeposit | .explicitDeposit k => k | .explicitRefund k => -k
      | .poolReg _ => (if ip = true then P.poolDeposit else 0) | .other => 0 :=
    funext fun c => by cases c <;> rfl
  rw [hs]
  generalize (if ip = true then P.poolDeposit else 0) = pd
  unfold regCreds poolOps
  induction certs with
  | nil => simp
  | cons c r ih =>
    cases c <;>
      simp only [explicitOf, refundOf, List.filterMap_cons, List.map_cons, List.sum_cons, List.length_cons,
        Int.natCast_add, Int.natCast_one, Int.mul_add, Int.mul_one] at ih ⊢ <;> omega

/-- the hypotheses under which the accounting is exact: operands are legal dicts, and the packing loop's size `break`
is not taken.  That the selected inputs (plus mint) cover what is requested in every asset, and that nothing is burned
that the inputs do not hold, needs no hypothesis: `_calc_change` returns a result only behind its guard
`requested < provided`, and `<=` on values is the component-wise order for all operands (`Pyc.C05.le_iff`, after the
repair of KF-C05-le-negative) — `calcChange_covers` below.  (While `<=` was key-directed in pycardano the guard let a
burn of an asset the inputs do not hold through.) -/
structure Hyp (P : Params) (a : ChangeArgs) : Prop where
  wf : ArgsWF a
  noBreak : (packTokens P a.addr (changeValue a)).2 = false

/-- whenever `_calc_change` returns change outputs, what is requested (outputs + fee) is covered by what is provided
(inputs + mint + withdrawals − deposits), in ADA and in every asset — for all arguments, no hypothesis -/
theorem calcChange_covers (P : Params) (a : ChangeArgs) (cs : List Output) (h : calcChange P a = .ok cs) :
    (requested a).coin ≤ (provided a).coin ∧
    ∀ p n, MultiAsset.qty (requested a).ma p n ≤ MultiAsset.qty (provided a).ma p n :=
  Builder.calcChange_covered P a cs h

/-- change = provided − requested, in ADA and in every asset -/
theorem calcChange_sum (P : Params) (a : ChangeArgs) (cs : List Output) (h : calcChange P a = .ok cs) (hy : Hyp P a) :
    sumCoin cs = (provided a).coin - (requested a).coin ∧
    ∀ p n, sumAsset cs p n = MultiAsset.qty (provided a).ma p n - MultiAsset.qty (requested a).ma p n :=
  Builder.calcChange_sum P a cs h hy.wf hy.noBreak

/-- token packing preserves the bundle: nothing lost, nothing duplicated -/
theorem pack_preserves (P : Params) (addr : Bytes) (ch : Value) (hw : MultiAsset.WF ch.ma)
    (hnb : (packTokens P addr ch).2 = false) (p n : Bytes) :
    sumQty (packTokens P addr ch).1 p n = MultiAsset.qty ch.ma p n :=
  packTokens_preserves P addr ch hw hnb p n

/-- **C06**: whenever the accounting returns an output list, the balance equation holds exactly — for ADA … -/
theorem conserves_ada (P : Params) (outs fo : List Output) (a : ChangeArgs) (mc : Bool)
    (h : finalOutputs P outs a mc = .ok fo)
    (hy : ∀ r, Hyp P (withRespect (finalArgs outs a mc) r))
    (ho : ∀ o ∈ outs, MultiAsset.WF o.amount.ma) :
    (a.inputs.map (·.coin)).sum + a.withdrawals.sum = sumCoin fo + a.fee + a.deposits := by
  obtain ⟨cs, r, hcalc, -, -, rfl⟩ := finalOutputs_ok h
  have hs := calcChange_sum P _ cs hcalc (hy r)
  have hm := mergeChanges_sum outs (mergeIndex outs a mc) cs (mergeIndex_lt outs a mc) (calcChange_wf P _ cs hcalc) ho
  rw [hm.1, hs.1, provided_coin, requested_coin]
  simp only [withRespect, finalArgs, List.map_map]
  show _ = sumCoin outs + (_ - (a.fee + sumCoin outs)) + _ + _
  omega

/-- … and for every native asset (mint signed: positive = minted, negative = burned) -/
theorem conserves_assets (P : Params) (outs fo : List Output) (a : ChangeArgs) (mc : Bool)
    (h : finalOutputs P outs a mc = .ok fo)
    (hy : ∀ r, Hyp P (withRespect (finalArgs outs a mc) r))
    (ho : ∀ o ∈ outs, MultiAsset.WF o.amount.ma) (p n : Bytes) :
    (a.inputs.map (fun v => MultiAsset.qty v.ma p n)).sum + MultiAsset.qty a.mint p n = sumAsset fo p n := by
  obtain ⟨cs, r, hcalc, -, -, rfl⟩ := finalOutputs_ok h
  have hs := calcChange_sum P _ cs hcalc (hy r)
  have hm := mergeChanges_sum outs (mergeIndex outs a mc) cs (mergeIndex_lt outs a mc) (calcChange_wf P _ cs hcalc) ho
  rw [hm.2 p n, hs.2 p n, provided_qty _ (hy r).wf, requested_qty _ (hy r).wf]
  simp only [withRespect, finalArgs, List.map_map]
  show _ = sumAsset outs p n + (_ - sumAsset outs p n)
  omega

/-- non-vacuity: a concrete multi-asset scenario (two inputs, one output, a mint, a withdrawal, a deposit) for which
the accounting returns outputs and the no-break hypothesis holds — evaluated by the kernel -/
def exP : Params := { cpb := 4310, maxValSize := 5000, keyDeposit := 2000000, poolDeposit := 500000000 }
def exOuts : List Output := [{ addr := [0x60, 9], amount := ⟨1500000, [([1], [([7], 1)])]⟩ }]
def exArgs : ChangeArgs :=
  { fee := 170000
    inputs := [⟨5000000, [([1], [([7], 3)])]⟩, ⟨4000000, []⟩]
    outputs := exOuts.map (·.amount)
    mint := [([2], [([8], 10)])]
    withdrawals := [1000]
    deposits := 2000000
    addr := [0x60, 1, 2]
    respect := true }

example : (match finalOutputs exP exOuts exArgs false with | .ok fo => fo.length == 2 | .error _ => false) = true ∧
    (packTokens exP exArgs.addr (changeValue exArgs)).2 = false := by
  decide +kernel

end Pyc.C06

#print axioms Pyc.C06.deposit_spec
#print axioms Pyc.C06.calcChange_covers
#print axioms Pyc.C06.calcChange_sum
#print axioms Pyc.C06.pack_preserves
#print axioms Pyc.C06.dedup_of_nodup
#print axioms Pyc.C06.conserves_ada
#print axioms Pyc.C06.conserves_assets
