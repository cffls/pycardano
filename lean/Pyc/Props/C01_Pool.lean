import Pyc.Proofs.Pool

/-! # C01 (extension `Pool`) — decode ∘ encode = id on stake-pool registration data

Objects: relays (`SingleHostAddr` with its IPv4 / IPv6 text ↔ bytes conversion, `SingleHostName`, `MultiHostName`),
`PoolMetadata`, `PoolParams`, `PoolId`, the certificates `PoolRegistration` (hand-written flattening
`[3, *pool_params]`) and `PoolRetirement`.  Model: `Pyc/Model/Pool.lean` (a transliteration of
`pycardano/pool_params.py` and of the two certificate classes, plus the four libc address conversions the code
calls); helper lemmas: `Pyc/Proofs/Pool.lean`, `Pyc/Proofs/PoolIp.lean`.  The model is run next to the
implementation by `harness/checks/c01_ext_pool.py` (driver ops `pool.*`).

The theorems speak about CONSTRUCTED objects.  The constructors normalise: `SingleHostAddr.__init__` stores the canonical
text of the address it is given (`normRelay`; a text libc refuses raises there), `PoolParams.__post_init__` turns
`relays=None` into `[]` (`postInit`); both are idempotent, and whatever is decoded is constructed (the decoders call the
constructors).  For every constructed object the round trip is exact — there is no hypothesis about address texts: it
follows from `ipv4_text_roundtrip` / `ipv6_text_roundtrip` + `ip_accepted_length`.  What remains as a hypothesis is what
the constructors do NOT establish and `validate()` checks at `to_cbor`: a `port` that is an int or `None`, a `dns_name` that
is a text or `None` (`relayTyped`), and the class invariants of the component classes (`paramsTyped`: hash sizes, a
`Fraction` in lowest terms, an `OrderedSet` without duplicates, a valid `PoolId` — each established by its own
constructor: `fraction_constructor`, `owners_constructor`, `poolid_text_roundtrip`).  `relayOk` / `paramsOk` are the
executable forms of "constructed and well typed" (`relay_ok_iff`, `params_ok_iff`); the driver reports them per case. -/

namespace Pyc.C01.Pool
open Pyc.Cbor Pyc.Codec Pyc.Pool

/-! ## the address conversions -/

/-- `inet_aton(inet_ntoa(b)) = b` for EVERY 4-byte string: the text the constructor stores for IPv4 bytes is read back as
those bytes -/
theorem ipv4_text_roundtrip (b : Bytes) (h : b.length = 4) : ∃ t, ntoa b = some t ∧ aton t = some b :=
  aton_ntoa b h

/-- `inet_pton(AF_INET6, inet_ntop(AF_INET6, b)) = b` for EVERY 16-byte string — whatever the zero runs (`::` at the
start, inside, at the end, none), the IPv4-compatible and IPv4-mapped forms included -/
theorem ipv6_text_roundtrip (b : Bytes) (h : b.length = 16) : ∃ t, ntop6 b = some t ∧ pton6 t = some b :=
  pton6_ntop6 b h

/-- whatever text `inet_aton` / `inet_pton` accept (shorthand, octal, hexadecimal, upper case, leading zeros, …) stands for
exactly 4 / 16 bytes: `to_primitive` never writes an address of another length -/
theorem ip_accepted_length (t b : Bytes) : (aton t = some b → b.length = 4) ∧ (pton6 t = some b → b.length = 16) :=
  ⟨aton_length t b, pton6_length t b⟩

/-! ## relays -/

def asc (s : String) : Bytes := s.toList.map fun c => UInt8.ofNat c.toNat

/-- the constructor is a normalisation: applying it to the fields of what it returned changes nothing -/
theorem relay_norm_idempotent (r r' : Relay) (h : normRelay r = some r') : normRelay r' = some r' := by
  cases r with
  | addr p a b => exact mkAddr_constructed p _ _ r' h
  | name p d => cases h; rfl
  | multi d => cases h; rfl

/-- whatever `SingleHostAddr(port, ipv4, ipv6)` returns — the addresses given as text in any form libc accepts, as bytes,
or not at all — is constructed -/
theorem relay_constructor_constructed (p : Port) (a4 a6 : IpArg) (r : Relay) (h : mkAddr p a4 a6 = some r) :
    normRelay r = some r := mkAddr_constructed p a4 a6 r h

/-- … and so is whatever the relay decoders return -/
theorem relay_decoded_constructed (i : Item) (r : Relay) (h : decRelay i = .ok r) : normRelay r = some r :=
  decRelay_constructed i r h

/-- "constructed and well typed" is the executable predicate `relayOk` (stored address texts canonical) -/
theorem relay_ok_iff (r : Relay) : relayOk r = true ↔ (normRelay r = some r ∧ relayTyped r = true) := relayOk_iff r

/-- **relay round trip, FULL**: for EVERY constructed relay with a well-typed port / DNS name,
`from_primitive(to_primitive(x)) = x` — all three kinds, every subset of optional port / IPv4 / IPv6 / DNS name, any
integer port, the addresses given to the constructor as bytes or as text in whatever form libc accepts -/
theorem relay_roundtrip (r : Relay) (hc : normRelay r = some r) (ht : relayTyped r = true) :
    ∃ i, encRelay r = some i ∧ decRelay i = .ok r :=
  decRelay_encRelay r ((relayOk_iff r).mpr ⟨hc, ht⟩)

/-- the same, from the constructor arguments: `x = SingleHostAddr(port, ipv4, ipv6)` did not raise ⟹ `x` round-trips -/
theorem relay_roundtrip_from_arguments (p : Port) (hp : portOk p = true) (a4 a6 : IpArg) (r : Relay)
    (h : mkAddr p a4 a6 = some r) : ∃ i, encRelay r = some i ∧ decRelay i = .ok r := by
  refine relay_roundtrip r (mkAddr_constructed p a4 a6 r h) ?_
  obtain ⟨a, b, rfl, _, _⟩ := mkAddr_some p a4 a6 r h
  exact hp

/-- `SingleHostAddr(port=1, ipv4="01.2.3.4")`: the constructor stores `1.2.3.4` (before 68e1e96 it kept the text verbatim,
and the object did not round-trip) -/
def exFromNonCanon : Option Relay := mkAddr (.int 1) (.text (asc "01.2.3.4")) (.text (asc "0:0:0:0:0:0:0:1"))

example : (match exFromNonCanon with
    | some (.addr (.int 1) (some t4) (some t6)) => t4 == asc "1.2.3.4" && t6 == asc "::1"
    | _ => false) = true := by decide +kernel

-- a text libc refuses: the constructor raises (nothing to round-trip)
example : (mkAddr (.int 1) (.text (asc "1.2.3.256")) .none).isNone = true ∧ (mkAddr .none .none (.text (asc "1::2::3"))).isNone = true ∧
    (mkAddr .none (.bytes [1, 2, 3]) .none).isNone = true := by decide +kernel

/-- an object whose address attribute was ASSIGNED after construction (`x.ipv4 = "01.2.3.4"`) is not constructed … -/
def exAssigned : Relay := .addr (.int 1) (some (asc "01.2.3.4")) Option.none

example : relayOk exAssigned = false := by decide +kernel

/-- … for those (any stored text the socket functions accept) re-encode equality still holds: it decodes to a constructed
relay that is written as the same item -/
theorem relay_reencode (r : Relay) (i : Item) (h : encRelay r = some i) :
    ∃ r', decRelay i = .ok r' ∧ normRelay r' = some r' ∧ relayTyped r' = true ∧ encRelay r' = some i := by
  obtain ⟨r', h1, h2, h3⟩ := decRelay_of_enc r i h
  exact ⟨r', h1, ((relayOk_iff r').mp h2).1, ((relayOk_iff r').mp h2).2, h3⟩

/-- `SingleHostAddr(port, ipv4=<4 bytes>, ipv6=<16 bytes>)` — the constructor accepts, and the object is written as
`[0, port, those 4 bytes, those 16 bytes]` -/
theorem relay_constructed_from_bytes (p : Port) (hp : portOk p = true) (b4 b6 : Bytes) (h4 : b4.length = 4) (h6 : b6.length = 16) :
    ∃ r pi, mkAddr p (.bytes b4) (.bytes b6) = some r ∧ relayOk r = true ∧ itemPort p = some pi ∧
      encRelay r = some (.array [.uint 0, pi, .bytes b4, .bytes b6]) :=
  mkAddr_bytes p hp b4 b6 h4 h6

/-- a list of relays of any length -/
theorem relays_roundtrip (rs : List Relay) (hc : ∀ r ∈ rs, normRelay r = some r) (ht : rs.all relayTyped = true) :
    ∃ is, encRelays rs = some is ∧ decRelayList is = .ok rs :=
  decRelayList_encRelays rs ((all_relayOk_iff rs).mpr ⟨hc, ht⟩)

/-! ## margin, owners -/

/-- `Fraction(n, d)` (any integers, `d ≠ 0`) holds the value in lowest terms with a positive denominator: `Fraction(2, 4)`
is `1/2`, and that is what is written -/
theorem fraction_constructor (n d : Int) (q : Frac) (h : mkFrac n d = some q) : fracOk q = true ∧ q.n * d = n * q.d :=
  mkFrac_spec n d q h

theorem fraction_roundtrip (q : Frac) (h : fracOk q = true) : decFrac (itemFrac q) = .ok q :=
  decFrac_itemFrac q h

/-- the owner field in all three holdings: a `list` stays a `list`; an `OrderedSet` with the tag comes back as an
`OrderedSet` with the tag; an `OrderedSet` written without the tag comes back as the `list` with the same elements -/
theorem owners_roundtrip (o : Owners) (h : ownersOk o = true) : decOwners (itemOwners o) = .ok (normOwners o) :=
  decOwners_itemOwners o h

/-- both wire forms of `set<addr_keyhash>` are accepted: `#6.258([…])` … -/
theorem owners_wire_tagged (xs : List Bytes) (h : ownersOk (.oset true xs) = true) :
    decOwners (.tag 258 (.array (xs.map .bytes))) = .ok (.oset true xs) :=
  decOwners_itemOwners (.oset true xs) h

/-- … and the bare array -/
theorem owners_wire_untagged (xs : List Bytes) (h : ownersOk (.list xs) = true) :
    decOwners (.array (xs.map .bytes)) = .ok (.list xs) :=
  decOwners_itemOwners (.list xs) h

/-- the normal form is `==` to the original under `OrderedSet.__eq__` / `list.__eq__`, and written identically -/
theorem owners_norm (o : Owners) : Owners.pyEq (normOwners o) o = true ∧ itemOwners (normOwners o) = itemOwners o :=
  ⟨normOwners_pyEq o, itemOwners_norm o⟩

/-- `OrderedSet(items)` never holds a duplicate -/
theorem owners_constructor (t : Bool) (xs : List Bytes) (h : xs.all (fun x => x.length == 28) = true) :
    ownersOk (mkOset t xs) = true := by
  -- `dedup` only drops elements
  have hsub : ∀ ys : List Bytes, ∀ x ∈ dedup ys, x ∈ ys := by
    intro ys
    induction ys with
    | nil => simp [dedup]
    | cons y ys ih =>
      intro x hx
      simp only [dedup, List.mem_cons, List.mem_filter] at hx ⊢
      exact hx.imp id fun hm => ih x hm.1
  simp only [mkOset, ownersOk, Bool.and_eq_true]
  exact ⟨List.all_eq_true.mpr fun x hx => List.all_eq_true.mp h x (hsub xs x hx), nodupB_dedup xs⟩

/-! ## pool parameters and the registration certificate -/

/-- `PoolParams.__post_init__` is a normalisation, and what it returns holds a list of relays -/
theorem params_postinit_idempotent (p : PoolParams) :
    postInit (postInit p) = postInit p ∧ (postInit p).relays.isSome = true ∧ (p.relays = Option.none → (postInit p).relays = some []) := by
  refine ⟨postInit_idem p, postInit_isSome p, ?_⟩
  intro h
  simp [postInit, h]

/-- "constructed from constructed relays, with well-typed components" is the executable predicate `paramsOk` -/
theorem params_ok_iff (p : PoolParams) : paramsOk p = true ↔ (ParamsConstructed p ∧ paramsTyped p = true) := paramsOk_iff p

/-- **`PoolRegistration`: decode ∘ encode, FULL** — for EVERY constructed registration (`__post_init__` has run, the relays
are constructed relays) with well-typed components (operator / VRF / reward account / owner hashes of their sizes, any
integers as pledge and cost, a `Fraction` as margin, owners in any holding and number, any list of relays, metadata or
`None`, optional pool id): the flattened array `[3, operator, …, metadata, id?]` is un-flattened to the same parameters —
field for field equal, the owner container in its normal form (`owners_norm`) -/
theorem registration_roundtrip (p : PoolParams) (hc : ParamsConstructed p) (ht : paramsTyped p = true) :
    ∃ i, encRegistration p = some i ∧ decRegistration i = .ok (normParams p) := by
  have h : paramsOk p = true := (paramsOk_iff p).mpr ⟨hc, ht⟩
  obtain ⟨is, h1, h2, h3⟩ := decParamsItems_items p h
  refine ⟨.array (.uint 3 :: is), by simp [encRegistration, h1], ?_⟩
  rw [decRegistration_flat is (itemsParams_ne_nil p is h1) h3, h2]

/-- the constructor call with `relays` omitted or `None`: the constructed object holds `[]`, writes the empty array, and
round-trips (before daec0e4 it held `None` and wrote `null`) -/
theorem registration_roundtrip_default_relays (p : PoolParams) (hn : p.relays = Option.none) (ht : paramsTyped p = true) :
    (postInit p).relays = some [] ∧
      ∃ i, encRegistration (postInit p) = some i ∧ decRegistration i = .ok (normParams (postInit p)) := by
  have hp : postInit p = { p with relays := some [] } := by simp [postInit, hn]
  rw [hp]
  refine ⟨rfl, registration_roundtrip _ ⟨rfl, fun rs e r hm => ?_⟩ ?_⟩
  · cases e
    simp at hm
  · simpa [paramsTyped, paramsOkW, relaysTyped, hn] using ht

/-- what `normParams` keeps: everything but the container class of an untagged owner set -/
theorem registration_norm_fields (p : PoolParams) :
    (normParams p).operator = p.operator ∧ (normParams p).vrf = p.vrf ∧ (normParams p).pledge = p.pledge ∧
    (normParams p).cost = p.cost ∧ (normParams p).margin = p.margin ∧ (normParams p).rewardAccount = p.rewardAccount ∧
    Owners.pyEq (normParams p).owners p.owners = true ∧ (normParams p).relays = p.relays ∧
    (normParams p).metadata = p.metadata ∧ (normParams p).id = p.id :=
  ⟨rfl, rfl, rfl, rfl, rfl, rfl, normOwners_pyEq p.owners, rfl, rfl, rfl⟩

/-- a decoded registration is a fixed point: decoding its encoding returns it exactly -/
theorem registration_roundtrip_fixed_point (p : PoolParams) (hc : ParamsConstructed p) (ht : paramsTyped p = true) :
    ∃ i, encRegistration (normParams p) = some i ∧ decRegistration i = .ok (normParams p) := by
  have hn := (paramsOk_iff _).mp (paramsOk_norm p ((paramsOk_iff p).mpr ⟨hc, ht⟩))
  have := registration_roundtrip (normParams p) hn.1 hn.2
  rwa [normParams_idem] at this

/-- whatever `PoolParams.from_primitive` returns went through `__post_init__`; the relays it holds are constructed -/
theorem registration_decoded_constructed (xs : List Item) (p : PoolParams) (h : decParamsItems xs = .ok p) :
    postInit p = p ∧ p.relays.isSome = true :=
  ⟨decParamsItems_postInit xs p h, isSome_of_postInit p (decParamsItems_postInit xs p h)⟩

theorem relays_decoded_constructed (is : List Item) (rs : List Relay) (h : decRelayList is = .ok rs) :
    ∀ r ∈ rs, normRelay r = some r := decRelayList_constructed is rs h

/-- the nested form `[3, [pool_params…]]` that `from_primitive` also accepts gives the same parameters -/
theorem registration_nested_form (p : PoolParams) (hc : ParamsConstructed p) (ht : paramsTyped p = true) :
    ∃ is, itemsParams p = some is ∧ decRegistration (.array [.uint 3, .array is]) = .ok (normParams p) := by
  obtain ⟨is, h1, h2, _⟩ := decParamsItems_items p ((paramsOk_iff p).mpr ⟨hc, ht⟩)
  exact ⟨is, h1, by rw [decRegistration_nested, h2]⟩

/-- **re-encode equality**, no hypothesis: the decoded form is written exactly as the original -/
theorem registration_reencode (p : PoolParams) : encRegistration (normParams p) = encRegistration p := by
  simp [encRegistration, itemsParams_norm]

/-- **re-encode equality for EVERY registration holding a list of relays that can be written** — also one whose relays had
address attributes assigned after construction (class invariants only): it decodes to a constructed registration that is
written as the same item -/
theorem registration_reencode_any (p : PoolParams) (hw : paramsOkW p = true) (hs : p.relays.isSome = true) (i : Item)
    (h : encRegistration p = some i) :
    ∃ p', decRegistration i = .ok p' ∧ ParamsConstructed p' ∧ paramsTyped p' = true ∧ encRegistration p' = some i := by
  obtain ⟨is, his, rfl⟩ := encRegistration_some p i h
  obtain ⟨p', h1, h2, h3, _, h5⟩ := decParamsItems_of_enc p hw hs is his
  exact ⟨p', by rw [decRegistration_flat is (itemsParams_ne_nil p is his) h5, h1], ((paramsOk_iff p').mp h2).1,
    ((paramsOk_iff p').mp h2).2, by simp [encRegistration, h3]⟩

/-- at the byte level (`PoolRegistration.from_cbor(x.to_cbor())`), for CBOR-representable sizes -/
theorem registration_roundtrip_bytes (p : PoolParams) (hc : ParamsConstructed p) (ht : paramsTyped p = true) (i : Item)
    (he : encRegistration p = some i) (hw : Cbor.WF i) : decodeWith decRegistration (encode i) = .ok (normParams p) := by
  obtain ⟨i', h1, h2⟩ := registration_roundtrip p hc ht
  rw [he] at h1
  obtain rfl := Option.some.inj h1
  rw [decodeWith_encode _ _ hw, h2]

/-- **the flattening is injective**: two constructed, well-typed registrations written as the same item are the same
registration (up to the container class of an untagged owner set, which is not on the wire) -/
theorem registration_injective (p q : PoolParams) (hpc : ParamsConstructed p) (hpt : paramsTyped p = true)
    (hqc : ParamsConstructed q) (hqt : paramsTyped q = true)
    (h : encRegistration p = encRegistration q) : normParams p = normParams q := by
  obtain ⟨is, e, d, _⟩ := decParamsItems_items p ((paramsOk_iff p).mpr ⟨hpc, hpt⟩)
  obtain ⟨is', e', d', _⟩ := decParamsItems_items q ((paramsOk_iff q).mpr ⟨hqc, hqt⟩)
  simp only [encRegistration, e, e', Option.map_some, Option.some.injEq, Item.array.injEq, List.cons.injEq, true_and] at h
  subst h
  exact Res.ok.inj (d.symm.trans d')

/-- `PoolParams` on its own (`PoolParams.from_cbor(p.to_cbor())`) -/
theorem params_roundtrip (p : PoolParams) (hc : ParamsConstructed p) (ht : paramsTyped p = true) :
    ∃ i, encParams p = some i ∧ decParams i = .ok (normParams p) := by
  obtain ⟨is, h1, h2, _⟩ := decParamsItems_items p ((paramsOk_iff p).mpr ⟨hc, ht⟩)
  exact ⟨.array is, by simp [encParams, h1], by simp [decParams, listElems?, h2]⟩

/-! ## retirement, pool id -/

theorem retirement_roundtrip (r : Retirement) (h : retirementOk r = true) : decRetirement (itemRetirement r) = .ok r :=
  decRetirement_item r h

theorem retirement_roundtrip_bytes (r : Retirement) (h : retirementOk r = true) (hw : Cbor.WF (itemRetirement r)) :
    decodeWith decRetirement (encode (itemRetirement r)) = .ok r := by
  rw [decodeWith_encode _ _ hw, decRetirement_item r h]

theorem retirement_injective (r s : Retirement) (hr : retirementOk r = true) (hs : retirementOk s = true)
    (h : itemRetirement r = itemRetirement s) : r = s := by
  have h1 := decRetirement_item r hr
  rw [h, decRetirement_item s hs] at h1
  exact (Res.ok.inj h1).symm

/-- the two certificates cannot be taken for each other: each decoder refuses the other's array with
`DeserializeException` (so the `Certificate` union moves on to the next alternative) -/
theorem registration_retirement_disjoint (p : PoolParams) (r : Retirement) (i : Item) (h : encRegistration p = some i) :
    decRetirement i = .deser ∧ decRegistration (itemRetirement r) = .deser := by
  obtain ⟨is, _, rfl⟩ := encRegistration_some p i h
  exact ⟨by simp [decRetirement, codeIs_uint], by simp [decRegistration, itemRetirement, codeIs_uint]⟩

theorem poolid_roundtrip (s : Bytes) (h : isPoolId s = true) : decPoolId (itemPoolId s) = .ok s := by
  simp [decPoolId, itemPoolId, h]

/-- **pool id text round trip**: for every key hash (any length ≥ 2, in particular 28 bytes) `bech32.encode("pool", kh)`
succeeds, is accepted by `is_bech32_cardano_pool_id` / `PoolId(...)`, and `bech32.decode` of it is `kh` -/
theorem poolid_text_roundtrip (kh : Bytes) (h2 : 2 ≤ kh.length) :
    ∃ s, poolIdText kh = some s ∧ isPoolId s = true ∧ Bech32.decode (asciiChars s) = .ok (kh.map UInt8.toNat) :=
  poolIdText_spec kh h2

/-! ## non-vacuity: concrete objects meeting the hypotheses, evaluated by the kernel -/

def exRelays : List Relay :=
  [.addr (.int 3001) (some (asc "192.168.0.1")) (some (asc "2001:db8::ff00:42:8329")),
   .addr .none Option.none (some (asc "::ffff:1.2.3.4")),
   .addr (.int 0) (some (asc "0.0.0.0")) Option.none,
   .name (.int 65535) (.text (asc "relay.example.com")),
   .name .none (.text (asc "")),
   .multi (.text (asc "pool.example"))]

def h28 (x : Nat) : Bytes := List.replicate 28 (UInt8.ofNat x)

def exParams : PoolParams :=
  ⟨h28 1, List.replicate 32 2, 500000000, 340000000, ⟨3, 100⟩, 0xe1 :: h28 3, .oset true [h28 4, h28 5],
    some exRelays, some ⟨asc "https://pool.example/m.json", List.replicate 32 7⟩, Option.none⟩

/-- the same with a plain list of owners, an untagged set, no relays, negative / bignum coins, and a pool id -/
def exParams2 : PoolParams :=
  { exParams with owners := .oset false [h28 9], relays := some [], pledge := -1, cost := 2^64, margin := ⟨0, 1⟩,
                  metadata := Option.none }

theorem exRelays_ok : exRelays.all relayOk = true := by decide +kernel
theorem exParams_ok : paramsOk exParams = true := by
  have hw : paramsOkW exParams = true := by decide +kernel
  show (paramsOkW exParams && exRelays.all relayOk) = true
  rw [hw, exRelays_ok]
  rfl
theorem exParams2_ok : paramsOk exParams2 = true := by decide +kernel

/-- the constructor call with the relays left out: `__post_init__` of parameters holding `None` -/
def exDefault : PoolParams := postInit { exParams with relays := Option.none }

example : (match exDefault.relays with | some [] => true | _ => false) = true ∧ paramsOk exDefault = true := by decide +kernel
-- the relays position (item 8 of the flattened array) holds the empty array, not `null`
example : (match encRegistration exDefault with
    | some (Item.array xs) => (match xs[8]? with | some (Item.array []) => true | _ => false)
    | _ => false) = true := by decide +kernel

example : ∃ i, encRegistration exParams = some i ∧ decRegistration i = .ok (normParams exParams) :=
  registration_roundtrip exParams ((paramsOk_iff _).mp exParams_ok).1 ((paramsOk_iff _).mp exParams_ok).2

-- the kernel runs encoder, CBOR codec and decoder: 10 items, 6 relays back, same bytes again
example : (match encRegistration exParams with
    | some i => (match decodeWith decRegistration (encode i) with
      | .ok p => (match i with | .array xs => xs.length == 10 | _ => false) &&
          (p.relays.map List.length == some 6) && p.margin == ⟨3, 100⟩ && p.owners == .oset true [h28 4, h28 5] &&
          ((encRegistration p).map encode == some (encode i))
      | _ => false)
    | Option.none => false) = true := by decide +kernel

-- an untagged owner set comes back as a list (and is `==`), negative and bignum coins survive
example : (match encRegistration exParams2 with
    | some i => (match decodeWith decRegistration (encode i) with
      | .ok p => p.owners == .list [h28 9] && Owners.pyEq p.owners exParams2.owners && p.pledge == -1 && p.cost == 2^64 &&
          ((encRegistration p).map encode == some (encode i))
      | _ => false)
    | Option.none => false) = true := by decide +kernel

-- the address conversions on the forms that matter
example : ntop6 (List.replicate 15 0 ++ [1]) = some (asc "::1") ∧ ntop6 (List.replicate 16 0) = some (asc "::") ∧
    ntop6 ([0x20, 0x01, 0x0d, 0xb8] ++ List.replicate 12 0) = some (asc "2001:db8::") ∧
    ntop6 (List.replicate 12 0 ++ [1, 2, 3, 4]) = some (asc "::1.2.3.4") ∧
    ntop6 ([0, 1, 0, 0, 0, 0, 0, 2, 0, 0, 0, 0, 0, 0, 0, 3]) = some (asc "1:0:0:2::3") ∧
    pton6 (asc "1:0:0:2::3") = some [0, 1, 0, 0, 0, 0, 0, 2, 0, 0, 0, 0, 0, 0, 0, 3] ∧
    aton (asc "0x7f.1") = some [127, 0, 0, 1] ∧ aton (asc "1.2.3.256") = Option.none ∧ pton6 (asc "1::2::3") = Option.none := by
  decide +kernel

-- `Fraction(2, 4)`, `Fraction(3, -6)`, `Fraction(1, 0)`
example : mkFrac 2 4 = some ⟨1, 2⟩ ∧ mkFrac 3 (-6) = some ⟨-1, 2⟩ ∧ mkFrac 1 0 = Option.none := by decide +kernel

-- a tagged owner set with a duplicate on the wire is de-duplicated by the decoder
example : (match decOwners (.tag 258 (.array [.bytes (h28 1), .bytes (h28 2), .bytes (h28 1)])) with
    | .ok o => o == .oset true [h28 1, h28 2]
    | _ => false) = true := by decide +kernel

example : retirementOk ⟨h28 1, 300⟩ = true := by decide
example : decRetirement (itemRetirement ⟨h28 1, 300⟩) = .ok ⟨h28 1, 300⟩ := retirement_roundtrip _ (by decide)

-- a pool id: the text of the all-ones key hash
example : (match poolIdText (h28 1) with
    | some s => isPoolId s && (s.take 5 == asc "pool1") && s.length == 56
    | Option.none => false) = true := by decide +kernel

end Pyc.C01.Pool

#print axioms Pyc.C01.Pool.ipv4_text_roundtrip
#print axioms Pyc.C01.Pool.ipv6_text_roundtrip
#print axioms Pyc.C01.Pool.ip_accepted_length
#print axioms Pyc.C01.Pool.relay_norm_idempotent
#print axioms Pyc.C01.Pool.relay_constructor_constructed
#print axioms Pyc.C01.Pool.relay_decoded_constructed
#print axioms Pyc.C01.Pool.relay_ok_iff
#print axioms Pyc.C01.Pool.relay_roundtrip
#print axioms Pyc.C01.Pool.relay_roundtrip_from_arguments
#print axioms Pyc.C01.Pool.relay_reencode
#print axioms Pyc.C01.Pool.relay_constructed_from_bytes
#print axioms Pyc.C01.Pool.relays_roundtrip
#print axioms Pyc.C01.Pool.fraction_constructor
#print axioms Pyc.C01.Pool.fraction_roundtrip
#print axioms Pyc.C01.Pool.owners_roundtrip
#print axioms Pyc.C01.Pool.owners_wire_tagged
#print axioms Pyc.C01.Pool.owners_wire_untagged
#print axioms Pyc.C01.Pool.owners_norm
#print axioms Pyc.C01.Pool.owners_constructor
#print axioms Pyc.C01.Pool.params_postinit_idempotent
#print axioms Pyc.C01.Pool.params_ok_iff
#print axioms Pyc.C01.Pool.registration_roundtrip
#print axioms Pyc.C01.Pool.registration_roundtrip_default_relays
#print axioms Pyc.C01.Pool.registration_norm_fields
#print axioms Pyc.C01.Pool.registration_roundtrip_fixed_point
#print axioms Pyc.C01.Pool.registration_decoded_constructed
#print axioms Pyc.C01.Pool.relays_decoded_constructed
#print axioms Pyc.C01.Pool.registration_nested_form
#print axioms Pyc.C01.Pool.registration_reencode
#print axioms Pyc.C01.Pool.registration_reencode_any
#print axioms Pyc.C01.Pool.registration_roundtrip_bytes
#print axioms Pyc.C01.Pool.registration_injective
#print axioms Pyc.C01.Pool.params_roundtrip
#print axioms Pyc.C01.Pool.retirement_roundtrip
#print axioms Pyc.C01.Pool.retirement_roundtrip_bytes
#print axioms Pyc.C01.Pool.retirement_injective
#print axioms Pyc.C01.Pool.registration_retirement_disjoint
#print axioms Pyc.C01.Pool.poolid_roundtrip
#print axioms Pyc.C01.Pool.poolid_text_roundtrip
#print axioms Pyc.C01.Pool.exRelays_ok
#print axioms Pyc.C01.Pool.exParams_ok
#print axioms Pyc.C01.Pool.exParams2_ok
