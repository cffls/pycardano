import Pyc.Generated.Schema

/-! # C02 (extension) — the constants of the hand-written codec models are tied to the source (tie T1)

The models of the hand-written codecs (`Model/NativeScript.lean`, `Model/Pool.lean`, `Model/Gov.lean`,
`Model/WitnessCodec.lean`, `Model/Metadata.lean`) and their CDDL transliterations (`Spec/*.lean`) hard-code the type codes and map
keys the classes write: native-script constructors 0–5, relay kinds 0–2, the DRep / vote / redeemer-tag enumerations, the
witness-set keys 0–7, the Alonzo auxiliary-data keys 0–4.  The same constants are DATA of the classes (`_TYPE` / `_CODE`
field defaults, enum values, `metadata["key"]`) and so are part of the table regenerated from /repo on every run.  The kernel
re-checks here that the regenerated table still carries the values the models assume: a change of one of them in /repo breaks
an obligation deterministically (and is then exhibited concretely by the reference encoder of the differential run). -/

namespace Pyc.C02.Consts
open Pyc.Schema Pyc.Generated

/-- the default of an `init=False` field of a class (`_TYPE`, `_CODE`) -/
def constOf (S : List ClassDef) (cls fld : String) : Option Dflt :=
  (lookup S cls).bind fun c => (c.fields.find? (fun f => f.name == fld)).map (·.dflt)

def keyOf (S : List ClassDef) (cls fld : String) : Option Key :=
  (lookup S cls).bind fun c => (c.fields.find? (fun f => f.name == fld)).map (·.key)

def enumOf (S : List ClassDef) (cls : String) : Option (List Int) :=
  (lookup S cls).bind fun c => match c.kind with | .enum vs => some vs | _ => none

/-- `native_script = [0, keyhash] / [1, [*]] / [2, [*]] / [3, n, [*]] / [4, slot] / [5, slot]` -/
theorem native_script_codes :
    [("ScriptPubkey", 0), ("ScriptAll", 1), ("ScriptAny", 2), ("ScriptNofK", 3), ("InvalidBefore", 4), ("InvalidHereAfter", 5)].all
      (fun p => constOf repoSchema p.1 "_TYPE" == some (.int p.2)) = true := by decide +kernel

/-- `relay = [0, …] / [1, …] / [2, …]` -/
theorem relay_codes :
    [("SingleHostAddr", 0), ("SingleHostName", 1), ("MultiHostName", 2)].all
      (fun p => constOf repoSchema p.1 "_CODE" == some (.int p.2)) = true := by decide +kernel

/-- `drep` kinds 0–3, `vote` 0–2, `redeemer_tag` 0–5 (spend, mint, cert, reward, voting, proposing) -/
theorem enumerations :
    enumOf repoSchema "DRepKind" = some [0, 1, 2, 3] ∧ enumOf repoSchema "Vote" = some [0, 1, 2] ∧
      enumOf repoSchema "RedeemerTag" = some [0, 1, 2, 3, 4, 5] := by decide +kernel

/-- `transaction_witness_set` keys 0–7 in the order the models assume -/
theorem witness_set_keys :
    [("vkey_witnesses", 0), ("native_scripts", 1), ("bootstrap_witness", 2), ("plutus_v1_script", 3), ("plutus_data", 4),
     ("redeemer", 5), ("plutus_v2_script", 6), ("plutus_v3_script", 7)].all
      (fun p => keyOf repoSchema "TransactionWitnessSet" p.1 == some (.int p.2)) = true := by decide +kernel

/-- `#6.259({? 0 => metadata, ? 1 => [* native_script], ? 2 / 3 / 4 => [* plutus_vN_script]})` -/
theorem alonzo_metadata_keys :
    [("metadata", 0), ("native_scripts", 1), ("plutus_v1_scripts", 2), ("plutus_v2_scripts", 3), ("plutus_v3_scripts", 4)].all
      (fun p => keyOf repoSchema "AlonzoMetadata" p.1 == some (.int p.2)) = true := by decide +kernel

/-- non-vacuity: a swapped constructor code is noticed -/
example : constOf [{ name := "ScriptAll", kind := .array, overrides := [], fields :=
    [{ name := "_TYPE", key := .pos, optional := false, init := false, hook := false, ty := .int, dflt := .int 2 }] }] "ScriptAll" "_TYPE"
    ≠ some (.int 1) := by decide

end Pyc.C02.Consts

#print axioms Pyc.C02.Consts.native_script_codes
#print axioms Pyc.C02.Consts.relay_codes
#print axioms Pyc.C02.Consts.enumerations
#print axioms Pyc.C02.Consts.witness_set_keys
#print axioms Pyc.C02.Consts.alonzo_metadata_keys
