import Pyc.Model.Compose
import Pyc.Proofs.Typed
import Pyc.Proofs.NativeScript

/-! Fixed points of the item normalisers of the modelled leaves (Model/Compose.lean) — what the typing rule of `HasTypeL` for a
class with its own codec asks of the primitive it carries — from the leaves' round-trip facts; and the typing of a `UTxO`,
a table-driven parent over the output leaf, for every table of the right shape. -/

namespace Pyc.Compose
open Pyc.Cbor Pyc.Schema Pyc.Codec

theorem normOf_fixed {α : Type} (dec : Item → Res α) (enc : α → Item) (x : α) (h : dec (enc x) = .ok x) :
    normOf dec enc (enc x) = .ok (enc x) := by
  simp [normOf, h]

theorem normOf_fixed_norm {α : Type} (dec : Item → Res α) (enc : α → Item) (x y : α) (h : dec (enc x) = .ok y)
    (he : enc y = enc x) : normOf dec enc (enc x) = .ok (enc x) := by
  simp [normOf, h, he]

/-- whatever a normaliser built from an idempotent decoder returns is a fixed point -/
theorem normOf_stable {α : Type} (dec : Item → Res α) (enc : α → Item)
    (hst : ∀ i x, dec i = .ok x → dec (enc x) = .ok x) (i j : Item) (h : normOf dec enc i = .ok j) :
    normOf dec enc j = .ok j := by
  unfold normOf at h
  cases hd : dec i with
  | ok x => rw [hd] at h; cases h; exact normOf_fixed dec enc x (hst i x hd)
  | deser => rw [hd] at h; cases h
  | crash => rw [hd] at h; cases h

theorem normOfOpt_fixed {α : Type} (dec : Item → Res α) (enc : α → Option Item) (y : α) (i : Item)
    (h : dec i = .ok y) (hy : enc y = some i) : normOfOpt dec enc i = .ok i := by
  simp [normOfOpt, h, hy]

theorem decEach_fixed (f : Item → Res Item) (xs : List Item) (h : ∀ x ∈ xs, f x = .ok x) :
    Metadata.decEach (⟨id, f⟩ : Custom.Leaf Item) xs = .ok xs := by
  induction xs with
  | nil => rfl
  | cons x xs ih =>
    have hx : f x = .ok x := h x (by simp)
    simp [Metadata.decEach, hx, Custom.Res.bind, ih (fun y hy => h y (by simp [hy]))]

/-- `list_hook`: an array of fixed points is a fixed point -/
theorem listHookNorm_fixed (f : Item → Res Item) (xs : List Item) (h : ∀ x ∈ xs, f x = .ok x) :
    listHookNorm f (.array xs) = .ok (.array xs) := by
  simp [listHookNorm, Metadata.decScripts, decEach_fixed f xs h]

/-- the premise of `HasTypeL.custom` / `HasFieldsL.hook` for a leaf the environment holds -/
theorem fixed_of_leaf {L : LeafEnv} {n : String} {g : Item → Res Item} {i : Item} (e : L n = some g) (h : g i = .ok i) :
    ∀ f, L n = some f → f i = .ok i := by
  intro f hf
  rw [e] at hf; cases hf
  exact h

/-! ## a table-driven parent over the output leaf: `UTxO` -/

def isCls (t : Ty) (n : String) : Bool := match t with | .cls m => m == n | _ => false
def isInt (t : Ty) : Bool := match t with | .int => true | _ => false

theorem isCls_sound {t : Ty} {n : String} (h : isCls t n = true) : t = .cls n := by
  cases t <;> simp [isCls] at h; rw [h]
theorem isInt_sound {t : Ty} (h : isInt t = true) : t = .int := by
  cases t <;> simp [isInt] at h; rfl

/-- what typing a `UTxO` asks of the table: `UTxO` and `TransactionInput` are classes the generic theorem covers, with two
wire fields each (no hooks) of types `TransactionInput`, `TransactionOutput` and `TransactionId`, `int`; `TransactionId` is
a generic 32-byte class; `TransactionOutput` has a codec of its own -/
def utxoShapeB (S : List ClassDef) : Bool :=
  match lookup S "UTxO", lookup S "TransactionInput", lookup S "TransactionId", lookup S "TransactionOutput" with
  | some u, some ti, some th, some to =>
    coreClass u && coreClass ti && genericB th && !genericB to &&
      (match wireFields u, wireFields ti, th.kind with
        | [u0, u1], [i0, i1], .cbytes mn mx =>
          !u0.hook && !u1.hook && !i0.hook && !i1.hook && isCls u0.ty "TransactionInput" &&
            isCls u1.ty "TransactionOutput" && isCls i0.ty "TransactionId" && isInt i1.ty && mn == 32 && mx == 32
        | _, _, _ => false)
  | _, _, _, _ => false

theorem utxo_typed_of_shape {S : List ClassDef} {L : LeafEnv} (h : utxoShapeB S = true) {txid : Bytes} {ix : Int} {i : Item}
    (ht : txid.length = 32) (hi : IntOk ix) (hfix : ∀ f, L "TransactionOutput" = some f → f i = .ok i) :
    HasTypeL S L (.cls "UTxO") (.obj "UTxO" [.obj "TransactionInput" [.cb txid, .int ix], .opaque i]) := by
  unfold utxoShapeB at h
  split at h
  · rename_i u ti th to hU hI hH hO
    simp only [Bool.and_eq_true, Bool.not_eq_true', coreClass] at h
    obtain ⟨⟨⟨⟨⟨gU, sU⟩, gI, sI⟩, gH⟩, gO⟩, h⟩ := h
    split at h
    · rename_i u0 u1 i0 i1 mn mx fU fI hk
      simp only [Bool.and_eq_true, Bool.not_eq_true', beq_iff_eq] at h
      obtain ⟨⟨⟨⟨⟨⟨⟨⟨⟨a0, a1⟩, b0⟩, b1⟩, t0⟩, t1⟩, s0⟩, s1⟩, rfl⟩, rfl⟩ := h
      have hO' : Generic to → to.kind = .custom ∨ to.kind = .oset := fun hg => by
        unfold genericB at gO; rw [hg.1, hg.2] at gO; cases gO
      refine .obj hU (genericB_sound _ gU) (shapeOK_sound _ sU) ?_
      rw [fU]
      refine .cons a0 ?_ (.cons a1 ?_ .nil)
      · rw [isCls_sound t0]
        refine .obj hI (genericB_sound _ gI) (shapeOK_sound _ sI) ?_
        rw [fI]
        refine .cons b0 ?_ (.cons b1 ?_ .nil)
        · rw [isCls_sound s0]; exact .cb hH (genericB_sound _ gH) hk (by omega) (by omega)
        · rw [isInt_sound s1]; exact .int hi
      · rw [isCls_sound t1]; exact .custom hO hO' hfix
    · cases h
  · cases h

/-- the native-script leaf of Model/Compose.lean is the one of Proofs/NativeScript.lean -/
theorem nsLeafC_eq : nsLeafC = NativeScript.nsLeaf := rfl

end Pyc.Compose
