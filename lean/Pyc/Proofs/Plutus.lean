import Pyc.Model.Plutus
import Pyc.Proofs.Canonical

/-! Lemmas for C18: chunking, bignum payloads, and the structural lemmas that relate the routes by which a datum
reaches `cbor2.dumps` (plain lists, explicit `IndefiniteList`s, typed instances, the JSON form, decoding) to the
specification `specItem`. -/

namespace Pyc.Plutus
open Pyc.Cbor

theorem joinChunks_specChunksAux (fuel : Nat) (b : Bytes) : joinChunks (specChunksAux fuel b) = b := by
  induction fuel generalizing b with
  | zero => simp [specChunksAux, joinChunks]
  | succ fuel ih =>
    unfold specChunksAux
    split
    · simp [joinChunks]
    · simp [joinChunks, ih]

/-- the shape of a chunk list of a string longer than 64 bytes: all chunks 64 bytes, the last one 1..64 -/
def ChunkShape : List Bytes → Prop
  | [] => False
  | [c] => 0 < c.length ∧ c.length ≤ 64
  | c :: c' :: r => c.length = 64 ∧ ChunkShape (c' :: r)

theorem chunkShape_cons (c : Bytes) (r : List Bytes) (hc : c.length = 64) (hr : ChunkShape r) :
    ChunkShape (c :: r) := by
  cases r with
  | nil => exact hr.elim
  | cons c' r => exact ⟨hc, hr⟩

theorem chunkShape_aux (fuel : Nat) (b : Bytes) (hb : 0 < b.length) (hf : b.length ≤ fuel) :
    ChunkShape (specChunksAux fuel b) := by
  induction fuel generalizing b with
  | zero => omega
  | succ fuel ih =>
    unfold specChunksAux
    split
    · exact ⟨hb, by assumption⟩
    · exact chunkShape_cons _ _ (by rw [List.length_take]; omega)
        (ih _ (by rw [List.length_drop]; omega) (by rw [List.length_drop]; omega))

theorem pyChunksFrom_eq (b : Bytes) (n i fuel : Nat) (hpos : 0 < (b.drop i).length)
    (hn : n = ((b.drop i).length + 63) / 64) (hf : (b.drop i).length ≤ fuel) :
    pyChunksFrom b n i = specChunksAux fuel (b.drop i) := by
  induction n generalizing i fuel with
  | zero => omega
  | succ n ih =>
    cases fuel with
    | zero => omega
    | succ fuel =>
      unfold pyChunksFrom specChunksAux
      have hdd : (b.drop i).drop 64 = b.drop (i + 64) := by simp [List.drop_drop]
      have hl : (b.drop (i + 64)).length = (b.drop i).length - 64 := by simp; omega
      split
      · rename_i hle
        have : n = 0 := by omega
        subst this
        simp [pyChunksFrom, List.take_of_length_le hle]
      · rename_i hgt
        rw [hdd, ih (i + 64) fuel (by omega) (by omega) (by omega)]

theorem pyChunks_eq (b : Bytes) (h : 64 < b.length) : pyChunks b = specChunks b := by
  unfold pyChunks specChunks
  have := pyChunksFrom_eq b ((b.length + 63) / 64) 0 b.length (by simp; omega) (by simp) (by simp)
  simpa using this

theorem encByteString_eq (b : Bytes) : encByteString b = specBytes b := by
  unfold encByteString specBytes
  by_cases h : b.length ≤ 64
  · rw [if_neg (by omega), if_pos h]
  · rw [if_pos (by omega), if_neg h, pyChunks_eq b (by omega)]

theorem specInt_eq_ofInt (i : Int) (h : intFits i = true) : specInt i = ofInt i := by
  unfold intFits bignumPayload at h
  unfold specInt ofInt
  by_cases h0 : 0 ≤ i
  · simp only [h0, if_true] at h ⊢
    split
    · rfl
    · have : specBytes (natBytes i.toNat) = .bytes (natBytes i.toNat) := by
        unfold specBytes; rw [if_pos (by simpa using h)]
      rw [this]
  · simp only [h0, if_false] at h ⊢
    split
    · rfl
    · have : specBytes (natBytes (-1 - i).toNat) = .bytes (natBytes (-1 - i).toNat) := by
        unfold specBytes; rw [if_pos (by simpa using h)]
      rw [this]

theorem decodeItem_ofInt (cext : Bool) (i : Int) : decodeItem cext (ofInt i) = some (.int i) := by
  unfold ofInt
  by_cases h0 : 0 ≤ i
  · simp only [h0, if_true]
    split
    · simp only [decodeItem]; congr 2; omega
    · simp only [decodeItem, decodeBignum, bignumOf, fromBE_natBytes]
      simp; omega
  · simp only [h0, if_false]
    split
    · simp only [decodeItem]; congr 2; omega
    · simp only [decodeItem, decodeBignum, bignumOf, fromBE_natBytes]
      simp; omega

theorem getTag_nat (c : Nat) :
    getTag c = if c < 7 then some (121 + c) else if c < 128 then some (1280 + (c - 7)) else none := by
  unfold getTag
  by_cases h1 : c < 7
  · rw [if_pos h1, if_pos (by omega)]; rfl
  · rw [if_neg h1, if_neg (by omega)]
    by_cases h2 : c < 128
    · rw [if_pos h2, if_pos (by omega)]; congr 1; omega
    · rw [if_neg h2, if_neg (by omega)]

theorem getTag_some {c t : Nat} (h : getTag c = some t) :
    (c < 7 ∧ t = 121 + c) ∨ (7 ≤ c ∧ c < 128 ∧ t = 1273 + c) := by
  rw [getTag_nat] at h
  by_cases h1 : c < 7
  · rw [if_pos h1] at h; injection h with h; omega
  · by_cases h2 : c < 128
    · rw [if_neg h1, if_pos h2] at h; injection h with h; omega
    · rw [if_neg h1, if_neg h2] at h; cases h

theorem getTag_none (c : Nat) (h : getTag c = none) : 128 ≤ c := by
  rw [getTag_nat] at h
  by_cases h1 : c < 7
  · rw [if_pos h1] at h; cases h
  · by_cases h2 : c < 128
    · rw [if_neg h1, if_pos h2] at h; cases h
    · omega

theorem constrOfTag_getTag (c t : Nat) (h : getTag c = some t) : constrOfTag t = some (c : Int) := by
  unfold constrOfTag
  rcases getTag_some h with ⟨h1, rfl⟩ | ⟨h1, h2, rfl⟩
  · rw [if_pos (by omega)]; congr 1; omega
  · rw [if_neg (by omega), if_pos (by omega)]; congr 1; omega

/-- a compact tag is never 2, 3 (bignums) or 102 (general form) -/
theorem getTag_range (c t : Nat) (h : getTag c = some t) : t ≠ 2 ∧ t ≠ 3 ∧ t ≠ 102 := by
  have := getTag_some h; omega

theorem specConstr_eq (c : Nat) (x : Item) :
    specConstr c x = match getTag c with
      | some t => .tag t x
      | none => .tag 102 (.array [ofInt c, x]) := by
  rw [getTag_nat]; unfold specConstr
  by_cases h1 : c < 7
  · simp [h1]
  · by_cases h2 : c < 128
    · simp [h1, h2]
    · simp [h1, h2]

/-! ## sequences and constructors on the Python side -/

theorem rawDfs_primSeq (e : Bool) (ps : List Prim) :
    rawDfs (primSeq e ps) = primSeq true (if e then ps else rawDfsList ps) := by
  cases e <;> cases ps <;> simp [primSeq, rawDfs, rawDfsList]

theorem rawDfs_primConstr (c : Nat) (e : Bool) (ps : List Prim) :
    rawDfs (primConstr c (primSeq e ps)) = primConstr c (rawDfs (primSeq e ps)) := by
  unfold primConstr
  cases h : getTag c with
  | none => simp [rawDfs, rawDfsTag, rawDfsList]
  | some t =>
    have ht := (getTag_range c t h).2.2
    cases e <;> cases ps <;> simp [primSeq, rawDfs, rawDfsTag, ht]

mutual
theorem rawDfs_plain (d : PData) : rawDfs (primOf false d) = primOf true d := by
  cases d with
  | constr c fs => simp [primOf, rawDfs_primConstr, rawDfs_primSeq, rawDfs_plain_list fs]
  | list xs => simp [primOf, rawDfs_primSeq, rawDfs_plain_list xs]
  | map kvs => simp only [primOf, rawDfs, rawDfs_plain_pairs kvs]
  | int i => simp [primOf, rawDfs]
  | bytes b => simp only [primOf, primBytes]; split <;> simp [rawDfs]
theorem rawDfs_plain_list (xs : List PData) : rawDfsList (primOfList false xs) = primOfList true xs := by
  cases xs with
  | nil => simp [primOfList, rawDfsList]
  | cons x xs => simp [primOfList, rawDfsList, rawDfs_plain x, rawDfs_plain_list xs]
theorem rawDfs_plain_pairs (kvs : List (PData × PData)) :
    rawDfsPairs (primOfPairs false kvs) = primOfPairs true kvs := by
  cases kvs with
  | nil => simp [primOfPairs, rawDfsPairs]
  | cons p kvs =>
    obtain ⟨k, v⟩ := p
    simp [primOfPairs, rawDfsPairs, rawDfs_plain k, rawDfs_plain v, rawDfs_plain_pairs kvs]
end

mutual
theorem rawDfs_explicit (d : PData) : rawDfs (primOf true d) = primOf true d := by
  cases d with
  | constr c fs => simp [primOf, rawDfs_primConstr, rawDfs_primSeq]
  | list xs => simp [primOf, rawDfs_primSeq]
  | map kvs => simp only [primOf, rawDfs, rawDfs_explicit_pairs kvs]
  | int i => simp [primOf, rawDfs]
  | bytes b => simp only [primOf, primBytes]; split <;> simp [rawDfs]
theorem rawDfs_explicit_pairs (kvs : List (PData × PData)) :
    rawDfsPairs (primOfPairs true kvs) = primOfPairs true kvs := by
  cases kvs with
  | nil => simp [primOfPairs, rawDfsPairs]
  | cons p kvs =>
    obtain ⟨k, v⟩ := p
    simp [primOfPairs, rawDfsPairs, rawDfs_explicit k, rawDfs_explicit v, rawDfs_explicit_pairs kvs]
end

/-! ## encoding the explicit style gives the specification -/

theorem encodePrim_primConstr (c : Nat) (x : Prim) :
    encodePrim (primConstr c x) = specConstr c (encodePrim x) := by
  rw [specConstr_eq]; unfold primConstr
  cases h : getTag c with
  | some t => simp [encodePrim]
  | none => simp [encodePrim, encodePrimList]

/-- a byte string may be wrapped in a `ByteString` at any length, and has to be beyond 64 bytes -/
theorem encodePrim_bstr_or_bytes (b : Bytes) (p : Prop) [Decidable p] (h : ¬ p → b.length ≤ 64) :
    encodePrim (if p then .bstr b else .bytes b) = specBytes b := by
  split
  · simp only [encodePrim, encByteString_eq]
  · rename_i hp; simp only [encodePrim, specBytes, if_pos (h hp)]

theorem encodePrim_primBytes (b : Bytes) : encodePrim (primBytes b) = specBytes b :=
  encodePrim_bstr_or_bytes b _ (by omega)

theorem encodePrim_primSeq (ps : List Prim) : encodePrim (primSeq true ps) = specSeq (encodePrimList ps) := by
  cases ps <;> simp [primSeq, specSeq, encodePrim, encodePrimList]

mutual
theorem encode_explicit (d : PData) (h : small d = true) : encodePrim (primOf true d) = specItem d := by
  cases d with
  | constr c fs =>
    simp only [small] at h
    simp only [primOf, specItem, encodePrim_primConstr, encodePrim_primSeq, encode_explicit_list fs h]
  | list xs =>
    simp only [small] at h
    simp only [primOf, specItem, encodePrim_primSeq, encode_explicit_list xs h]
  | map kvs =>
    simp only [small] at h
    simp only [primOf, specItem, encodePrim, encode_explicit_pairs kvs h]
  | int i =>
    simp only [small] at h
    simp only [primOf, specItem, encodePrim, specInt_eq_ofInt i h]
  | bytes b => simp only [primOf, specItem, encodePrim_primBytes]
theorem encode_explicit_list (xs : List PData) (h : smallList xs = true) :
    encodePrimList (primOfList true xs) = specList xs := by
  cases xs with
  | nil => simp [primOfList, specList, encodePrimList]
  | cons x xs =>
    simp only [smallList, Bool.and_eq_true] at h
    simp [primOfList, specList, encodePrimList, encode_explicit x h.1, encode_explicit_list xs h.2]
theorem encode_explicit_pairs (kvs : List (PData × PData)) (h : smallPairs kvs = true) :
    encodePrimPairs (primOfPairs true kvs) = specPairs kvs := by
  cases kvs with
  | nil => simp [primOfPairs, specPairs, encodePrimPairs]
  | cons p kvs =>
    obtain ⟨k, v⟩ := p
    simp only [smallPairs, Bool.and_eq_true] at h
    simp [primOfPairs, specPairs, encodePrimPairs, encode_explicit k h.1.1, encode_explicit v h.1.2,
      encode_explicit_pairs kvs h.2]
end

/-! ## typed instances: `to_primitive` of the canonical typed embedding is the explicit style -/

theorem typedPrim_obj (c : Nat) (fs : List TObj) :
    typedPrim (.obj c fs) = primConstr c (primSeq true (typedPrimList fs)) := by
  cases h : typedPrimList fs <;> simp [typedPrim, primConstr, primSeq, h]

mutual
theorem typedPrim_typedOf (d : PData) : typedPrim (typedOf d) = primOf true d := by
  cases d with
  | constr c fs => simp only [typedOf, typedPrim_obj, primOf, typedPrim_typedOf_list fs]
  | list xs =>
    have ih := typedPrim_typedOf_list xs
    cases xs with
    | nil => simp [typedOf, primOf, primSeq, typedPrim, typedPrimList, primOfList]
    | cons f fs =>
      simp only [typedOfList, primOfList] at ih
      simp [typedOf, primOf, primSeq, primOfList, typedOfList, typedPrim, ih]
  | map kvs => simp only [typedOf, typedPrim, primOf, typedPrim_typedOf_pairs kvs]
  | int i => simp [typedOf, typedPrim, primOf]
  | bytes b => simp only [typedOf, primOf, primBytes]; split <;> simp [typedPrim]
theorem typedPrim_typedOf_list (xs : List PData) : typedPrimList (typedOfList xs) = primOfList true xs := by
  cases xs with
  | nil => simp [typedOfList, typedPrimList, primOfList]
  | cons x xs => simp [typedOfList, typedPrimList, primOfList, typedPrim_typedOf x, typedPrim_typedOf_list xs]
theorem typedPrim_typedOf_pairs (kvs : List (PData × PData)) :
    typedPrimPairs (typedOfPairs kvs) = primOfPairs true kvs := by
  cases kvs with
  | nil => simp [typedOfPairs, typedPrimPairs, primOfPairs]
  | cons p kvs =>
    obtain ⟨k, v⟩ := p
    simp [typedOfPairs, typedPrimPairs, primOfPairs, typedPrim_typedOf k, typedPrim_typedOf v,
      typedPrim_typedOf_pairs kvs]
end

/-! ## Python dicts with distinct keys -/

theorem dictInsert_fresh (acc : List (Prim × Prim)) (k v : Prim)
    (h : (acc.map (fun p => keyOf p.1)).contains (keyOf k) = false) :
    dictInsert acc k v = acc ++ [(k, v)] := by
  induction acc with
  | nil => simp [dictInsert]
  | cons p r ih =>
    obtain ⟨k', v'⟩ := p
    simp only [List.map_cons, List.contains_cons, Bool.or_eq_false_iff] at h
    have hne : ¬ keyOf k' = keyOf k := by
      have := h.1
      intro e; rw [e] at this; simp at this
    simp [dictInsert, hne, ih h.2]

theorem dictBuild_distinct (acc l : List (Prim × Prim))
    (h : distinctFrom (acc.map (fun p => keyOf p.1)) (l.map (fun p => keyOf p.1)) = true) :
    dictBuild acc l = some (acc ++ l) := by
  induction l generalizing acc with
  | nil => simp [dictBuild]
  | cons p r ih =>
    obtain ⟨k, v⟩ := p
    simp only [List.map_cons, distinctFrom, Bool.and_eq_true, Bool.not_eq_true'] at h
    obtain ⟨⟨hs, hc⟩, hr⟩ := h
    have := ih (acc ++ [(k, v)]) (by simpa using hr)
    simp [dictBuild, hs, dictInsert_fresh acc k v hc, this]

theorem keyOf_primOf (e : Bool) (k : PData) : keyOf (primOf e k) = atomOf k := by
  cases k with
  | constr c fs =>
    simp only [primOf, primConstr, atomOf]
    cases getTag c <;> simp [keyOf]
  | list xs => simp only [primOf, primSeq, atomOf]; split <;> simp [keyOf]
  | map kvs => simp [primOf, keyOf, atomOf]
  | int i => simp [primOf, keyOf, atomOf]
  | bytes b => simp only [primOf, primBytes, atomOf]; split <;> simp [keyOf]

theorem keys_primOfPairs (e : Bool) (kvs : List (PData × PData)) :
    (primOfPairs e kvs).map (fun p => keyOf p.1) = pairKeys kvs := by
  induction kvs with
  | nil => simp [primOfPairs, pairKeys]
  | cons p r ih => obtain ⟨k, v⟩ := p; simp [primOfPairs, pairKeys, keyOf_primOf, ih]

/-! ## decoding the specification's item -/

theorem decodeItem_specSeq (cext : Bool) (xs : List Item) (ps : List Prim)
    (h : decodeItemList cext xs = some ps) : decodeItem cext (specSeq xs) = some (primSeq (!cext) ps) := by
  cases xs with
  | nil =>
    simp only [decodeItemList, Option.some.injEq] at h
    subst h
    simp [specSeq, decodeItem, decodeItemList, primSeq]
  | cons x xs =>
    have hne : ∃ p ps', ps = p :: ps' := by
      simp only [decodeItemList] at h
      split at h
      · simp only [Option.some.injEq] at h; exact ⟨_, _, h.symm⟩
      · cases h
    obtain ⟨p, ps', rfl⟩ := hne
    simp only [specSeq, List.isEmpty_cons, Bool.false_eq_true, if_false, decodeItem, h, Option.map_some]
    cases cext <;> simp [primSeq]

theorem decodeItem_specConstr (cext : Bool) (c : Nat) (x : Item) (p : Prim) (h : decodeItem cext x = some p) :
    decodeItem cext (specConstr c x) = some (primConstr c p) := by
  rw [specConstr_eq]; unfold primConstr
  cases hg : getTag c with
  | some t =>
    have ht := getTag_range c t hg
    simp [decodeItem, ht.1, ht.2.1, h]
  | none =>
    simp [decodeItem, decodeItemList, decodeItem_ofInt, h]

mutual
theorem decode_spec (cext : Bool) (d : PData) (hc : chunkFree d = true) (hk : keysOk d = true) :
    decodeItem cext (specItem d) = some (primOf (!cext) d) := by
  cases d with
  | constr c fs =>
    simp only [chunkFree] at hc; simp only [keysOk] at hk
    have ih := decode_spec_list cext fs hc hk
    simp only [specItem, primOf]
    exact decodeItem_specConstr cext c _ _ (decodeItem_specSeq cext _ _ ih)
  | list xs =>
    simp only [chunkFree] at hc; simp only [keysOk] at hk
    have ih := decode_spec_list cext xs hc hk
    simp only [specItem, primOf]
    exact decodeItem_specSeq cext _ _ ih
  | map kvs =>
    simp only [chunkFree] at hc; simp only [keysOk, Bool.and_eq_true] at hk
    have ih := decode_spec_pairs cext kvs hc hk.2
    have hd := dictBuild_distinct [] (primOfPairs (!cext) kvs) (by simpa [keys_primOfPairs] using hk.1)
    simp only [List.nil_append] at hd
    simp [specItem, primOf, decodeItem, ih, hd]
  | int i =>
    simp only [chunkFree] at hc
    simp only [specItem, primOf, specInt_eq_ofInt i hc, decodeItem_ofInt]
  | bytes b =>
    simp only [chunkFree, decide_eq_true_eq] at hc
    have h1 : ¬ b.length > 64 := by omega
    simp [specItem, specBytes, hc, decodeItem, primOf, primBytes, h1]
theorem decode_spec_list (cext : Bool) (xs : List PData) (hc : chunkFreeList xs = true) (hk : keysOkList xs = true) :
    decodeItemList cext (specList xs) = some (primOfList (!cext) xs) := by
  cases xs with
  | nil => simp [specList, decodeItemList, primOfList]
  | cons x xs =>
    simp only [chunkFreeList, Bool.and_eq_true] at hc
    simp only [keysOkList, Bool.and_eq_true] at hk
    simp [specList, decodeItemList, primOfList, decode_spec cext x hc.1 hk.1, decode_spec_list cext xs hc.2 hk.2]
theorem decode_spec_pairs (cext : Bool) (kvs : List (PData × PData)) (hc : chunkFreePairs kvs = true)
    (hk : keysOkPairs kvs = true) :
    decodeItemPairs cext (specPairs kvs) = some (primOfPairs (!cext) kvs) := by
  cases kvs with
  | nil => simp [specPairs, decodeItemPairs, primOfPairs]
  | cons p kvs =>
    obtain ⟨k, v⟩ := p
    simp only [chunkFreePairs, Bool.and_eq_true] at hc
    simp only [keysOkPairs, Bool.and_eq_true] at hk
    simp [specPairs, decodeItemPairs, primOfPairs, decode_spec cext k hc.1.1 hk.1.1, decode_spec cext v hc.1.2 hk.1.2,
      decode_spec_pairs cext kvs hc.2 hk.2]
end

/-! ## the JSON form -/

theorem toDict_primConstr (c : Nat) (x : Prim) (js : List PJson) (h : toDictFields x = some js) :
    toDict (primConstr c x) = some (.constr c js) := by
  unfold primConstr
  cases hg : getTag c with
  | some t =>
    have ht := getTag_range c t hg
    simp [toDict, ht.2.2, constrOfTag_getTag c t hg, h]
  | none => simp [toDict, toDict102, toDict102Seq, h]

theorem toDictFields_primSeq (e : Bool) (ps : List Prim) : toDictFields (primSeq e ps) = toDictList ps := by
  unfold primSeq; split <;> simp [toDictFields]

mutual
theorem toDict_primOf (e : Bool) (d : PData) : toDict (primOf e d) = some (jsonOf d) := by
  cases d with
  | constr c fs =>
    have ih := toDict_primOf_list e fs
    simp only [primOf, jsonOf]
    exact toDict_primConstr c _ _ (by rw [toDictFields_primSeq, ih])
  | list xs =>
    have ih := toDict_primOf_list e xs
    simp only [primOf, jsonOf, primSeq]
    split <;> simp [toDict, ih]
  | map kvs => simp [primOf, jsonOf, toDict, toDict_primOf_pairs e kvs]
  | int i => simp [primOf, jsonOf, toDict]
  | bytes b => simp only [primOf, jsonOf, primBytes]; split <;> simp [toDict]
theorem toDict_primOf_list (e : Bool) (xs : List PData) : toDictList (primOfList e xs) = some (jsonOfList xs) := by
  cases xs with
  | nil => simp [primOfList, jsonOfList, toDictList]
  | cons x xs => simp [primOfList, jsonOfList, toDictList, toDict_primOf e x, toDict_primOf_list e xs]
theorem toDict_primOf_pairs (e : Bool) (kvs : List (PData × PData)) :
    toDictPairs (primOfPairs e kvs) = some (jsonOfPairs kvs) := by
  cases kvs with
  | nil => simp [primOfPairs, jsonOfPairs, toDictPairs]
  | cons p kvs =>
    obtain ⟨k, v⟩ := p
    simp [primOfPairs, jsonOfPairs, toDictPairs, toDict_primOf e k, toDict_primOf e v, toDict_primOf_pairs e kvs]
end

/-- what `RawPlutusData.from_dict` builds from the JSON form of a datum: compact-tag constructors over a plain field
list, general constructors over `[id, IndefiniteList(fields)]`, every list an `IndefiniteList`, `ByteString` beyond
32 bytes -/
def jprimBytes (b : Bytes) : Prim := if 2 * b.length > 64 then .bstr b else .bytes b

mutual
def jprimOf : PData → Prim
  | .constr c fs =>
    match getTag c with
    | none => .tag 102 (.list [.int c, .ilist (jprimOfList fs)])
    | some t => .tag t (.list (jprimOfList fs))
  | .list xs => .ilist (jprimOfList xs)
  | .map kvs => .dict (jprimOfPairs kvs)
  | .int i => .int i
  | .bytes b => jprimBytes b
def jprimOfList : List PData → List Prim
  | [] => []
  | x :: xs => jprimOf x :: jprimOfList xs
def jprimOfPairs : List (PData × PData) → List (Prim × Prim)
  | [] => []
  | (k, v) :: r => (jprimOf k, jprimOf v) :: jprimOfPairs r
end

theorem keyOf_jprimOf (k : PData) : keyOf (jprimOf k) = atomOf k := by
  cases k with
  | constr c fs =>
    simp only [jprimOf, atomOf]
    cases getTag c <;> simp [keyOf]
  | list xs => simp [jprimOf, keyOf, atomOf]
  | map kvs => simp [jprimOf, keyOf, atomOf]
  | int i => simp [jprimOf, keyOf, atomOf]
  | bytes b => simp only [jprimOf, jprimBytes, atomOf]; split <;> simp [keyOf]

theorem keys_jprimOfPairs (kvs : List (PData × PData)) :
    (jprimOfPairs kvs).map (fun p => keyOf p.1) = pairKeys kvs := by
  induction kvs with
  | nil => simp [jprimOfPairs, pairKeys]
  | cons p r ih => obtain ⟨k, v⟩ := p; simp [jprimOfPairs, pairKeys, keyOf_jprimOf, ih]

mutual
theorem fromDict_jsonOf (d : PData) (hk : keysOk d = true) : fromDict (jsonOf d) = some (jprimOf d) := by
  cases d with
  | constr c fs =>
    simp only [keysOk] at hk
    have ih := fromDict_jsonOf_list fs hk
    simp only [jsonOf, fromDict, ih, jprimOf]
    cases getTag c <;> rfl
  | list xs =>
    simp only [keysOk] at hk
    simp [jsonOf, fromDict, fromDict_jsonOf_list xs hk, jprimOf]
  | map kvs =>
    simp only [keysOk, Bool.and_eq_true] at hk
    have ih := fromDict_jsonOf_pairs kvs hk.2
    have hd := dictBuild_distinct [] (jprimOfPairs kvs) (by simpa [keys_jprimOfPairs] using hk.1)
    simp only [List.nil_append] at hd
    simp [jsonOf, fromDict, ih, hd, jprimOf]
  | int i => simp [jsonOf, fromDict, jprimOf]
  | bytes b => simp only [jsonOf, fromDict, jprimOf, jprimBytes]; split <;> rfl
theorem fromDict_jsonOf_list (xs : List PData) (hk : keysOkList xs = true) :
    fromDictList (jsonOfList xs) = some (jprimOfList xs) := by
  cases xs with
  | nil => simp [jsonOfList, fromDictList, jprimOfList]
  | cons x xs =>
    simp only [keysOkList, Bool.and_eq_true] at hk
    simp [jsonOfList, fromDictList, jprimOfList, fromDict_jsonOf x hk.1, fromDict_jsonOf_list xs hk.2]
theorem fromDict_jsonOf_pairs (kvs : List (PData × PData)) (hk : keysOkPairs kvs = true) :
    fromDictPairs (jsonOfPairs kvs) = some (jprimOfPairs kvs) := by
  cases kvs with
  | nil => simp [jsonOfPairs, fromDictPairs, jprimOfPairs]
  | cons p kvs =>
    obtain ⟨k, v⟩ := p
    simp only [keysOkPairs, Bool.and_eq_true] at hk
    simp [jsonOfPairs, fromDictPairs, jprimOfPairs, fromDict_jsonOf k hk.1.1, fromDict_jsonOf v hk.1.2,
      fromDict_jsonOf_pairs kvs hk.2]
end

theorem encodePrim_jprimBytes (b : Bytes) : encodePrim (jprimBytes b) = specBytes b :=
  encodePrim_bstr_or_bytes b _ (by omega)

theorem rawDfs_jprimBytes (b : Bytes) : rawDfs (jprimBytes b) = jprimBytes b := by
  unfold jprimBytes; split <;> simp [rawDfs]

/- (a) below an `IndefiniteList` (`blocked`): the object is encoded as built -/
mutual
theorem json_blocked (d : PData) (hs : small d = true) (hj : jsonOk true d = true) :
    encodePrim (jprimOf d) = specItem d := by
  cases d with
  | constr c fs =>
    simp only [small] at hs
    simp only [jsonOk] at hj
    simp only [jprimOf, specItem, specConstr_eq]
    cases hg : getTag c with
    | some t =>
      have hc : c < 128 := by have := getTag_some hg; omega
      simp only [hc, if_true, Bool.not_true, Bool.false_and, Bool.or_false, List.isEmpty_iff] at hj
      subst hj
      simp [jprimOfList, specList, specSeq, encodePrim, encodePrimList]
    | none =>
      have hc := getTag_none c hg
      have hc' : ¬ c < 128 := by omega
      simp only [hc', if_false, Bool.and_eq_true, Bool.not_eq_true', List.isEmpty_eq_false_iff] at hj
      have ih := json_blocked_list fs hs hj.2
      cases fs with
      | nil => exact absurd rfl hj.1
      | cons f fs =>
        simp only [jprimOfList, specList, encodePrimList, List.cons.injEq] at ih ⊢
        simp [specSeq, encodePrim, encodePrimList, ih.1, ih.2]
  | list xs =>
    simp only [small] at hs
    simp only [jsonOk, Bool.and_eq_true, Bool.not_eq_true', List.isEmpty_eq_false_iff] at hj
    have ih := json_blocked_list xs hs hj.2
    cases xs with
    | nil => exact absurd rfl hj.1
    | cons f fs =>
      simp only [jprimOfList, specList] at ih ⊢
      simp [jprimOf, jprimOfList, specItem, specList, specSeq, encodePrim, ih]
  | map kvs =>
    simp only [small] at hs
    simp only [jsonOk] at hj
    simp only [jprimOf, specItem, encodePrim, json_blocked_pairs kvs hs hj]
  | int i =>
    simp only [small] at hs
    simp only [jprimOf, specItem, encodePrim, specInt_eq_ofInt i hs]
  | bytes b => simp only [jprimOf, specItem, encodePrim_jprimBytes]
theorem json_blocked_list (xs : List PData) (hs : smallList xs = true) (hj : jsonOkList true xs = true) :
    encodePrimList (jprimOfList xs) = specList xs := by
  cases xs with
  | nil => simp [jprimOfList, specList, encodePrimList]
  | cons x xs =>
    simp only [smallList, Bool.and_eq_true] at hs
    simp only [jsonOkList, Bool.and_eq_true] at hj
    simp [jprimOfList, specList, encodePrimList, json_blocked x hs.1 hj.1, json_blocked_list xs hs.2 hj.2]
theorem json_blocked_pairs (kvs : List (PData × PData)) (hs : smallPairs kvs = true)
    (hj : jsonOkPairs true kvs = true) : encodePrimPairs (jprimOfPairs kvs) = specPairs kvs := by
  cases kvs with
  | nil => simp [jprimOfPairs, specPairs, encodePrimPairs]
  | cons p kvs =>
    obtain ⟨k, v⟩ := p
    simp only [smallPairs, Bool.and_eq_true] at hs
    simp only [jsonOkPairs, Bool.and_eq_true] at hj
    simp [jprimOfPairs, specPairs, encodePrimPairs, json_blocked k hs.1.1 hj.1.1, json_blocked v hs.1.2 hj.1.2,
      json_blocked_pairs kvs hs.2 hj.2]
end

/- (b) reachable by `to_primitive` (not blocked): `_dfs` normalises compact-tag constructors on the way -/
mutual
theorem json_open (d : PData) (hs : small d = true) (hj : jsonOk false d = true) :
    encodePrim (rawDfs (jprimOf d)) = specItem d := by
  cases d with
  | constr c fs =>
    cases hg : getTag c with
    | some t =>
      have ht := getTag_range c t hg
      have hc : c < 128 := by have := getTag_some hg; omega
      simp only [small] at hs
      simp only [jsonOk, hc, if_true, Bool.not_false, Bool.true_and, Bool.or_eq_true, List.isEmpty_iff] at hj
      simp only [jprimOf, specItem, specConstr_eq, hg]
      cases fs with
      | nil => simp [jprimOfList, specList, specSeq, rawDfs, rawDfsTag, encodePrim, encodePrimList]
      | cons f fs =>
        have ih := json_open_list (f :: fs) hs (hj.resolve_left (by simp))
        simp only [jprimOfList, specList] at ih ⊢
        simp [specSeq, rawDfs, rawDfsTag, ht.2.2, encodePrim, ih]
    | none =>
      -- the general form is not entered by `_dfs`: encoded as built
      have hc : ¬ c < 128 := by have := getTag_none c hg; omega
      have e : rawDfs (jprimOf (.constr c fs)) = jprimOf (.constr c fs) := by
        simp [jprimOf, hg, rawDfs, rawDfsTag, rawDfsList]
      rw [e]
      exact json_blocked _ hs (by simp only [jsonOk, hc, if_false] at hj ⊢; exact hj)
  | list xs =>
    have e : rawDfs (jprimOf (.list xs)) = jprimOf (.list xs) := by simp [jprimOf, rawDfs]
    rw [e]
    exact json_blocked _ hs (by simp only [jsonOk] at hj ⊢; exact hj)
  | map kvs =>
    simp only [small] at hs
    simp only [jsonOk] at hj
    simp only [jprimOf, specItem, rawDfs, encodePrim, json_open_pairs kvs hs hj]
  | int i =>
    simp only [small] at hs
    simp only [jprimOf, specItem, rawDfs, encodePrim, specInt_eq_ofInt i hs]
  | bytes b => simp only [jprimOf, specItem, rawDfs_jprimBytes, encodePrim_jprimBytes]
theorem json_open_list (xs : List PData) (hs : smallList xs = true) (hj : jsonOkList false xs = true) :
    encodePrimList (rawDfsList (jprimOfList xs)) = specList xs := by
  cases xs with
  | nil => simp [jprimOfList, specList, rawDfsList, encodePrimList]
  | cons x xs =>
    simp only [smallList, Bool.and_eq_true] at hs
    simp only [jsonOkList, Bool.and_eq_true] at hj
    simp [jprimOfList, specList, rawDfsList, encodePrimList, json_open x hs.1 hj.1, json_open_list xs hs.2 hj.2]
theorem json_open_pairs (kvs : List (PData × PData)) (hs : smallPairs kvs = true)
    (hj : jsonOkPairs false kvs = true) : encodePrimPairs (rawDfsPairs (jprimOfPairs kvs)) = specPairs kvs := by
  cases kvs with
  | nil => simp [jprimOfPairs, specPairs, rawDfsPairs, encodePrimPairs]
  | cons p kvs =>
    obtain ⟨k, v⟩ := p
    simp only [smallPairs, Bool.and_eq_true] at hs
    simp only [jsonOkPairs, Bool.and_eq_true] at hj
    simp [jprimOfPairs, specPairs, rawDfsPairs, encodePrimPairs, json_open k hs.1.1 hj.1.1, json_open v hs.1.2 hj.1.2,
      json_open_pairs kvs hs.2 hj.2]
end

/-! ## the specification's item is well-formed CBOR (so that `decode_encode` applies) -/

theorem wf_ofInt_nat (c : Nat) (h : c < 2^64) : WF (ofInt c) := by
  unfold ofInt
  have h0 : (0 : Int) ≤ c := by omega
  have e : (c : Int).toNat = c := by omega
  simp only [h0, if_true, e, h]
  simpa [WF] using h

theorem wf_specInt (i : Int) (h : intFits i = true) : WF (specInt i) := by
  rw [specInt_eq_ofInt i h]
  unfold intFits bignumPayload at h
  unfold ofInt
  by_cases h0 : 0 ≤ i
  · simp only [h0, if_true] at h ⊢
    split
    · rename_i hlt; simp only [WF]; exact hlt
    · have : (natBytes i.toNat).length ≤ 64 := by simpa using h
      simp only [WF]; omega
  · simp only [h0, if_false] at h ⊢
    split
    · rename_i hlt; simp only [WF]; exact hlt
    · have : (natBytes (-1 - i).toNat).length ≤ 64 := by simpa using h
      simp only [WF]; omega

theorem wf_specSeq (xs : List Item) (h : WFList xs) : WF (specSeq xs) := by
  unfold specSeq
  cases xs with
  | nil => simp [WF, WFList]
  | cons x xs => simpa [WF] using h

theorem wf_specConstr (c : Nat) (x : Item) (hc : c < 2^64) (h : WF x) : WF (specConstr c x) := by
  rw [specConstr_eq]
  cases hg : getTag c with
  | some t =>
    have : t < 2^64 := by have := getTag_some hg; omega
    simp only [WF]; exact ⟨this, h⟩
  | none =>
    simp only [WF, WFList, List.length_cons, List.length_nil]
    exact ⟨by omega, by omega, wf_ofInt_nat c hc, h, trivial⟩

theorem length_specPairs (kvs : List (PData × PData)) : (specPairs kvs).length = kvs.length := by
  induction kvs with
  | nil => simp [specPairs]
  | cons p r ih => obtain ⟨k, v⟩ := p; simp [specPairs, ih]

mutual
theorem wf_spec (d : PData) (hc : chunkFree d = true) (hz : sized d = true) : WF (specItem d) := by
  cases d with
  | constr c fs =>
    simp only [chunkFree] at hc
    simp only [sized, Bool.and_eq_true, decide_eq_true_eq] at hz
    simp only [specItem]
    exact wf_specConstr c _ hz.1 (wf_specSeq _ (wf_spec_list fs hc hz.2))
  | list xs =>
    simp only [chunkFree] at hc
    simp only [sized] at hz
    simp only [specItem]
    exact wf_specSeq _ (wf_spec_list xs hc hz)
  | map kvs =>
    simp only [chunkFree] at hc
    simp only [sized, Bool.and_eq_true, decide_eq_true_eq] at hz
    simp only [specItem, WF, length_specPairs]
    exact ⟨hz.1, wf_spec_pairs kvs hc hz.2⟩
  | int i =>
    simp only [chunkFree] at hc
    simp only [specItem]
    exact wf_specInt i hc
  | bytes b =>
    simp only [chunkFree, decide_eq_true_eq] at hc
    simp only [specItem, specBytes, hc, if_true, WF]
    omega
theorem wf_spec_list (xs : List PData) (hc : chunkFreeList xs = true) (hz : sizedList xs = true) :
    WFList (specList xs) := by
  cases xs with
  | nil => simp [specList, WFList]
  | cons x xs =>
    simp only [chunkFreeList, Bool.and_eq_true] at hc
    simp only [sizedList, Bool.and_eq_true] at hz
    simp only [specList, WFList]
    exact ⟨wf_spec x hc.1 hz.1, wf_spec_list xs hc.2 hz.2⟩
theorem wf_spec_pairs (kvs : List (PData × PData)) (hc : chunkFreePairs kvs = true) (hz : sizedPairs kvs = true) :
    WFPairs (specPairs kvs) := by
  cases kvs with
  | nil => simp [specPairs, WFPairs]
  | cons p kvs =>
    obtain ⟨k, v⟩ := p
    simp only [chunkFreePairs, Bool.and_eq_true] at hc
    simp only [sizedPairs, Bool.and_eq_true] at hz
    simp only [specPairs, WFPairs]
    exact ⟨wf_spec k hc.1.1 hz.1.1, wf_spec v hc.1.2 hz.1.2, wf_spec_pairs kvs hc.2 hz.2⟩
end

mutual
theorem small_of_chunkFree (d : PData) (h : chunkFree d = true) : small d = true := by
  cases d with
  | constr c fs => simp only [chunkFree] at h; simp only [small]; exact small_of_chunkFree_list fs h
  | list xs => simp only [chunkFree] at h; simp only [small]; exact small_of_chunkFree_list xs h
  | map kvs => simp only [chunkFree] at h; simp only [small]; exact small_of_chunkFree_pairs kvs h
  | int i => simpa [chunkFree, small] using h
  | bytes b => simp [small]
theorem small_of_chunkFree_list (xs : List PData) (h : chunkFreeList xs = true) : smallList xs = true := by
  cases xs with
  | nil => rfl
  | cons x xs =>
    simp only [chunkFreeList, Bool.and_eq_true] at h
    simp only [smallList, Bool.and_eq_true]
    exact ⟨small_of_chunkFree x h.1, small_of_chunkFree_list xs h.2⟩
theorem small_of_chunkFree_pairs (kvs : List (PData × PData)) (h : chunkFreePairs kvs = true) :
    smallPairs kvs = true := by
  cases kvs with
  | nil => rfl
  | cons p kvs =>
    obtain ⟨k, v⟩ := p
    simp only [chunkFreePairs, Bool.and_eq_true] at h
    simp only [smallPairs, Bool.and_eq_true]
    exact ⟨⟨small_of_chunkFree k h.1.1, small_of_chunkFree v h.1.2⟩, small_of_chunkFree_pairs kvs h.2⟩
end

/-! ## `from_primitive` accepts the decoded top-level object -/

theorem rawFromPrimitive_primOf (cext : Bool) (d : PData) (hc : chunkFree d = true) (ht : topOk cext d = true) :
    rawFromPrimitive (primOf (!cext) d) = some (primOf (!cext) d) := by
  cases d with
  | constr c fs =>
    simp only [primOf, primConstr]
    cases getTag c <;> rfl
  | list xs =>
    simp only [topOk, Bool.and_eq_true, Bool.not_eq_true'] at ht
    obtain ⟨h1, h2⟩ := ht
    subst h1
    cases xs with
    | nil => simp at h2
    | cons x xs => simp [primOf, primOfList, primSeq, rawFromPrimitive]
  | map kvs => rfl
  | int i => rfl
  | bytes b =>
    simp only [chunkFree, decide_eq_true_eq] at hc
    have : ¬ b.length > 64 := by omega
    simp [primOf, primBytes, this, rawFromPrimitive]


end Pyc.Plutus
