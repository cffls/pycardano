import Pyc.Model.AddrLeaf
import Pyc.Proofs.AddrText

/-! Helper lemmas for the address leaf of `TransactionOutput` (`Pyc/Model/AddrLeaf.lean`). -/

namespace Pyc.AddrLeaf
open Pyc.Cbor Pyc.Codec Pyc.Addr

theorem sizedB_iff (p : Part) : sizedB p = true ↔ p.Sized := by
  cases p <;> simp [sizedB, Part.Sized]

theorem bind_ok_iff {ε α β : Type} {f : Except ε α} {g : α → Except ε β} {r : β} :
    f >>= g = .ok r ↔ ∃ p, f = .ok p ∧ g p = .ok r := by
  cases f <;> simp [bind, Except.bind]

theorem pure_ok_iff {ε α : Type} {x r : α} : (pure x : Except ε α) = .ok r ↔ x = r := by
  simp [pure, Except.pure]

/-- whatever `Address.from_primitive` returns is an address object that exists -/
theorem fromBytes_valid (b : Bytes) (a : Address) (h : fromBytes b = .ok a) : validB a = true := by
  unfold fromBytes at h
  split at h
  · cases h
  · split at h
    · cases h
    · split at h
      · cases h
      · split at h
        all_goals simp only [bind_ok_iff, pure_ok_iff, mkVkh_ok_iff, mkSh_ok_iff, mkPtr_ok_iff, reduceCtorEq] at h
        -- two hashes
        case h_1 | h_2 | h_5 | h_6 =>
          obtain ⟨_, ⟨l1, rfl⟩, _, ⟨l2, rfl⟩, rfl⟩ := h
          simp [validB, sizedB, toBytes, inferType, l1, l2]
        -- a pointer, decoded first, and a hash
        case h_3 | h_7 =>
          obtain ⟨_, ⟨_, _, _, _, rfl⟩, _, ⟨l, rfl⟩, rfl⟩ := h
          simp [validB, sizedB, toBytes, inferType, l]
        -- one hash
        case h_4 | h_8 | h_9 | h_10 =>
          obtain ⟨_, ⟨l, rfl⟩, rfl⟩ := h
          simp [validB, sizedB, toBytes, inferType, l]

theorem resOf_ok {r : Except DecErr Address} {a : Address} (h : resOf r = .ok a) : r = .ok a := by
  cases r with
  | ok x => cases h; rfl
  | error e => cases e <;> cases h

theorem addrDec_valid (i : Item) (a : Address) (h : addrDec i = .ok a) : validB a = true := by
  cases i with
  | bytes b => exact fromBytes_valid b a (resOf_ok h)
  | text s =>
    have ha := resOf_ok h
    unfold fromBech32 at ha
    split at ha
    · exact fromBytes_valid _ a ha
    · cases ha
  | _ => cases h

/-- the leaf decoder IS `Address.from_primitive`: the validity test inside `addrLeaf.dec` never fails -/
theorem addrLeaf_dec_faithful (i : Item) :
    (match addrLeaf.dec i with | .ok x => Res.ok x.1 | .deser => .deser | .crash => .crash) = addrDec i := by
  simp only [addrLeaf]
  cases h : addrDec i with
  | ok a => simp [addrDec_valid i a h]
  | deser => rfl
  | crash => rfl

theorem addrLeaf_lawful : addrLeaf.Lawful := by
  refine ⟨fun x => ?_⟩
  obtain ⟨a, hv⟩ := x
  have hv' := hv
  simp only [validB, Bool.and_eq_true, Option.isSome_iff_exists] at hv'
  obtain ⟨⟨hp, hs⟩, bs, hb⟩ := hv'
  have e : addrDec (addrEnc a) = .ok a := by
    simp only [addrEnc, hb, addrDec, fromBytes_toBytes a bs ((sizedB_iff _).1 hp) ((sizedB_iff _).1 hs) hb, resOf]
  simp only [addrLeaf, e, hv, dite_true]

end Pyc.AddrLeaf
