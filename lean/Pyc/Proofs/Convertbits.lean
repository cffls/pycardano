import Pyc.Model.Bech32

/-! `convertbits` regroups a bit stream.  The stream is abstracted as a *number*: a list of `w`-bit digits, most
significant first, denotes `val w xs`; the loop state `(acc, bits, ret)` denotes `val t ret * 2^bits + acc % 2^bits`
(emitted digits followed by the pending `bits` low bits of the accumulator).  One loop iteration appends one input
digit to the denoted number, so regrouping 8→5 with padding multiplies by `2^k` (the `k` zero pad bits), and 5→8
without padding divides it out again.  Digit strings of equal length and equal value are equal. -/

namespace Pyc.Bech32

/-- value of a digit string in base `2^w`, most significant digit first -/
def val (w : Nat) (xs : List Nat) : Nat := xs.foldl (fun a x => a * 2 ^ w + x) 0

theorem val_nil (w : Nat) : val w [] = 0 := rfl

theorem val_snoc (w : Nat) (xs : List Nat) (x : Nat) : val w (xs ++ [x]) = val w xs * 2 ^ w + x := by
  simp [val, List.foldl_append]

theorem cancel_digit {V B x V' y : Nat} (h : V * B + x = V' * B + y) (hx : x < B) (hy : y < B) : x = y ∧ V = V' := by
  have hV : V = V' := by
    have h2 := congrArg (· / B) h
    simpa [Nat.add_comm (_ * B), Nat.add_mul_div_right _ _ (Nat.zero_lt_of_lt hx), Nat.div_eq_of_lt hx,
      Nat.div_eq_of_lt hy] using h2
  subst hV
  exact ⟨Nat.add_left_cancel h, rfl⟩

theorem val_inj (w : Nat) : ∀ (n : Nat) (xs ys : List Nat), xs.length = n → ys.length = n →
    (∀ x ∈ xs, x < 2 ^ w) → (∀ y ∈ ys, y < 2 ^ w) → val w xs = val w ys → xs = ys
  | 0, xs, ys, hx, hy, _, _, _ => by
    rw [List.length_eq_zero_iff.mp hx, List.length_eq_zero_iff.mp hy]
  | n + 1, xs, ys, hx, hy, bx, by', h => by
    have nx : xs ≠ [] := by intro e; simp [e] at hx
    have ny : ys ≠ [] := by intro e; simp [e] at hy
    rw [← List.dropLast_concat_getLast nx, ← List.dropLast_concat_getLast ny] at h ⊢
    rw [val_snoc, val_snoc] at h
    have hxl := bx _ (List.getLast_mem nx)
    have hyl := by' _ (List.getLast_mem ny)
    obtain ⟨e1, e2⟩ := cancel_digit h hxl hyl
    have := val_inj w n xs.dropLast ys.dropLast (by simp [hx]) (by simp [hy])
      (fun x hx' => bx x (List.dropLast_subset _ hx')) (fun y hy' => by' y (List.dropLast_subset _ hy')) e2
    rw [this, e1]

theorem regroup (V P Q r v : Nat) : (V * P + r) * Q + v = V * (P * Q) + (r * Q + v) := by
  rw [Nat.add_mul, Nat.mul_assoc, Nat.add_assoc]

/-- the number denoted by a loop state -/
def S (t : Nat) (ret : List Nat) (bits acc : Nat) : Nat := val t ret * 2 ^ bits + acc % 2 ^ bits

theorem and_mask (x t : Nat) : x &&& (2 ^ t - 1) = x % 2 ^ t := Nat.and_two_pow_sub_one_eq_mod x t

/-- the inner `while` keeps the denoted number and the number of stream bits, and leaves fewer than `t` pending -/
theorem drain_spec (t acc : Nat) (ht : 0 < t) (bits : Nat) (ret : List Nat) (b : Nat) (r : List Nat)
    (hret : ∀ d ∈ ret, d < 2 ^ t) (h : drain t (2 ^ t - 1) acc bits ret = (b, r)) :
    b < t ∧ S t r b acc = S t ret bits acc ∧ t * r.length + b = t * ret.length + bits ∧ (∀ d ∈ r, d < 2 ^ t) := by
  induction bits, ret using drain.induct t (2 ^ t - 1) acc with
  | case1 bits ret hc ih =>
    rw [drain, dif_pos hc] at h
    obtain ⟨h1, h2, h3, h4⟩ := ih (List.forall_mem_append.mpr ⟨hret, fun d hd => by
      rw [List.mem_singleton.mp hd, and_mask]; exact Nat.mod_lt _ (Nat.two_pow_pos t)⟩) h
    refine ⟨h1, ?_, ?_, h4⟩
    · have : 2 ^ bits = 2 ^ (bits - t) * 2 ^ t := by rw [← Nat.pow_add]; congr 1; omega
      rw [h2, S, S, val_snoc, and_mask, Nat.shiftRight_eq_div_pow, this, Nat.mod_mul, regroup,
        Nat.mul_comm (2 ^ t), Nat.mul_comm (_ % 2 ^ t), Nat.add_comm (acc % _)]
    · rw [h3, List.length_append, List.length_singleton, Nat.mul_succ]
      omega
  | case2 bits ret hc =>
    rw [drain, dif_neg hc] at h
    obtain ⟨rfl, rfl⟩ := Prod.mk.inj h
    exact ⟨by omega, rfl, rfl, hret⟩

theorem shift_in (acc v f b : Nat) (hv : v < 2 ^ f) :
    (acc * 2 ^ f + v) % 2 ^ (b + f) = acc % 2 ^ b * 2 ^ f + v := by
  rw [Nat.pow_add, Nat.mul_comm (2 ^ b), Nat.mod_mul]
  rw [Nat.add_comm (acc * 2 ^ f), Nat.add_mul_mod_self_right, Nat.mod_eq_of_lt hv,
    Nat.add_mul_div_right _ _ (Nat.two_pow_pos f), Nat.div_eq_of_lt hv, Nat.zero_add]
  rw [Nat.mul_comm (2 ^ f), Nat.add_comm]

theorem cbLoop_spec (f t : Nat) (ht : 0 < t) : ∀ (data : List Nat) (acc bits : Nat) (ret : List Nat),
    (∀ v ∈ data, v < 2 ^ f) → bits < t → (∀ d ∈ ret, d < 2 ^ t) →
    ∃ acc' bits' ret', cbLoop f t (2 ^ t - 1) (2 ^ (f + t - 1) - 1) data acc bits ret = some (acc', bits', ret') ∧
      bits' < t ∧
      S t ret' bits' acc' = data.foldl (fun a x => a * 2 ^ f + x) (S t ret bits acc) ∧
      t * ret'.length + bits' = t * ret.length + bits + f * data.length ∧
      (∀ d ∈ ret', d < 2 ^ t)
  | [], acc, bits, ret, _, hb, hret => ⟨acc, bits, ret, rfl, hb, rfl, by simp, hret⟩
  | v :: rest, acc, bits, ret, hdata, hb, hret => by
    obtain ⟨hv, hrest⟩ := List.forall_mem_cons.mp hdata
    have hv0 : v >>> f = 0 := by rw [Nat.shiftRight_eq_div_pow]; exact Nat.div_eq_of_lt hv
    rw [cbLoop]
    simp only [hv0, ne_eq, not_true_eq_false, ↓reduceIte]
    obtain ⟨d1, d2, d3, d4⟩ :=
      drain_spec t (((acc <<< f) ||| v) &&& (2 ^ (f + t - 1) - 1)) ht (bits + f) ret _ _ hret rfl
    obtain ⟨acc', bits', ret', e, r1, r2, r3, r4⟩ :=
      cbLoop_spec f t ht rest _ _ _ hrest d1 d4
    refine ⟨acc', bits', ret', e, r1, ?_, ?_, r4⟩
    · rw [r2, d2, List.foldl_cons]
      congr 1
      unfold S
      rw [and_mask, Nat.mod_mod_of_dvd _ (Nat.pow_dvd_pow 2 (by omega : bits + f ≤ f + t - 1)),
        ← Nat.shiftLeft_add_eq_or_of_lt hv, Nat.shiftLeft_eq, shift_in _ _ _ _ hv, Nat.pow_add, regroup]
    · rw [r3, d3, List.length_cons, Nat.mul_succ]
      omega

theorem cbLoop_init (f t : Nat) (ht : 0 < t) (data : List Nat) (hd : ∀ v ∈ data, v < 2 ^ f) :
    ∃ acc bits ret, cbLoop f t (2 ^ t - 1) (2 ^ (f + t - 1) - 1) data 0 0 [] = some (acc, bits, ret) ∧ bits < t ∧
      val t ret * 2 ^ bits + acc % 2 ^ bits = val f data ∧ t * ret.length + bits = f * data.length ∧
      (∀ d ∈ ret, d < 2 ^ t) := by
  obtain ⟨acc, bits, ret, e, r1, r2, r3, r4⟩ := cbLoop_spec f t ht data 0 0 [] hd ht (by simp)
  refine ⟨acc, bits, ret, e, r1, r2.trans ?_, by simpa using r3, r4⟩
  simp [S, val]

theorem pad_digit (acc b t : Nat) (h : b ≤ t) : (acc <<< (t - b)) &&& (2 ^ t - 1) = acc % 2 ^ b * 2 ^ (t - b) := by
  rw [and_mask, Nat.shiftLeft_eq, show 2 ^ t = 2 ^ b * 2 ^ (t - b) by rw [← Nat.pow_add, Nat.add_sub_cancel' h],
    Nat.mul_mod_mul_right]

/-- regrouping with padding: the output denotes the input number followed by `k < t` zero bits -/
theorem convertbits_pad (f t : Nat) (ht : 0 < t) (data : List Nat) (hd : ∀ v ∈ data, v < 2 ^ f) :
    ∃ out k, convertbits data f t true = some out ∧ k < t ∧ val t out = val f data * 2 ^ k ∧
      t * out.length = f * data.length + k ∧ (∀ d ∈ out, d < 2 ^ t) := by
  obtain ⟨acc', bits', ret', e, r1, r2, r3, r4⟩ := cbLoop_init f t ht data hd
  unfold convertbits
  simp only [Nat.one_shiftLeft, e, ↓reduceIte]
  by_cases hb : bits' = 0
  · subst hb
    refine ⟨ret', 0, by simp, ht, ?_, r3, r4⟩
    simpa [Nat.mod_one] using r2
  · refine ⟨ret' ++ [(acc' <<< (t - bits')) &&& (2 ^ t - 1)], t - bits', by simp [hb], by omega, ?_, ?_, ?_⟩
    · rw [val_snoc, pad_digit _ _ _ (Nat.le_of_lt r1), ← r2, Nat.add_mul, Nat.mul_assoc, ← Nat.pow_add,
        Nat.add_sub_cancel' (Nat.le_of_lt r1)]
    · rw [List.length_append, List.length_singleton, Nat.mul_succ]
      omega
    · exact List.forall_mem_append.mpr ⟨r4, fun d hd => by
        rw [List.mem_singleton.mp hd, and_mask]; exact Nat.mod_lt _ (Nat.two_pow_pos t)⟩

/-- regrouping without padding: a digit string that denotes `zs` followed by `k` zero bits (`k` smaller than both
group sizes) is accepted and regrouped to exactly `zs` -/
theorem convertbits_nopad (f t : Nat) (ht : 0 < t) (data zs : List Nat) (k : Nat)
    (hd : ∀ v ∈ data, v < 2 ^ f) (hz : ∀ z ∈ zs, z < 2 ^ t) (hkf : k < f) (hkt : k < t)
    (hval : val f data = val t zs * 2 ^ k) (hlen : f * data.length = t * zs.length + k) :
    convertbits data f t false = some zs := by
  obtain ⟨acc', bits', ret', e, r1, r2, r3, r4⟩ := cbLoop_init f t ht data hd
  obtain ⟨l2, l1⟩ := cancel_digit (by simpa only [Nat.mul_comm t] using r3.trans hlen) r1 hkt
  subst l2
  obtain ⟨a0, v0⟩ := cancel_digit (r2.trans (hval.trans (Nat.add_zero _).symm)) (Nat.mod_lt _ (Nat.two_pow_pos _))
    (Nat.two_pow_pos _)
  have hret : ret' = zs := val_inj t _ ret' zs l1 rfl r4 hz v0
  unfold convertbits
  simp only [Nat.one_shiftLeft, e]
  simp [pad_digit _ _ _ (Nat.le_of_lt r1), a0, hret, Nat.not_le.mpr hkf]

/-- the two conversions `encode` and `decode` perform, composed: 8→5 with padding then 5→8 without is the identity
on byte strings of any length -/
theorem convertbits_roundtrip_nat (bs : List Nat) (hb : ∀ b ∈ bs, b < 2 ^ 8) :
    ∃ out, convertbits bs 8 5 true = some out ∧ (∀ d ∈ out, d < 32) ∧ 8 * bs.length ≤ 5 * out.length ∧
      5 * out.length < 8 * bs.length + 5 ∧ convertbits out 5 8 false = some bs := by
  obtain ⟨out, k, e, hk, hv, hl, ho⟩ := convertbits_pad 8 5 (by decide) bs hb
  exact ⟨out, e, ho, by omega, by omega, convertbits_nopad 5 8 (by decide) out bs k ho hb hk (by omega) hv hl⟩

end Pyc.Bech32
