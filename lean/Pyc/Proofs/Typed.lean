import Pyc.Proofs.Codec

/-! An executable check of the typing relation `HasType` (the scope of the generic round-trip theorem), sound with
respect to it: `typedB S fuel t v = true → HasType S t v`.  The driver runs it on the values the harness generates
from /repo's live classes, so the evidence says how many of the compared cases fall under the theorem.

The side condition of an ordered union is discharged *per value* by evaluation: `typedAnyB` runs every alternative that
precedes the typing one on the value's image and demands `DeserializeException` (`rejectsB`); fuel monotonicity
(`deser_stable`) turns that single run into the "for all sufficiently large fuel" premise of `HasType.union`.

`typedBL` is the same check for `HasTypeL`: the union alternatives are run through `fromPrimL`, and a primitive carried for
a class with its own codec is compared (`ibeq`) with what the leaf's normaliser returns on it (`fixedB`). -/

namespace Pyc.Codec
open Pyc.Cbor Pyc.Schema

def intOkB (i : Int) : Bool := decide (-(2:Int)^64 ≤ i) && decide (i < (2:Int)^64)

theorem intOkB_sound (i : Int) (h : intOkB i = true) : IntOk i := by
  unfold intOkB at h; unfold IntOk
  simpa using h

def kindOpaqueB : Kind → Bool
  | .custom => true
  | .oset => true
  | _ => false

/-- the alternative answers `DeserializeException` on this item (one evaluation with the given fuel) -/
def rejectsB (S : List ClassDef) (fuel : Nat) (t : Ty) (i : Item) : Bool :=
  match fromPrim S fuel t i with
  | .deser => true
  | _ => false

def isNoneB : Val → Bool
  | .none => true
  | _ => false

def isOpaqueB : Val → Bool
  | .opaque _ => true
  | _ => false

mutual
def typedB (S : List ClassDef) : Nat → Ty → Val → Bool
  | 0, _, _ => false
  | _+1, .int, .int i => intOkB i
  | _+1, .bytes, .bytes _ => true
  | _+1, .text, .text _ => true
  | _+1, .none, .none => true
  | _+1, .bool, .bool _ => true
  | _+1, .frac, .frac n d => intOkB n && intOkB d
  | _+1, .any, .opaque _ => true
  | fuel+1, .oset t _, .oset _ xs => typedListB S fuel t xs
  | fuel+1, .list t, .list xs => typedListB S fuel t xs
  | fuel+1, .union ts, v => typedAnyB S fuel ts v
  | fuel+1, .cls n, v =>
    match lookup S n with
    | Option.none => false
    | some cd =>
      match v with
      | .opaque _ => !genericB cd || kindOpaqueB cd.kind
      | .enum x => genericB cd && (match cd.kind with | .enum vals => vals.contains x && intOkB x | _ => false)
      | .cb b => genericB cd && (match cd.kind with | .cbytes mn mx => decide (mn ≤ b.length) && decide (b.length ≤ mx) | _ => false)
      | .obj m fs => (m == n) && genericB cd && shapeOK cd && typedFieldsB S fuel (wireFields cd) fs
      | _ => false
  | _+1, _, _ => false
def typedListB (S : List ClassDef) : Nat → Ty → List Val → Bool
  | 0, _, _ => false
  | _+1, _, [] => true
  | fuel+1, t, x :: xs => typedB S fuel t x && typedListB S fuel t xs
def typedAnyB (S : List ClassDef) : Nat → List Ty → Val → Bool
  | 0, _, _ => false
  | _+1, [], _ => false
  | fuel+1, t :: ts, v => typedB S fuel t v || (rejectsB S fuel t (toPrim S v) && typedAnyB S fuel ts v)
def typedFieldsB (S : List ClassDef) : Nat → List FieldDef → List Val → Bool
  | 0, _, _ => false
  | _+1, [], [] => true
  | fuel+1, f :: fs, v :: vs =>
    ((f.optional && isNoneB v) || (f.hook && isOpaqueB v) || (!f.hook && typedB S fuel f.ty v)) && typedFieldsB S fuel fs vs
  | _+1, _, _ => false
end

theorem opaque_ok {cd : ClassDef} (h : (!genericB cd || kindOpaqueB cd.kind) = true) (hg : Generic cd) :
    cd.kind = .custom ∨ cd.kind = .oset := by
  have hgB : genericB cd = true := by unfold genericB; rw [hg.1, hg.2]; rfl
  rw [hgB] at h
  cases hk : cd.kind <;> rw [hk] at h <;> first | exact .inl rfl | exact .inr rfl | exact nomatch h

end Pyc.Codec

namespace Pyc.Compose
open Pyc.Cbor Pyc.Schema Pyc.Codec

/-! ## with leaves: Boolean equality of items (no `DecidableEq` for the nested inductive), and the check `typedBL` -/

mutual
def ibeq : Item → Item → Bool
  | .uint a, .uint b => a == b
  | .nint a, .nint b => a == b
  | .bytes a, .bytes b => a == b
  | .bytesChunked a, .bytesChunked b => a == b
  | .text a, .text b => a == b
  | .array a, .array b => ibeqList a b
  | .arrayIndef a, .arrayIndef b => ibeqList a b
  | .map a, .map b => ibeqPairs a b
  | .tag t x, .tag u y => t == u && ibeq x y
  | .simple a, .simple b => a == b
  | _, _ => false
def ibeqList : List Item → List Item → Bool
  | [], [] => true
  | x :: xs, y :: ys => ibeq x y && ibeqList xs ys
  | _, _ => false
def ibeqPairs : List (Item × Item) → List (Item × Item) → Bool
  | [], [] => true
  | (k, v) :: xs, (k', v') :: ys => ibeq k k' && ibeq v v' && ibeqPairs xs ys
  | _, _ => false
end

/-- the three comparisons are sound, by the functional induction of `ibeq` -/
theorem ibeq_sound_all :
    (∀ a b, ibeq a b = true → a = b) ∧ (∀ a b, ibeqPairs a b = true → a = b) ∧ (∀ a b, ibeqList a b = true → a = b) := by
  apply ibeq.mutual_induct (motive_1 := fun a b => ibeq a b = true → a = b)
    (motive_2 := fun a b => ibeqPairs a b = true → a = b) (motive_3 := fun a b => ibeqList a b = true → a = b)
  · intro a b h; exact congrArg Item.uint (eq_of_beq h)
  · intro a b h; exact congrArg Item.nint (eq_of_beq h)
  · intro a b h; exact congrArg Item.bytes (eq_of_beq h)
  · intro a b h; exact congrArg Item.bytesChunked (eq_of_beq h)
  · intro a b h; exact congrArg Item.text (eq_of_beq h)
  · intro a b ih h; exact congrArg Item.array (ih h)
  · intro a b ih h; exact congrArg Item.arrayIndef (ih h)
  · intro a b ih h; exact congrArg Item.map (ih h)
  · intro t x u y ih h
    rw [ibeq, Bool.and_eq_true, beq_iff_eq] at h
    rw [h.1, ih h.2]
  · intro a b h; exact congrArg Item.simple (eq_of_beq h)
  · intro _ _ _ _ _ _ _ _ _ _ _ _ h
    rw [ibeq] at h
    · cases h
    all_goals assumption
  · intro _; rfl
  · intro x xs y ys ih1 ih2 h
    rw [ibeqList, Bool.and_eq_true] at h
    rw [ih1 h.1, ih2 h.2]
  · intro _ _ _ _ h
    rw [ibeqList] at h
    · cases h
    all_goals assumption
  · intro _; rfl
  · intro k v xs k' v' ys ih1 ih2 ih3 h
    rw [ibeqPairs, Bool.and_eq_true, Bool.and_eq_true] at h
    rw [ih1 h.1.1, ih2 h.1.2, ih3 h.2]
  · intro _ _ _ _ h
    rw [ibeqPairs] at h
    · cases h
    all_goals assumption

theorem ibeq_sound (a b : Item) (h : ibeq a b = true) : a = b := ibeq_sound_all.1 a b h
theorem ibeqList_sound (a b : List Item) (h : ibeqList a b = true) : a = b := ibeq_sound_all.2.2 a b h
theorem ibeqPairs_sound (a b : List (Item × Item)) (h : ibeqPairs a b = true) : a = b := ibeq_sound_all.2.1 a b h

/-- the primitive is a fixed point of the leaf's normaliser (trivially so when the leaf is not modelled) -/
def fixedB (L : LeafEnv) (n : String) (i : Item) : Bool :=
  match L n with
  | some f => (match f i with | .ok j => ibeq j i | _ => false)
  | Option.none => true

theorem fixedB_sound (L : LeafEnv) (n : String) (i : Item) (h : fixedB L n i = true) :
    ∀ f, L n = some f → f i = .ok i := by
  intro f hf
  unfold fixedB at h
  rw [hf] at h
  simp only at h
  cases hr : f i with
  | ok j => rw [hr] at h; simp only at h; rw [ibeq_sound j i h]
  | deser => rw [hr] at h; simp at h
  | crash => rw [hr] at h; simp at h

def hookFixedB (L : LeafEnv) (key : String) : Val → Bool
  | .opaque i => fixedB L key i
  | _ => false

/-- the alternative answers `DeserializeException` on this item (one evaluation with the given fuel) -/
def rejectsBL (S : List ClassDef) (L : LeafEnv) (fuel : Nat) (t : Ty) (i : Item) : Bool :=
  match fromPrimL S L fuel t i with
  | .deser => true
  | _ => false

theorem rejectsBL_sound (S : List ClassDef) (L : LeafEnv) (fuel : Nat) (t : Ty) (i : Item) (h : rejectsBL S L fuel t i = true) :
    Ev (fun fuel => fromPrimL S L fuel t i = .deser) := by
  unfold rejectsBL at h
  split at h
  · rename_i hd; exact deser_stableL S L t i fuel hd
  · exact absurd h (by decide)

mutual
def typedBL (S : List ClassDef) (L : LeafEnv) : Nat → Ty → Val → Bool
  | 0, _, _ => false
  | _+1, .int, .int i => intOkB i
  | _+1, .bytes, .bytes _ => true
  | _+1, .text, .text _ => true
  | _+1, .none, .none => true
  | _+1, .bool, .bool _ => true
  | _+1, .frac, .frac n d => intOkB n && intOkB d
  | _+1, .any, .opaque _ => true
  | fuel+1, .oset t _, .oset _ xs => typedListBL S L fuel t xs
  | fuel+1, .list t, .list xs => typedListBL S L fuel t xs
  | fuel+1, .union ts, v => typedAnyBL S L fuel ts v
  | fuel+1, .cls n, v =>
    match lookup S n with
    | Option.none => false
    | some cd =>
      match v with
      | .opaque i => (!genericB cd || kindOpaqueB cd.kind) && fixedB L n i
      | .enum x => genericB cd && (match cd.kind with | .enum vals => vals.contains x && intOkB x | _ => false)
      | .cb b => genericB cd && (match cd.kind with | .cbytes mn mx => decide (mn ≤ b.length) && decide (b.length ≤ mx) | _ => false)
      | .obj m fs => (m == n) && genericB cd && shapeOK cd && typedFieldsBL S L fuel n (wireFields cd) fs
      | _ => false
  | _+1, _, _ => false
def typedListBL (S : List ClassDef) (L : LeafEnv) : Nat → Ty → List Val → Bool
  | 0, _, _ => false
  | _+1, _, [] => true
  | fuel+1, t, x :: xs => typedBL S L fuel t x && typedListBL S L fuel t xs
def typedAnyBL (S : List ClassDef) (L : LeafEnv) : Nat → List Ty → Val → Bool
  | 0, _, _ => false
  | _+1, [], _ => false
  | fuel+1, t :: ts, v => typedBL S L fuel t v || (rejectsBL S L fuel t (toPrim S v) && typedAnyBL S L fuel ts v)
def typedFieldsBL (S : List ClassDef) (L : LeafEnv) : Nat → String → List FieldDef → List Val → Bool
  | 0, _, _, _ => false
  | _+1, _, [], [] => true
  | fuel+1, cn, f :: fs, v :: vs =>
    ((f.optional && isNoneB v) || (f.hook && hookFixedB L (hookKey cn f) v) || (!f.hook && typedBL S L fuel f.ty v)) &&
      typedFieldsBL S L fuel cn fs vs
  | _+1, _, _, _ => false
end

/-- soundness of the four checks, by the functional induction of `typedBL`: one case per arm -/
theorem typed_soundL (S : List ClassDef) (L : LeafEnv) :
    (∀ fuel t v, typedBL S L fuel t v = true → HasTypeL S L t v) ∧
    (∀ fuel cn fs vs, typedFieldsBL S L fuel cn fs vs = true → HasFieldsL S L cn fs vs) ∧
    (∀ fuel ts v, typedAnyBL S L fuel ts v = true → ∃ pre t post, ts = pre ++ t :: post ∧ HasTypeL S L t v ∧
      ∀ t' ∈ pre, Ev (fun fuel => fromPrimL S L fuel t' (toPrim S v) = .deser)) ∧
    (∀ fuel t xs, typedListBL S L fuel t xs = true → HasTypeListL S L t xs) := by
  apply typedBL.mutual_induct S
    (motive_1 := fun fuel t v => typedBL S L fuel t v = true → HasTypeL S L t v)
    (motive_2 := fun fuel cn fs vs => typedFieldsBL S L fuel cn fs vs = true → HasFieldsL S L cn fs vs)
    (motive_3 := fun fuel ts v => typedAnyBL S L fuel ts v = true → ∃ pre t post, ts = pre ++ t :: post ∧
      HasTypeL S L t v ∧ ∀ t' ∈ pre, Ev (fun fuel => fromPrimL S L fuel t' (toPrim S v) = .deser))
    (motive_4 := fun fuel t xs => typedListBL S L fuel t xs = true → HasTypeListL S L t xs)
  · intro _ _ h; cases h
  · intro _ i h; exact .int (intOkB_sound i h)
  · intro _ _ _; exact .bytes
  · intro _ _ _; exact .text
  · intro _ _; exact .none
  · intro _ _ _; exact .bool
  · intro _ n d h
    rw [typedBL, Bool.and_eq_true] at h
    exact .frac (intOkB_sound n h.1) (intOkB_sound d h.2)
  · intro _ _ _; exact .any
  · intro _ _ _ _ _ ih h; exact .oset (ih h)
  · intro _ _ _ ih h; exact .list (ih h)
  · intro _ _ _ ih h
    obtain ⟨pre, t, post, rfl, ht, hrej⟩ := ih h
    exact .union ht hrej
  · intro _ n _ hl h
    rw [typedBL, hl] at h; cases h
  · intro _ n cd hl i h
    rw [typedBL, hl] at h
    simp only [Bool.and_eq_true] at h
    exact .custom hl (opaque_ok h.1) (fixedB_sound L n i h.2)
  · intro _ n cd hl x h
    rw [typedBL, hl] at h
    simp only [Bool.and_eq_true] at h
    cases hk : cd.kind with
    | «enum» vals =>
      rw [hk] at h; simp only [Bool.and_eq_true] at h
      exact .enum hl (genericB_sound _ h.1) hk h.2.1 (intOkB_sound _ h.2.2)
    | _ => rw [hk] at h; simp at h
  · intro _ n cd hl b h
    rw [typedBL, hl] at h
    simp only [Bool.and_eq_true] at h
    cases hk : cd.kind with
    | cbytes mn mx =>
      rw [hk] at h; simp only [Bool.and_eq_true, decide_eq_true_eq] at h
      exact .cb hl (genericB_sound _ h.1) hk h.2.1 h.2.2
    | _ => rw [hk] at h; simp at h
  · intro _ n cd hl m fs ih h
    rw [typedBL, hl] at h
    simp only [Bool.and_eq_true, beq_iff_eq] at h
    obtain ⟨⟨⟨rfl, hg⟩, hs⟩, hf⟩ := h
    exact .obj hl (genericB_sound _ hg) (shapeOK_sound _ hs) (ih hf)
  · intro _ n v cd hl h1 h2 h3 h4 h
    rw [typedBL, hl] at h
    dsimp only at h
    split at h
    · exact (h1 _ rfl).elim
    · exact (h2 _ rfl).elim
    · exact (h3 _ rfl).elim
    · exact (h4 _ _ rfl).elim
    · cases h
  · intro _ _ _ _ _ _ _ _ _ _ _ _ _ _ h
    rw [typedBL] at h
    · cases h
    all_goals assumption
  · intro _ _ _ h; cases h
  · intro _ _ _; exact .nil
  · intro _ cn f fs v vs ih1 ih2 h
    rw [typedFieldsBL] at h
    simp only [Bool.and_eq_true, Bool.or_eq_true, Bool.not_eq_true'] at h
    obtain ⟨(⟨ho, hn⟩ | ⟨hh, hq⟩) | ⟨hh, ht⟩, hrest⟩ := h
    · match v, hn with
      | .none, _ => exact .skip ho (ih2 hrest)
    · match v, hq with
      | .opaque i, hq => exact .hook hh (fixedB_sound L _ i hq) (ih2 hrest)
    · exact .cons hh (ih1 ht) (ih2 hrest)
  · intro _ _ _ _ _ _ h
    rw [typedFieldsBL] at h
    · cases h
    all_goals assumption
  · intro _ _ h; cases h
  · intro _ _ h; cases h
  · intro fuel t ts v ih1 ih3 h
    rw [typedAnyBL] at h
    simp only [Bool.or_eq_true, Bool.and_eq_true] at h
    rcases h with h | ⟨hr, h⟩
    · exact ⟨[], t, ts, rfl, ih1 h, fun _ ht' => nomatch ht'⟩
    · obtain ⟨pre, t', post, rfl, ht, hrej⟩ := ih3 h
      refine ⟨t :: pre, t', post, rfl, ht, fun t'' ht'' => ?_⟩
      rcases List.mem_cons.1 ht'' with rfl | ht''
      · exact rejectsBL_sound S L fuel _ _ hr
      · exact hrej t'' ht''
  · intro _ _ h; cases h
  · intro _ _ _; exact .nil
  · intro _ _ _ _ ih1 ih2 h
    rw [typedListBL, Bool.and_eq_true] at h
    exact .cons (ih1 h.1) (ih2 h.2)

theorem typedBL_sound (S : List ClassDef) (L : LeafEnv) (fuel : Nat) (t : Ty) (v : Val) (h : typedBL S L fuel t v = true) :
    HasTypeL S L t v := (typed_soundL S L).1 fuel t v h

/-! ## without leaves: `typedB` is `typedBL S noLeaves` -/

theorem rejectsBL_noLeaves (S : List ClassDef) : rejectsBL S noLeaves = rejectsB S := by
  funext fuel t i; rw [rejectsBL, rejectsB, fromPrimL_noLeaves]

theorem hookFixedB_noLeaves (key : String) (v : Val) : hookFixedB noLeaves key v = isOpaqueB v := by
  cases v <;> rfl

theorem typedBL_noLeaves (S : List ClassDef) :
    (∀ fuel t v, typedBL S noLeaves fuel t v = typedB S fuel t v) ∧
    (∀ fuel cn fs vs, typedFieldsBL S noLeaves fuel cn fs vs = typedFieldsB S fuel fs vs) ∧
    (∀ fuel ts v, typedAnyBL S noLeaves fuel ts v = typedAnyB S fuel ts v) ∧
    (∀ fuel t xs, typedListBL S noLeaves fuel t xs = typedListB S fuel t xs) := by
  apply typedBL.mutual_induct S
    (motive_1 := fun fuel t v => typedBL S noLeaves fuel t v = typedB S fuel t v)
    (motive_2 := fun fuel cn fs vs => typedFieldsBL S noLeaves fuel cn fs vs = typedFieldsB S fuel fs vs)
    (motive_3 := fun fuel ts v => typedAnyBL S noLeaves fuel ts v = typedAnyB S fuel ts v)
    (motive_4 := fun fuel t xs => typedListBL S noLeaves fuel t xs = typedListB S fuel t xs)
  · intros; rfl
  · intros; rfl
  · intros; rfl
  · intros; rfl
  · intros; rfl
  · intros; rfl
  · intros; rfl
  · intros; rfl
  · intro _ _ _ _ _ ih; exact ih
  · intro _ _ _ ih; exact ih
  · intro _ _ _ ih; exact ih
  · intro _ n v hl; rw [typedBL, typedB, hl]
  · intro _ n cd hl i; rw [typedBL, typedB, hl]; exact Bool.and_true _
  · intro _ n cd hl x; rw [typedBL, typedB, hl]
  · intro _ n cd hl b; rw [typedBL, typedB, hl]
  · intro _ n cd hl m fs ih; rw [typedBL, typedB, hl]; dsimp only; rw [ih]
  · intro _ n v cd hl h1 h2 h3 h4
    cases v with
    | «opaque» i => exact (h1 i rfl).elim
    | «enum» x => exact (h2 x rfl).elim
    | cb b => exact (h3 b rfl).elim
    | obj m fs => exact (h4 m fs rfl).elim
    | _ => rw [typedBL, typedB, hl]
  · intros; rw [typedBL, typedB] <;> assumption
  · intros; rfl
  · intros; rfl
  · intro _ cn f fs v vs ih1 ih2; rw [typedFieldsBL, typedFieldsB, ih1, ih2, hookFixedB_noLeaves]
  · intros; rw [typedFieldsBL, typedFieldsB] <;> assumption
  · intros; rfl
  · intros; rfl
  · intro _ t ts v ih1 ih3; rw [typedAnyBL, typedAnyB, ih1, ih3, rejectsBL_noLeaves]
  · intros; rfl
  · intros; rfl
  · intro _ t x xs ih1 ih2; rw [typedListBL, typedListB, ih1, ih2]

end Pyc.Compose

namespace Pyc.Codec
open Pyc.Schema

/-- **soundness of the executable typing check** -/
theorem typedB_sound (S : List ClassDef) (fuel : Nat) (t : Ty) (v : Val) (h : typedB S fuel t v = true) :
    HasType S t v :=
  Compose.hasType_of_hasTypeL
    ((Compose.typed_soundL S Compose.noLeaves).1 fuel t v (by rw [(Compose.typedBL_noLeaves S).1]; exact h))

theorem typedListB_sound (S : List ClassDef) (fuel : Nat) (t : Ty) (xs : List Val) (h : typedListB S fuel t xs = true) :
    HasTypeList S t xs :=
  Compose.hasTypeList_of_hasTypeListL
    ((Compose.typed_soundL S Compose.noLeaves).2.2.2 fuel t xs (by rw [(Compose.typedBL_noLeaves S).2.2.2]; exact h))

/-- Boolean form of `CodedAlts`: every alternative is a generic coded class of the table; returns the codes -/
def codedAltsB (S : List ClassDef) : List Ty → Option (List Nat)
  | [] => some []
  | .cls n :: ts =>
    match lookup S n with
    | some cd =>
      match cd.kind with
      | .coded k =>
        if genericB cd && decide (k < 2^64) then (codedAltsB S ts).map (k :: ·) else Option.none
      | _ => Option.none
    | Option.none => Option.none
  | _ :: _ => Option.none

theorem codedAltsB_sound (S : List ClassDef) (ts : List Ty) (ks : List Nat) (h : codedAltsB S ts = some ks) :
    CodedAlts S ts ks := by
  induction ts generalizing ks with
  | nil => simp [codedAltsB] at h; subst h; simp [CodedAlts]
  | cons t ts ih =>
    cases t with
    | cls n =>
      simp only [codedAltsB] at h
      cases hl : lookup S n with
      | none => rw [hl] at h; simp at h
      | some cd =>
        rw [hl] at h; simp only at h
        cases hk : cd.kind with
        | coded k =>
          rw [hk] at h; simp only at h
          split at h
          · rename_i hc
            simp only [Bool.and_eq_true, decide_eq_true_eq] at hc
            cases hr : codedAltsB S ts with
            | none => rw [hr] at h; simp at h
            | some ks' =>
              rw [hr] at h; simp only [Option.map_some, Option.some.injEq] at h
              subst h
              simp only [CodedAlts]
              exact ⟨⟨cd, hl, genericB_sound _ hc.1, hk, hc.2⟩, ih _ hr⟩
          · simp at h
        | _ => rw [hk] at h; simp at h
    | _ => simp [codedAltsB] at h

end Pyc.Codec
