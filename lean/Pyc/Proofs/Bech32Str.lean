import Pyc.Proofs.Bech32
import Pyc.Proofs.Convertbits

/-! The string level of `Pyc/Model/Bech32.lean`: the character table, the checksum that `bech32_create_checksum`
writes (the register read as six base-32 digits), and `bech32_decode` on strings of the shape
prefix ‖ `"1"` ‖ charset characters, where it reduces to the case test followed by `decodeCore`; from these the
round trip, the rejection of Bech32m checksums and of single substitutions, for strings of any length. -/

namespace Pyc.Bech32

/-! ## characters of the data part -/

def chr (d : Nat) : Char := charset.getD d 'q'
def idx (c : Char) : Nat := charset.idxOf c

/-- what `bech32_decode` needs of each character of `CHARSET`: printable, lower case, not the separator -/
theorem charset_facts : ∀ c ∈ charset, 33 ≤ c.toNat ∧ c.toNat ≤ 126 ∧ lowerChar c = c ∧ c ≠ '1' := by
  decide +kernel

/-- no character occurs twice in `CHARSET` -/
theorem idx_chr : ∀ d, d < 32 → idx (chr d) = d := by decide +kernel

theorem charset_length : charset.length = 32 := by decide +kernel

theorem getElem?_chr {d : Nat} (h : d < 32) : charset[d]? = some (chr d) := by
  rw [chr, List.getD_eq_getElem?_getD, List.getElem?_eq_getElem (charset_length ▸ h)]
  rfl

theorem chr_mem {d : Nat} (h : d < 32) : chr d ∈ charset := List.mem_of_getElem? (getElem?_chr h)

theorem idx_lt {c : Char} (h : c ∈ charset) : idx c < 32 := charset_length ▸ List.idxOf_lt_length_of_mem h

theorem chr_idx {c : Char} (h : c ∈ charset) : chr (idx c) = c := by
  have hl : charset.idxOf c < charset.length := List.idxOf_lt_length_of_mem h
  rw [← Option.some_inj, ← getElem?_chr (idx_lt h), idx, List.getElem?_eq_getElem hl, List.getElem_idxOf hl]

theorem idx_inj {c c' : Char} (h : c ∈ charset) (h' : c' ∈ charset) (e : idx c = idx c') : c = c' := by
  rw [← chr_idx h, ← chr_idx h', e]

theorem mapM_charset : ∀ (l : List Nat), (∀ d ∈ l, d < 32) → l.mapM (fun d => charset[d]?) = some (l.map chr)
  | [], _ => rfl
  | d :: l, h => by
    obtain ⟨hd, hl⟩ := List.forall_mem_cons.mp h
    rw [List.mapM_cons, getElem?_chr hd, mapM_charset l hl]
    rfl

theorem map_idx_chr : ∀ (l : List Nat), (∀ d ∈ l, d < 32) → (l.map chr).map idx = l
  | [], _ => rfl
  | d :: l, h => by
    obtain ⟨hd, hl⟩ := List.forall_mem_cons.mp h
    rw [List.map_cons, List.map_cons, idx_chr d hd, map_idx_chr l hl]

theorem chr_in_charset (l : List Nat) (hl : ∀ d ∈ l, d < 32) : ∀ c ∈ l.map chr, c ∈ charset := by
  intro c hc
  obtain ⟨d, hd', rfl⟩ := List.mem_map.mp hc
  exact chr_mem (hl d hd')

theorem map_lower_fixed (l : List Char) (h : ∀ c ∈ l, lowerChar c = c) : l.map lowerChar = l := by
  rw [List.map_congr_left h, List.map_id']

/-! ## checksum creation -/

/-- the constant `bech32_create_checksum` xors in: `BECH32M_CONST if spec == Encoding.BECH32M else 1` -/
def constOf (m : Bool) : Nat := if m then bech32mConst else 1

theorem constOf_lt (m : Bool) : constOf m < 2 ^ 30 := by cases m <;> decide

/-- the `n` low base-32 digits of `x`, most significant first -/
def digits : Nat → Nat → List Nat
  | 0, _ => []
  | n + 1, x => digits n (x / 32) ++ [x % 32]

theorem digits_length : ∀ (n x : Nat), (digits n x).length = n
  | 0, _ => rfl
  | n + 1, x => by rw [digits, List.length_append, digits_length n, List.length_singleton]

theorem digits_lt : ∀ (n x : Nat), ∀ d ∈ digits n x, d < 32
  | 0, _, _, h => by cases h
  | n + 1, x, d, h => by
    rcases List.mem_append.mp h with h | h
    · exact digits_lt n _ d h
    · rw [List.mem_singleton.mp h]; exact Nat.mod_lt _ (by decide)

theorem foldl_digits : ∀ (n x : Nat), (digits n x).foldl (fun a d => a * 32 + d) 0 = x % 32 ^ n
  | 0, x => by rw [Nat.pow_zero, Nat.mod_one]; rfl
  | n + 1, x => by
    rw [digits, List.foldl_append, foldl_digits n, Nat.pow_succ', Nat.mod_mul, List.foldl_cons, List.foldl_nil,
      Nat.mul_comm, Nat.add_comm]

theorem polymodFrom_digits (pm : Nat) (h : pm < 2 ^ 30) : polymodFrom 0 (digits 6 pm) = pm := by
  rw [polymodFrom_small _ 0 0 (by decide) (by simp [digits_length]) (digits_lt 6 pm), foldl_digits]
  exact Nat.mod_eq_of_lt h

theorem createChecksum_eq (hrp : List Char) (data : List Nat) (m : Bool) :
    createChecksum hrp data m = digits 6 (polymod (hrpExpand hrp ++ data ++ [0, 0, 0, 0, 0, 0]) ^^^ constOf m) := by
  simp only [createChecksum, constOf, digits, List.range, List.range.loop, List.map, Nat.and_two_pow_sub_one_eq_mod _ 5,
    Nat.shiftRight_eq_div_pow, Nat.div_div_eq_div_mul, List.nil_append, List.cons_append, Nat.reduceMul,
    Nat.reduceSub, Nat.reducePow, Nat.div_one]

/-- the checksum written by `bech32_create_checksum` leaves exactly the constant it was created with: by linearity
the register after the checksum is the register after six zeros, `P`, xor the checksum read as a number, `P ^^^ K` -/
theorem checksum_const (hrp : List Char) (data : List Nat) (m : Bool) :
    polymod (hrpExpand hrp ++ (data ++ createChecksum hrp data m)) = constOf m := by
  generalize hc : polymodFrom 1 (hrpExpand hrp ++ data) = c
  have hz : polymod (hrpExpand hrp ++ data ++ [0, 0, 0, 0, 0, 0]) = polymodFrom c (List.replicate 6 0) :=
    hc ▸ polymodFrom_append 1 _ _
  have hlt : polymodFrom c (List.replicate 6 0) ^^^ constOf m < 2 ^ 30 :=
    Nat.xor_lt_two_pow (polymodFrom_cons_zeros_lt 5 c 0 (by decide)) (constOf_lt m)
  rw [createChecksum_eq, hz, ← List.append_assoc, polymod, polymodFrom_append, hc, polymodFrom_eq_xor c (digits 6 _),
    digits_length, polymodFrom_digits _ hlt, ← Nat.xor_assoc, Nat.xor_self, Nat.zero_xor]

/-! ## encoding produces `hrp ++ "1" ++ characters` -/

theorem createChecksum_length (hrp : List Char) (data : List Nat) (m : Bool) :
    (createChecksum hrp data m).length = 6 :=
  createChecksum_eq hrp data m ▸ digits_length 6 _

theorem all_lt_append (hrp : List Char) (data : List Nat) (m : Bool) (hd : ∀ d ∈ data, d < 32) :
    ∀ d ∈ data ++ createChecksum hrp data m, d < 32 := by
  intro d h
  rcases List.mem_append.mp h with h | h
  · exact hd d h
  · exact digits_lt 6 _ d (createChecksum_eq hrp data m ▸ h)

theorem bech32Encode_eq (hrp : List Char) (data : List Nat) (hd : ∀ d ∈ data, d < 32) (m : Bool) :
    bech32Encode hrp data m = some (hrp ++ '1' :: (data ++ createChecksum hrp data m).map chr) := by
  unfold bech32Encode
  simp only [mapM_charset _ (all_lt_append hrp data m hd), List.append_assoc, List.singleton_append]

/-! ## decoding a string of the shape `hrp ++ "1" ++ charset characters` -/

theorem rfind_none : ∀ (d : List Char), (∀ c ∈ d, c ≠ '1') → rfind '1' d = none
  | [], _ => rfl
  | x :: d, h => by
    obtain ⟨hx, hd⟩ := List.forall_mem_cons.mp h
    simp only [rfind, rfind_none d hd, hx, if_false]

theorem rfind_sep : ∀ (hrp d : List Char), (∀ c ∈ d, c ≠ '1') → rfind '1' (hrp ++ '1' :: d) = some hrp.length
  | [], d, h => by simp [rfind, rfind_none d h]
  | x :: hrp, d, h => by simp [rfind, rfind_sep hrp d h]

theorem verify_bech32_iff (hrp : List Char) (data : List Nat) :
    verifyChecksum hrp data = some .bech32 ↔ polymod (hrpExpand hrp ++ data) = 1 := by
  unfold verifyChecksum
  simp only []
  split
  · simp [*]
  · split
    · rename_i h1 h2
      simp only [reduceCtorEq, Option.some.injEq, false_iff]
      exact h1
    · simp [*]

/-- what `bech32_decode` does after the case test, on lower-cased prefix `hl` and data characters `d`
(no length limit; only a Bech32 checksum, register value 1, is accepted) -/
def decodeCore (hl d : List Char) : Option (List Char × List Nat × Encoding) :=
  if 1 ≤ hl.length ∧ 6 ≤ d.length ∧ polymod (hrpExpand hl ++ d.map idx) = 1
  then some (hl, (d.map idx).take (d.length - 6), .bech32) else none

theorem decodeCore_some_iff (hl d : List Char) :
    decodeCore hl d ≠ none ↔ 1 ≤ hl.length ∧ 6 ≤ d.length ∧ polymod (hrpExpand hl ++ d.map idx) = 1 := by
  unfold decodeCore
  split <;> simp [*]

theorem decodeCore_none_of_not_accepted (hl d : List Char) (h : polymod (hrpExpand hl ++ d.map idx) ≠ 1) :
    decodeCore hl d = none := if_neg fun h' => h h'.2.2

theorem bech32Decode_shape (hrp d : List Char) (hA : ∀ c ∈ hrp, 33 ≤ c.toNat ∧ c.toNat ≤ 126)
    (hB : ∀ c ∈ d, c ∈ charset) :
    bech32Decode (hrp ++ '1' :: d) =
      if ((hrp ++ '1' :: d).map lowerChar != (hrp ++ '1' :: d) && (hrp ++ '1' :: d).map upperChar != (hrp ++ '1' :: d))
      then none else decodeCore (hrp.map lowerChar) d := by
  have hrange : (hrp ++ '1' :: d).any (fun x => x.toNat < 33 || x.toNat > 126) = false := by
    rw [List.any_eq_false, List.forall_mem_append, List.forall_mem_cons]
    refine ⟨fun x hx => ?_, by decide, fun x hx => ?_⟩
    · have := hA x hx; simp; omega
    · have := charset_facts x (hB x hx); simp; omega
  have hne : ∀ c ∈ d, c ≠ '1' := fun c hc => (charset_facts c (hB c hc)).2.2.2
  have hlow : (hrp ++ '1' :: d).map lowerChar = hrp.map lowerChar ++ '1' :: d := by
    rw [List.map_append, List.map_cons, map_lower_fixed d fun c hc => (charset_facts c (hB c hc)).2.2.1]; rfl
  unfold bech32Decode
  rw [hrange, Bool.false_or]
  split
  · rfl
  · simp only [hlow, rfind_sep _ _ hne, List.length_map, List.length_append, List.length_cons]
    have hdrop : List.drop (hrp.length + 1) (List.map lowerChar hrp ++ '1' :: d) = d := by
      rw [← List.length_map (f := lowerChar), List.drop_length_add_append]; rfl
    have htake : List.take hrp.length (List.map lowerChar hrp ++ '1' :: d) = List.map lowerChar hrp :=
      List.take_left' (List.length_map _)
    have hall : (d.all fun x => charset.contains x) = true :=
      List.all_eq_true.mpr fun x hx => List.contains_iff_mem.mpr (hB x hx)
    rw [hdrop, htake, hall, show (fun x => List.idxOf x charset) = idx from rfl]
    unfold decodeCore
    simp only [List.length_map, Bool.not_true, Bool.false_eq_true, if_false, Bool.or_eq_true, decide_eq_true_eq]
    by_cases hlen : hrp.length < 1 ∨ hrp.length + 7 > hrp.length + (d.length + 1)
    · rw [if_pos hlen, if_neg (by omega)]
    · rw [if_neg hlen]
      by_cases hv : polymod (hrpExpand (hrp.map lowerChar) ++ d.map idx) = 1
      · rw [(verify_bech32_iff _ _).mpr hv, if_pos ⟨by omega, by omega, hv⟩]
      · rw [if_neg fun h => hv h.2.2]
        split
        · rename_i hs
          exact absurd ((verify_bech32_iff _ _).mp hs) hv
        · rfl

theorem bech32Decode_accepts (s hrp : List Char) (data : List Nat) (spec : Encoding)
    (h : bech32Decode s = some (hrp, data, spec)) :
    spec = .bech32 ∧ ∃ full, polymod (hrpExpand hrp ++ full) = 1 ∧ data = full.take (full.length - 6) := by
  unfold bech32Decode at h
  split at h
  · exact absurd h (by simp)
  · simp only [] at h
    split at h
    · exact absurd h (by simp)
    · split at h
      · exact absurd h (by simp)
      · split at h
        · exact absurd h (by simp)
        · split at h
          · rename_i hv
            simp only [Option.some.injEq, Prod.mk.injEq] at h
            obtain ⟨rfl, rfl, rfl⟩ := h
            exact ⟨rfl, _, (verify_bech32_iff _ _).mp hv, rfl⟩
          · exact absurd h (by simp)

/-! ## round trip -/

/-- hypotheses on the human-readable part: non-empty, printable ASCII, no upper-case letter -/
def HrpOk (hrp : List Char) : Prop := hrp ≠ [] ∧ ∀ c ∈ hrp, 33 ≤ c.toNat ∧ c.toNat ≤ 126 ∧ lowerChar c = c

instance (hrp : List Char) : Decidable (HrpOk hrp) := by unfold HrpOk; infer_instance

theorem hrpOk_pool : HrpOk "pool".toList := by decide

/-- `bech32_decode` of an encoded string, whatever constant the checksum was created with: the case test passes and
the decision is left to the checksum -/
theorem bech32Decode_encoded (hrp : List Char) (data : List Nat) (m : Bool) (hh : HrpOk hrp)
    (hd : ∀ d ∈ data, d < 32) :
    bech32Decode (hrp ++ '1' :: (data ++ createChecksum hrp data m).map chr) =
      decodeCore hrp ((data ++ createChecksum hrp data m).map chr) := by
  have hB := chr_in_charset _ (all_lt_append hrp data m hd)
  have hlow : (hrp ++ '1' :: (data ++ createChecksum hrp data m).map chr).map lowerChar
      = hrp ++ '1' :: (data ++ createChecksum hrp data m).map chr :=
    map_lower_fixed _ (List.forall_mem_append.mpr ⟨fun c hc => (hh.2 c hc).2.2,
      List.forall_mem_cons.mpr ⟨by decide, fun c hc => (charset_facts c (hB c hc)).2.2.1⟩⟩)
  rw [bech32Decode_shape hrp _ (fun c hc => ⟨(hh.2 c hc).1, (hh.2 c hc).2.1⟩) hB, hlow,
    map_lower_fixed hrp fun c hc => (hh.2 c hc).2.2]
  simp only [bne_self_eq_false, Bool.false_and, Bool.false_eq_true, if_false]

theorem bech32Decode_bech32Encode (hrp : List Char) (data : List Nat) (hh : HrpOk hrp) (hd : ∀ d ∈ data, d < 32) :
    bech32Decode (hrp ++ '1' :: (data ++ createChecksum hrp data false).map chr) = some (hrp, data, .bech32) := by
  have hne : 0 < hrp.length := List.length_pos_iff.mpr hh.1
  have hl : ((data ++ createChecksum hrp data false).map chr).length = data.length + 6 := by
    simp [createChecksum_length]
  rw [bech32Decode_encoded hrp data false hh hd, decodeCore, hl, map_idx_chr _ (all_lt_append hrp data false hd),
    if_pos ⟨hne, by omega, checksum_const hrp data false⟩]
  simp

theorem subst_rejected (hrp pre suf : List Char) (c c' : Char) (hA : ∀ x ∈ hrp, 33 ≤ x.toNat ∧ x.toNat ≤ 126)
    (hpre : ∀ x ∈ pre, x ∈ charset) (hsuf : ∀ x ∈ suf, x ∈ charset) (hc : c ∈ charset) (hc' : c' ∈ charset)
    (hne : c ≠ c') (hvalid : bech32Decode (hrp ++ '1' :: (pre ++ c :: suf)) ≠ none) :
    bech32Decode (hrp ++ '1' :: (pre ++ c' :: suf)) = none := by
  have hB : ∀ (y : Char), y ∈ charset → ∀ x ∈ pre ++ y :: suf, x ∈ charset := fun y hy =>
    List.forall_mem_append.mpr ⟨hpre, List.forall_mem_cons.mpr ⟨hy, hsuf⟩⟩
  rw [bech32Decode_shape hrp _ hA (hB c hc)] at hvalid
  rw [bech32Decode_shape hrp _ hA (hB c' hc')]
  split
  · rfl
  · have hcore : decodeCore (hrp.map lowerChar) (pre ++ c :: suf) ≠ none := by
      intro h; apply hvalid; rw [h]; split <;> rfl
    have hacc := ((decodeCore_some_iff _ _).mp hcore).2.2
    apply decodeCore_none_of_not_accepted
    simp only [List.map_append, List.map_cons, polymod, ← List.append_assoc] at hacc ⊢
    exact subst_not_accepted 1 _ _ (idx c) (idx c') (idx_lt hc) (idx_lt hc') (fun e => hne (idx_inj hc hc' e)) hacc

theorem uint8_map_lt (bs : Bytes) : ∀ b ∈ bs.map UInt8.toNat, b < 2 ^ 8 := by
  intro b hb
  obtain ⟨x, _, rfl⟩ := List.mem_map.mp hb
  exact x.toNat_lt

theorem encode_eq (hrp : List Char) (bs : Bytes) (hh : HrpOk hrp) :
    ∃ out, convertbits (bs.map UInt8.toNat) 8 5 true = some out ∧ (∀ d ∈ out, d < 32) ∧
      out.length = (8 * bs.length + 4) / 5 ∧
      encode hrp bs = some (hrp ++ '1' :: (out ++ createChecksum hrp out false).map chr) := by
  obtain ⟨out, e1, ho, hl1, hl2, _⟩ := convertbits_roundtrip_nat (bs.map UInt8.toNat) (uint8_map_lt bs)
  rw [List.length_map] at hl1 hl2
  refine ⟨out, e1, ho, by omega, ?_⟩
  unfold encode
  rw [e1]
  simp only [bech32Encode_eq hrp out ho false]
  rw [bech32Decode_bech32Encode hrp out hh ho]
  simp

theorem encode_some (hrp : List Char) (bs : Bytes) (hh : HrpOk hrp) :
    ∃ s, encode hrp bs = some s ∧ s.length = hrp.length + 7 + (8 * bs.length + 4) / 5 := by
  obtain ⟨out, _, _, hl, he⟩ := encode_eq hrp bs hh
  refine ⟨_, he, ?_⟩
  simp only [List.length_append, List.length_cons, List.length_map, createChecksum_length, hl]
  omega

theorem decode_encode (hrp : List Char) (bs : Bytes) (hh : HrpOk hrp) (h2 : 2 ≤ bs.length) (s : List Char)
    (he : encode hrp bs = some s) : decode s = .ok (bs.map UInt8.toNat) := by
  obtain ⟨out, e1, ho, _, hl2, e2⟩ := convertbits_roundtrip_nat (bs.map UInt8.toNat) (uint8_map_lt bs)
  obtain ⟨out', e1', _, _, he'⟩ := encode_eq hrp bs hh
  rw [e1] at e1'
  obtain rfl : out = out' := Option.some.inj e1'
  rw [he] at he'
  obtain rfl := Option.some.inj he'
  unfold decode
  rw [bech32Decode_bech32Encode hrp out hh ho]
  simp only [e2, List.length_map]
  rw [if_neg (by omega)]

end Pyc.Bech32
