import Pyc.Proofs.CodecFuel
import Pyc.Proofs.Cbor
import Pyc.Proofs.SchemaCheck

/-! Generic round trip of the table-driven codec: for every schema `S`, every leaf environment `L` and every value `v` typed
by `HasTypeL S L t v` (integers in the 64-bit ranges, byte strings, text, `None`, lists, ordered sets, ordered unions,
constrained byte classes, array / coded / map classes restored by the generic code, classes with their own codec as
primitives that the leaf's normaliser fixes), `fromPrimL S L fuel t (toPrim S v) = ok v` for all sufficiently large fuel
(`rt_allL`).  `HasType S` is a second inductive, the relation without leaves: it embeds into `HasTypeL S noLeaves` and back
(`hasTypeL_of_hasType`, `hasType_of_hasTypeL`), and `rt_all` is `rt_allL` at `noLeaves`.

The side condition of an ordered union — every alternative *before* the one that types the value answers
`DeserializeException` on the value's image — is a premise of the typing rule `HasType.union` itself (per value and
per union occurrence), so the theorem has no global hypothesis.  It is discharged by theorem for unions of coded
classes (`unionOK_coded`) and by evaluation for any concrete value (`typedB`, via fuel monotonicity, `Proofs/Typed.lean`).
(Stated as ONE global hypothesis over all unions it would be unsatisfiable — `.any` rejects nothing — and the theorem
vacuous: `C01.global_union_condition_unsatisfiable`.) -/

namespace Pyc.Codec
open Pyc.Schema

/-- "eventually": for all sufficiently large fuel -/
def Ev (p : Nat → Prop) : Prop := ∃ N, ∀ fuel, N ≤ fuel → p fuel

theorem Ev.and {p q : Nat → Prop} (hp : Ev p) (hq : Ev q) : Ev (fun n => p n ∧ q n) := by
  obtain ⟨a, ha⟩ := hp; obtain ⟨b, hb⟩ := hq
  exact ⟨max a b, fun f hf => ⟨ha f (by omega), hb f (by omega)⟩⟩

theorem Ev.succ {p q : Nat → Prop} (hp : Ev p) (h : ∀ n, p n → q (n+1)) : Ev q := by
  obtain ⟨a, ha⟩ := hp
  refine ⟨a+1, fun f hf => ?_⟩
  obtain ⟨g, rfl⟩ : ∃ g, f = g + 1 := ⟨f - 1, by omega⟩
  exact h g (ha g (by omega))

theorem Ev.pos {p : Nat → Prop} (h : ∀ n, p (n+1)) : Ev p :=
  ⟨1, fun f hf => by obtain ⟨g, rfl⟩ : ∃ g, f = g + 1 := ⟨f - 1, by omega⟩; exact h g⟩

/-- integers cbor2 encodes in the major types 0 / 1 -/
def IntOk (i : Int) : Prop := -(2:Int)^64 ≤ i ∧ i < (2:Int)^64

theorem itemInt_ofInt (i : Int) (h : IntOk i) : itemInt? (ofInt i) = some i := by
  unfold IntOk at h
  unfold ofInt
  by_cases h0 : 0 ≤ i
  · have h1 : i.toNat < 2^64 := by omega
    simp only [h0, h1, if_true, itemInt?]
    congr 1; omega
  · have h1 : (-1 - i).toNat < 2^64 := by omega
    simp only [h0, if_false, h1, if_true, itemInt?]
    congr 1; omega

/-- a class restored by the generic code: no `from_primitive` / `__post_init__` of its own -/
def Generic (cd : ClassDef) : Prop :=
  cd.overrides.contains "from_primitive" = false ∧ cd.overrides.contains "__post_init__" = false

/-- keys the map classes use: non-negative integers below 2^64 -/
def KeyOk (k : Key) : Prop := ∃ n : Nat, k = .int n ∧ n < 2^64

/-- shape of a class the generic theorem covers (decidable per class, see `shapeOK`):
array classes — every dataclass field is a constructor field, none optional;
coded classes — the code fits a CBOR head, constructor fields not optional;
map classes — every field is a constructor field keyed by a distinct small integer, an optional field defaults
to `None`.
A field restored by an `object_hook` (hand-written code) is allowed: its value is carried as an opaque primitive
(`HasFields.hook`). -/
def ShapeOK (cd : ClassDef) : Prop :=
  match cd.kind with
  | .array => ∀ f ∈ cd.fields, f.init = true ∧ f.optional = false
  | .coded k => k < 2^64 ∧ ∀ f ∈ wireFields cd, f.optional = false
  | .map => (∀ f ∈ cd.fields, f.init = true ∧ KeyOk f.key ∧ (f.optional = true → dfltVal f = some .none)) ∧
      (cd.fields.map (·.key)).Nodup
  | _ => False

mutual
inductive HasType (S : List ClassDef) : Ty → Val → Prop
  | int {i} : IntOk i → HasType S .int (.int i)
  | bytes {b} : HasType S .bytes (.bytes b)
  | text {b} : HasType S .text (.text b)
  | none : HasType S .none .none
  | bool {b} : HasType S .bool (.bool b)
  | frac {n d} : IntOk n → IntOk d → HasType S .frac (.frac n d)
  | any {i} : HasType S .any (.opaque i)
  | custom {n cd i} : lookup S n = some cd → (Generic cd → cd.kind = .custom ∨ cd.kind = .oset) →
      HasType S (.cls n) (.opaque i)                   -- a class with its own codec: carried as its primitive
  | enum {n cd vals v} : lookup S n = some cd → Generic cd → cd.kind = .enum vals → vals.contains v = true → IntOk v →
      HasType S (.cls n) (.enum v)
  | oset {t ne tagged xs} : HasTypeList S t xs → HasType S (.oset t ne) (.oset tagged xs)
  | list {t xs} : HasTypeList S t xs → HasType S (.list t) (.list xs)
  | union {pre t post v} : HasType S t v →
      -- ordered dispatch reaches `t`: every earlier alternative raises `DeserializeException` on the image of `v`
      (∀ t' ∈ pre, Ev (fun fuel => fromPrim S fuel t' (toPrim S v) = .deser)) →
      HasType S (.union (pre ++ t :: post)) v
  | cb {n cd mn mx b} : lookup S n = some cd → Generic cd → cd.kind = .cbytes mn mx → mn ≤ b.length → b.length ≤ mx →
      HasType S (.cls n) (.cb b)
  | obj {n cd fs} : lookup S n = some cd → Generic cd → ShapeOK cd →
      HasFields S (wireFields cd) fs → HasType S (.cls n) (.obj n fs)
inductive HasTypeList (S : List ClassDef) : Ty → List Val → Prop
  | nil {t} : HasTypeList S t []
  | cons {t x xs} : HasType S t x → HasTypeList S t xs → HasTypeList S t (x :: xs)
inductive HasFields (S : List ClassDef) : List FieldDef → List Val → Prop
  | nil : HasFields S [] []
  | cons {f fs v vs} : f.hook = false → HasType S f.ty v → HasFields S fs vs → HasFields S (f :: fs) (v :: vs)
  -- an optional field holding `None` is not written (map classes), whatever its type hint
  | skip {f fs vs} : f.optional = true → HasFields S fs vs → HasFields S (f :: fs) (.none :: vs)
  -- a field restored by its `object_hook` (hand-written code) is carried as its primitive
  | hook {f fs i vs} : f.hook = true → HasFields S fs vs → HasFields S (f :: fs) (.opaque i :: vs)
end

theorem wireFields_eq_of_init (cd : ClassDef) (h : ∀ f ∈ cd.fields, f.init = true) : wireFields cd = cd.fields := by
  unfold wireFields
  rw [List.filter_eq_self]
  exact h

end Pyc.Codec

namespace Pyc.Compose
open Pyc.Cbor Pyc.Schema Pyc.Codec

mutual
inductive HasTypeL (S : List ClassDef) (L : LeafEnv) : Ty → Val → Prop
  | int {i} : IntOk i → HasTypeL S L .int (.int i)
  | bytes {b} : HasTypeL S L .bytes (.bytes b)
  | text {b} : HasTypeL S L .text (.text b)
  | none : HasTypeL S L .none .none
  | bool {b} : HasTypeL S L .bool (.bool b)
  | frac {n d} : IntOk n → IntOk d → HasTypeL S L .frac (.frac n d)
  | any {i} : HasTypeL S L .any (.opaque i)
  -- a class with its own codec, carried as its primitive: the primitive is a FIXED POINT of the leaf's normaliser
  -- (the leaf restores it, and writes the restored object back as the same primitive)
  | custom {n cd i} : lookup S n = some cd → (Generic cd → cd.kind = .custom ∨ cd.kind = .oset) →
      (∀ f, L n = some f → f i = .ok i) → HasTypeL S L (.cls n) (.opaque i)
  | enum {n cd vals v} : lookup S n = some cd → Generic cd → cd.kind = .enum vals → vals.contains v = true → IntOk v →
      HasTypeL S L (.cls n) (.enum v)
  | oset {t ne tagged xs} : HasTypeListL S L t xs → HasTypeL S L (.oset t ne) (.oset tagged xs)
  | list {t xs} : HasTypeListL S L t xs → HasTypeL S L (.list t) (.list xs)
  | union {pre t post v} : HasTypeL S L t v →
      -- ordered dispatch reaches `t`: every earlier alternative raises `DeserializeException` on the image of `v`
      (∀ t' ∈ pre, Ev (fun fuel => fromPrimL S L fuel t' (toPrim S v) = .deser)) →
      HasTypeL S L (.union (pre ++ t :: post)) v
  | cb {n cd mn mx b} : lookup S n = some cd → Generic cd → cd.kind = .cbytes mn mx → mn ≤ b.length → b.length ≤ mx →
      HasTypeL S L (.cls n) (.cb b)
  | obj {n cd fs} : lookup S n = some cd → Generic cd → ShapeOK cd →
      HasFieldsL S L n (wireFields cd) fs → HasTypeL S L (.cls n) (.obj n fs)
inductive HasTypeListL (S : List ClassDef) (L : LeafEnv) : Ty → List Val → Prop
  | nil {t} : HasTypeListL S L t []
  | cons {t x xs} : HasTypeL S L t x → HasTypeListL S L t xs → HasTypeListL S L t (x :: xs)
inductive HasFieldsL (S : List ClassDef) (L : LeafEnv) : String → List FieldDef → List Val → Prop
  | nil {cn} : HasFieldsL S L cn [] []
  | cons {cn f fs v vs} : f.hook = false → HasTypeL S L f.ty v → HasFieldsL S L cn fs vs → HasFieldsL S L cn (f :: fs) (v :: vs)
  -- an optional field holding `None` is not written (map classes), whatever its type hint
  | skip {cn f fs vs} : f.optional = true → HasFieldsL S L cn fs vs → HasFieldsL S L cn (f :: fs) (.none :: vs)
  -- a field restored by its `object_hook` is carried as its primitive: a fixed point of the hook's normaliser
  | hook {cn f fs i vs} : f.hook = true → (∀ h, L (hookKey cn f) = some h → h i = .ok i) → HasFieldsL S L cn fs vs →
      HasFieldsL S L cn (f :: fs) (.opaque i :: vs)
end

theorem leafVal_fixed {L : LeafEnv} {n : String} {i : Item} (h : ∀ f, L n = some f → f i = .ok i) :
    leafVal L n i = .ok (.opaque i) := by
  unfold leafVal
  cases hl : L n with
  | none => rfl
  | some f => simp only [h f hl]

end Pyc.Compose

namespace Pyc.Codec
open Pyc.Cbor Pyc.Schema

variable {S : List ClassDef}

/-- is the field skipped on the wire? (`optional` and holding `None`) -/
def skip (f : FieldDef) (v : Val) : Bool := match f.optional, v with | true, .none => true | _, _ => false

theorem mapFields_cons (f : FieldDef) (fs : List FieldDef) (v : Val) (vs : List Val) :
    mapFields S (f :: fs) (v :: vs) =
      if skip f v then mapFields S fs vs else (keyItem f.key, toPrim S v) :: mapFields S fs vs := by
  unfold skip
  split
  · next ho => rw [mapFields, if_pos rfl]; exact ho
  · next hn => rw [mapFields, if_neg Bool.false_ne_true] <;> exact hn

/-- keys occurring in an encoded map, as `Key`s (only small non-negative integer keys are recognised) -/
def wireKeyOf (i : Item) : Option Nat := match i with | .uint n => some n | _ => Option.none

theorem keyItem_ok (k : Key) (h : KeyOk k) : ∃ n, keyItem k = .uint n ∧ n < 2^64 ∧ k = .int n := by
  obtain ⟨n, rfl, hn⟩ := h
  refine ⟨n, ?_, hn, rfl⟩
  unfold keyItem ofInt
  have h0 : (0 : Int) ≤ (n : Int) := by omega
  have h1 : (n : Int).toNat < 2^64 := by omega
  have h2 : n < 18446744073709551616 := by omega
  simp [h0, h2]

theorem encode_uint_inj (a b : Nat) (ha : a < 2^64) (hb : b < 2^64) (h : encode (.uint a) = encode (.uint b)) : a = b :=
  Item.uint.inj (encode_inj (x := .uint a) (y := .uint b) ha hb h)

def keysOf (kvs : List (Item × Item)) : List Item := kvs.map (·.1)

theorem lookupItemKey_not_mem (k : Item) (kvs : List (Item × Item))
    (h : ∀ k' ∈ keysOf kvs, encode k' ≠ encode k) : lookupItemKey k kvs = Option.none := by
  induction kvs with
  | nil => simp [lookupItemKey]
  | cons p r ih =>
    obtain ⟨a, b⟩ := p
    have ha : encode a ≠ encode k := h a (by simp [keysOf])
    simp only [lookupItemKey, ha, if_false]
    exact ih (fun k' hk' => h k' (by simp only [keysOf, List.map_cons, List.mem_cons]; exact Or.inr hk'))

theorem keysOf_mapFields_sub (fs : List FieldDef) (vs : List Val) :
    ∀ k ∈ keysOf (mapFields S fs vs), ∃ f ∈ fs, k = keyItem f.key := by
  induction fs generalizing vs with
  | nil => simp [mapFields, keysOf]
  | cons f fs ih =>
    cases vs with
    | nil => simp [mapFields, keysOf]
    | cons v vs =>
      intro k hk
      rw [mapFields_cons] at hk
      split at hk
      · obtain ⟨g, hg, e⟩ := ih vs k hk
        exact ⟨g, by simp [hg], e⟩
      · simp only [keysOf, List.map_cons, List.mem_cons] at hk
        rcases hk with rfl | hk
        · exact ⟨f, by simp, rfl⟩
        · obtain ⟨g, hg, e⟩ := ih vs k hk
          exact ⟨g, by simp [hg], e⟩

theorem key_enc_ne (f g : FieldDef) (hf : KeyOk f.key) (hg : KeyOk g.key) (hne : f.key ≠ g.key) :
    encode (keyItem g.key) ≠ encode (keyItem f.key) := by
  obtain ⟨a, ea, ha, ka⟩ := keyItem_ok f.key hf
  obtain ⟨b, eb, hb, kb⟩ := keyItem_ok g.key hg
  rw [ea, eb]
  intro h
  have := encode_uint_inj b a hb ha h
  apply hne; rw [ka, kb, this]

/-- every field finds its own entry (or none when skipped) in the emitted map -/
def EntriesOK (S : List ClassDef) (kvs : List (Item × Item)) : List FieldDef → List Val → Prop
  | f :: fs, v :: vs =>
    (lookupItemKey (keyItem f.key) kvs = if skip f v then Option.none else some (toPrim S v)) ∧ EntriesOK S kvs fs vs
  | _, _ => True

theorem EntriesOK.cons {kvs : List (Item × Item)} {fs : List FieldDef} {vs : List Val} (h : EntriesOK S kvs fs vs)
    (k x : Item) (hk : ∀ f ∈ fs, encode k ≠ encode (keyItem f.key)) : EntriesOK S ((k, x) :: kvs) fs vs := by
  induction fs generalizing vs with
  | nil => trivial
  | cons f fs ih =>
    cases vs with
    | nil => trivial
    | cons v vs =>
      refine ⟨?_, ih h.2 fun g hg => hk g (List.mem_cons_of_mem _ hg)⟩
      rw [lookupItemKey, if_neg (hk f (List.mem_cons_self ..))]
      exact h.1

/-- in the map emitted for a class with distinct well-formed keys every field finds its own entry: a written field is
the first entry of what it and the later fields emit, and no later field emits its key -/
theorem entriesOK_mapFields (fs : List FieldDef) (vs : List Val) (hok : ∀ f ∈ fs, KeyOk f.key)
    (hnd : (fs.map (·.key)).Nodup) : EntriesOK S (mapFields S fs vs) fs vs := by
  induction fs generalizing vs with
  | nil => trivial
  | cons f fs ih =>
    cases vs with
    | nil => trivial
    | cons v vs =>
      rw [List.map_cons, List.nodup_cons] at hnd
      have ih' := ih vs (fun g hg => hok g (List.mem_cons_of_mem _ hg)) hnd.2
      have hne : ∀ g ∈ fs, encode (keyItem f.key) ≠ encode (keyItem g.key) := fun g hg =>
        key_enc_ne g f (hok g (List.mem_cons_of_mem _ hg)) (hok f (List.mem_cons_self ..))
          fun he => hnd.1 (he ▸ List.mem_map_of_mem hg)
      rw [mapFields_cons]
      unfold EntriesOK
      by_cases hs : skip f v = true
      · simp only [hs, if_true]
        refine ⟨lookupItemKey_not_mem _ _ fun k' hk' => ?_, ih'⟩
        obtain ⟨g, hg, rfl⟩ := keysOf_mapFields_sub fs vs k' hk'
        exact (hne g hg).symm
      · simp only [hs]
        exact ⟨if_pos rfl, ih'.cons _ _ hne⟩

/-- every key emitted for a map class is one of the class's keys (so the "unexpected key" test passes) -/
theorem mapFields_keys_known (fs : List FieldDef) (vs : List Val) :
    (mapFields S fs vs).all (fun kv => fs.any (fun f => encode (keyItem f.key) = encode kv.1)) = true := by
  rw [List.all_eq_true]
  intro kv hkv
  obtain ⟨g, hg, e⟩ := keysOf_mapFields_sub fs vs kv.1 (by simp only [keysOf, List.mem_map]; exact ⟨kv, hkv, rfl⟩)
  rw [List.any_eq_true]
  exact ⟨g, hg, by simp [e]⟩


end Pyc.Codec

namespace Pyc.Compose
open Pyc.Cbor Pyc.Schema Pyc.Codec

variable {S : List ClassDef} {L : LeafEnv}

/-! ## `fromPrimL` at a class, kind by kind -/

theorem fromPrimL_cls_leaf {n : String} {cd : ClassDef} (hl : lookup S n = some cd)
    (hc : Generic cd → cd.kind = .custom ∨ cd.kind = .oset) (fuel : Nat) (i : Item) :
    fromPrimL S L (fuel+1) (.cls n) i = leafVal L n i := by
  rw [fromPrimL_cls, hl]
  dsimp only
  cases hb : (cd.overrides.contains "from_primitive" || cd.overrides.contains "__post_init__") with
  | true => rfl
  | false => rcases hc (Bool.or_eq_false_iff.1 hb) with hk | hk <;> rw [hk] <;> rfl

theorem fromPrimL_cls_cbytes {n : String} {cd : ClassDef} {mn mx : Nat} (hl : lookup S n = some cd) (hg : Generic cd)
    (hk : cd.kind = .cbytes mn mx) (fuel : Nat) (b : Bytes) :
    fromPrimL S L (fuel+1) (.cls n) (.bytes b) = if mn ≤ b.length ∧ b.length ≤ mx then .ok (.cb b) else .crash := by
  rw [fromPrimL_cls, hl]; simp only [hg.1, hg.2, hk, Bool.or_self, Bool.false_eq_true, if_false]

theorem fromPrimL_cls_enum {n : String} {cd : ClassDef} {vals : List Int} (hl : lookup S n = some cd) (hg : Generic cd)
    (hk : cd.kind = .enum vals) (fuel : Nat) (i : Item) :
    fromPrimL S L (fuel+1) (.cls n) i =
      match itemInt? i with
      | some v => if vals.contains v then .ok (.enum v) else .crash
      | Option.none => .deser := by
  rw [fromPrimL_cls, hl]; simp only [hg.1, hg.2, hk, Bool.or_self, Bool.false_eq_true, if_false]; rfl

theorem fromPrimL_cls_array {n : String} {cd : ClassDef} (hl : lookup S n = some cd) (hg : Generic cd)
    (hk : cd.kind = .array) (fuel : Nat) (xs : List Item) :
    fromPrimL S L (fuel+1) (.cls n) (.array xs) =
      (fromArrL S L fuel n (wireFields cd) xs).andThen fun vs => .ok (.obj n vs) := by
  rw [fromPrimL_cls, hl]; simp only [hg.1, hg.2, hk, Bool.or_self, Bool.false_eq_true, if_false, listElems?]

theorem fromPrimL_cls_coded {n : String} {cd : ClassDef} {k : Nat} (hl : lookup S n = some cd) (hg : Generic cd)
    (hk : cd.kind = .coded k) (fuel : Nat) (c : Item) (xs : List Item) :
    fromPrimL S L (fuel+1) (.cls n) (.array (c :: xs)) =
      if encode c = encode (.uint k) then (fromArrL S L fuel n (wireFields cd) xs).andThen fun vs => .ok (.obj n vs)
      else .deser := by
  rw [fromPrimL_cls, hl]; simp only [hg.1, hg.2, hk, Bool.or_self, Bool.false_eq_true, if_false]

theorem fromPrimL_cls_map {n : String} {cd : ClassDef} (hl : lookup S n = some cd) (hg : Generic cd)
    (hk : cd.kind = .map) (fuel : Nat) (kvs : List (Item × Item)) :
    fromPrimL S L (fuel+1) (.cls n) (.map kvs) =
      if kvs.all (fun kv => (wireFields cd).any (fun f => encode (keyItem f.key) = encode kv.1)) then
        (fromMapL S L fuel n (wireFields cd) kvs).andThen fun vs => .ok (.obj n vs)
      else .deser := by
  rw [fromPrimL_cls, hl]; simp only [hg.1, hg.2, hk, Bool.or_self, Bool.false_eq_true, if_false]

/-! ## the composed round trip -/

theorem arrFields_nooptL (cn : String) (fs : List FieldDef) (vs : List Val) (h : ∀ f ∈ fs, f.optional = false)
    (hl : HasFieldsL S L cn fs vs) : arrFields S fs vs = toPrimList S vs := by
  induction fs generalizing vs with
  | nil => cases hl; rfl
  | cons f fs ih =>
    have hf : f.optional = false := h f (List.mem_cons_self ..)
    have ih' := fun vs => ih vs fun g hg => h g (List.mem_cons_of_mem _ hg)
    cases hl with
    | cons _ _ hr => simp only [arrFields, toPrimList, hf, ih' _ hr]
    | skip ho _ => rw [hf] at ho; cases ho
    | hook _ _ hr => simp only [arrFields, toPrimList, hf, ih' _ hr]

/-- **the composed round trip**: decoding the encoding of a value typed by `HasTypeL` — through the table-driven
code AND the leaves' own decoders — returns the value -/
theorem rt_allL {t : Ty} {v : Val} (h : HasTypeL S L t v) :
    Ev (fun fuel => fromPrimL S L fuel t (toPrim S v) = .ok v) := by
  refine HasTypeL.rec (S := S) (L := L)
    (motive_1 := fun t v _ => Ev (fun fuel => fromPrimL S L fuel t (toPrim S v) = .ok v))
    (motive_2 := fun t xs _ => Ev (fun fuel => fromPrimListL S L fuel t (toPrimList S xs) = .ok xs))
    (motive_3 := fun cn fs vs _ =>
        ((∀ f ∈ fs, f.optional = false) → Ev (fun fuel => fromArrL S L fuel cn fs (toPrimList S vs) = .ok vs)) ∧
        ((∀ f ∈ fs, f.optional = true → dfltVal f = some .none) → ∀ kvs, EntriesOK S kvs fs vs →
          Ev (fun fuel => fromMapL S L fuel cn fs kvs = .ok vs)))
    ?int ?bytes ?text ?none ?bool ?frac ?any ?custom ?enum ?oset ?list ?union ?cb ?obj ?lnil ?lcons ?fnil ?fcons ?fskip ?fhook h
  case int =>
    intro i hi
    exact Ev.pos fun n => by rw [toPrim, fromPrimL_int, itemInt_ofInt i hi]
  case bytes => intro b; exact Ev.pos fun _ => rfl
  case text => intro b; exact Ev.pos fun _ => rfl
  case none => exact Ev.pos fun _ => rfl
  case bool => intro b; exact Ev.pos fun _ => by cases b <;> rfl
  case frac =>
    intro n d hn hd
    exact Ev.pos fun m => by rw [toPrim, fromPrimL_frac, itemInt_ofInt n hn, itemInt_ofInt d hd]; rfl
  case any => intro i; exact Ev.pos fun _ => rfl
  case custom =>
    intro n cd i hl hc hfix
    exact Ev.pos fun m => by rw [toPrim, fromPrimL_cls_leaf hl hc, leafVal_fixed hfix]
  case «enum» =>
    intro n cd vals v hl hg hk hv hi
    exact Ev.pos fun m => by rw [toPrim, fromPrimL_cls_enum hl hg hk, itemInt_ofInt v hi]; simp only [hv, if_true]
  case oset =>
    intro t ne tagged xs _ ih
    cases tagged with
    | true => exact ih.succ fun n hn => by simp only [toPrim, fromPrimL_oset, listElems?, hn, if_true]; rfl
    | false => exact ih.succ fun n hn => by simp only [toPrim, fromPrimL_oset, listElems?, hn, Bool.false_eq_true, if_false]; rfl
  case list =>
    intro t xs _ ih
    exact ih.succ fun n hn => by simp only [toPrim, fromPrimL_list, listElems?, hn]; rfl
  case union =>
    intro pre t post v _ hall ih
    suffices hu : Ev (fun fuel => fromUnionL S L fuel (pre ++ t :: post) (toPrim S v) = .ok v) from
      hu.succ fun n hn => by rw [fromPrimL_union, hn]
    induction pre with
    | nil => exact ih.succ fun n hn => by rw [List.nil_append, fromUnionL_cons, hn]
    | cons a as iha =>
      exact ((hall a (List.mem_cons_self ..)).and (iha fun t'' h'' => hall t'' (List.mem_cons_of_mem _ h''))).succ
        fun n hn => by rw [List.cons_append, fromUnionL_cons, hn.1, hn.2]
  case cb =>
    intro n cd mn mx b hl hg hk h1 h2
    exact Ev.pos fun m => by rw [toPrim, fromPrimL_cls_cbytes hl hg hk, if_pos ⟨h1, h2⟩]
  case obj =>
    intro n cd fs hl hg hshape hf hboth
    unfold ShapeOK at hshape
    cases hk : cd.kind with
    | array =>
      rw [hk] at hshape
      have hfe : wireFields cd = cd.fields := wireFields_eq_of_init cd fun f hf => (hshape f hf).1
      rw [hfe] at hboth hf
      have hno : ∀ f ∈ cd.fields, f.optional = false := fun f hf => (hshape f hf).2
      exact (hboth.1 hno).succ fun m hm => by
        simp only [toPrim, hl, hk, arrFields_nooptL n cd.fields fs hno hf, fromPrimL_cls_array hl hg hk, hfe, hm]; rfl
    | map =>
      rw [hk] at hshape
      have hfe : wireFields cd = cd.fields := wireFields_eq_of_init cd fun f hf => (hshape.1 f hf).1
      rw [hfe] at hboth
      have hent := entriesOK_mapFields (S := S) cd.fields fs (fun f hf => (hshape.1 f hf).2.1) hshape.2
      exact (hboth.2 (fun f hf => (hshape.1 f hf).2.2) _ hent).succ fun m hm => by
        simp only [toPrim, hl, hk, fromPrimL_cls_map hl hg hk, hfe, mapFields_keys_known, if_true, hm]; rfl
    | coded k =>
      rw [hk] at hshape
      exact (hboth.1 hshape.2).succ fun m hm => by
        simp only [toPrim, hl, hk, arrFields_nooptL n _ fs hshape.2 hf, fromPrimL_cls_coded hl hg hk, if_true, hm]; rfl
    | _ => rw [hk] at hshape; exact hshape.elim
  case lnil => intro t; exact Ev.pos fun _ => rfl
  case lcons =>
    intro t x xs _ _ h1 h2
    exact (h1.and h2).succ fun n hn => by rw [toPrimList, fromPrimListL_cons, hn.1, hn.2]; rfl
  case fnil =>
    intro cn
    exact ⟨fun _ => Ev.pos fun _ => rfl, fun _ kvs _ => Ev.pos fun _ => rfl⟩
  case fcons =>
    intro cn f fs v vs hf0 _ _ h1 h2
    refine ⟨fun hno => (h1.and (h2.1 fun g hg => hno g (List.mem_cons_of_mem _ hg))).succ
      fun n hn => by simp only [toPrimList, fromArrL_cons, fieldL, hf0, Bool.false_eq_true, if_false, hn.1, hn.2]; rfl, ?_⟩
    intro hd kvs hent
    unfold EntriesOK at hent
    have h3 := h2.2 (fun g hg => hd g (List.mem_cons_of_mem _ hg)) kvs hent.2
    by_cases hs : skip f v = true
    · have hv : v = .none ∧ f.optional = true := by
        unfold skip at hs; split at hs <;> simp_all
      have hl : lookupItemKey (keyItem f.key) kvs = Option.none := by rw [hent.1, hs]; rfl
      exact h3.succ fun n hn => by rw [fromMapL_cons, hl, hd f (List.mem_cons_self ..) hv.2, hn, hv.1]; rfl
    · have hl : lookupItemKey (keyItem f.key) kvs = some (toPrim S v) := by rw [hent.1, if_neg hs]
      exact (h1.and h3).succ fun n hn => by
        simp only [fromMapL_cons, hl, fieldL, hf0, Bool.false_eq_true, if_false, hn.1, hn.2]; rfl
  case fskip =>
    intro cn f fs vs ho _ h2
    refine ⟨fun hno => ?_, ?_⟩
    · have := hno f (List.mem_cons_self ..); rw [ho] at this; cases this
    intro hd kvs hent
    unfold EntriesOK at hent
    have h3 := h2.2 (fun g hg => hd g (List.mem_cons_of_mem _ hg)) kvs hent.2
    have hs : skip f .none = true := by simp only [skip, ho]
    have hl : lookupItemKey (keyItem f.key) kvs = Option.none := by rw [hent.1, hs]; rfl
    exact h3.succ fun n hn => by rw [fromMapL_cons, hl, hd f (List.mem_cons_self ..) ho, hn]; rfl
  case fhook =>
    intro cn f fs i vs hh hfix _ h2
    refine ⟨fun hno => (h2.1 fun g hg => hno g (List.mem_cons_of_mem _ hg)).succ
      fun n hn => by simp only [toPrimList, toPrim, fromArrL_cons, fieldL, hh, if_true, leafVal_fixed hfix, hn]; rfl, ?_⟩
    intro hd kvs hent
    unfold EntriesOK at hent
    have h3 := h2.2 (fun g hg => hd g (List.mem_cons_of_mem _ hg)) kvs hent.2
    have hs : skip f (.opaque i) = false := by cases ho : f.optional <;> simp only [skip, ho]
    have hl : lookupItemKey (keyItem f.key) kvs = some i := by rw [hent.1, hs]; rfl
    exact h3.succ fun n hn => by simp only [fromMapL_cons, hl, fieldL, hh, if_true, leafVal_fixed hfix, hn]; rfl

/-! ## without leaves -/

theorem hasTypeL_of_hasType {t : Ty} {v : Val} (h : HasType S t v) : HasTypeL S noLeaves t v :=
  HasType.rec (S := S)
    (motive_1 := fun t v _ => HasTypeL S noLeaves t v)
    (motive_2 := fun t xs _ => HasTypeListL S noLeaves t xs)
    (motive_3 := fun fs vs _ => ∀ cn, HasFieldsL S noLeaves cn fs vs)
    (fun hi => .int hi) .bytes .text .none .bool (fun hn hd => .frac hn hd) .any
    (fun hl hc => .custom hl hc fun _ hf => nomatch hf)
    (fun hl hg hk hv hi => .enum hl hg hk hv hi)
    (fun _ ih => .oset ih) (fun _ ih => .list ih)
    (fun _ hall ih => .union ih (by rw [fromPrimL_noLeaves]; exact hall))
    (fun hl hg hk h1 h2 => .cb hl hg hk h1 h2)
    (fun hl hg hs _ ih => .obj hl hg hs (ih _))
    .nil (fun _ _ ih1 ih2 => .cons ih1 ih2)
    (fun _ => .nil) (fun hh _ _ ih1 ih2 cn => .cons hh ih1 (ih2 cn)) (fun ho _ ih cn => .skip ho (ih cn))
    (fun hh _ ih cn => .hook hh (fun _ hf => nomatch hf) (ih cn)) h

theorem hasType_of_hasTypeL {t : Ty} {v : Val} (h : HasTypeL S noLeaves t v) : HasType S t v :=
  HasTypeL.rec (S := S) (L := noLeaves)
    (motive_1 := fun t v _ => HasType S t v)
    (motive_2 := fun t xs _ => HasTypeList S t xs)
    (motive_3 := fun _ fs vs _ => HasFields S fs vs)
    (fun hi => .int hi) .bytes .text .none .bool (fun hn hd => .frac hn hd) .any
    (fun hl hc _ => .custom hl hc)
    (fun hl hg hk hv hi => .enum hl hg hk hv hi)
    (fun _ ih => .oset ih) (fun _ ih => .list ih)
    (fun _ hall ih => .union ih (by rw [← fromPrimL_noLeaves]; exact hall))
    (fun hl hg hk h1 h2 => .cb hl hg hk h1 h2)
    (fun hl hg hs _ ih => .obj hl hg hs ih)
    .nil (fun _ _ ih1 ih2 => .cons ih1 ih2)
    .nil (fun hh _ _ ih1 ih2 => .cons hh ih1 ih2) (fun ho _ ih => .skip ho ih)
    (fun hh _ _ ih => .hook hh ih) h

theorem hasTypeList_of_hasTypeListL {t : Ty} : ∀ {xs : List Val}, HasTypeListL S noLeaves t xs → HasTypeList S t xs
  | [], _ => .nil
  | _ :: _, .cons h1 h2 => .cons (hasType_of_hasTypeL h1) (hasTypeList_of_hasTypeListL h2)

end Pyc.Compose

namespace Pyc.Codec
open Pyc.Cbor Pyc.Schema

variable {S : List ClassDef}

/-- **generic round trip**: decoding the encoding of a typed value with its type returns the value -/
theorem rt_all {t : Ty} {v : Val} (h : HasType S t v) :
    Ev (fun fuel => fromPrim S fuel t (toPrim S v) = .ok v) := by
  have := Compose.rt_allL (Compose.hasTypeL_of_hasType h)
  rwa [Compose.fromPrimL_noLeaves] at this

/-! ## decidable versions of the side conditions -/

def genericB (cd : ClassDef) : Bool :=
  !cd.overrides.contains "from_primitive" && !cd.overrides.contains "__post_init__"

theorem genericB_sound (cd : ClassDef) (h : genericB cd = true) : Generic cd := by
  unfold genericB at h; unfold Generic
  simp only [Bool.and_eq_true, Bool.not_eq_true'] at h
  exact h

def keyOkB : Key → Bool
  | .int k => decide (0 ≤ k) && decide (k < 2^64)
  | _ => false

theorem keyOkB_sound (k : Key) (h : keyOkB k = true) : KeyOk k := by
  cases k with
  | int k =>
    simp only [keyOkB, Bool.and_eq_true, decide_eq_true_eq] at h
    refine ⟨k.toNat, ?_, by omega⟩
    congr 1; omega
  | pos => simp [keyOkB] at h
  | str s => simp [keyOkB] at h

def dfltNoneB (f : FieldDef) : Bool :=
  match f.dflt with
  | .noDefault => f.optional
  | .none => true
  | _ => false

theorem dfltNoneB_sound (f : FieldDef) (h : dfltNoneB f = true) : dfltVal f = some .none := by
  unfold dfltNoneB at h; unfold dfltVal
  split at h <;> simp_all

def keysNodupB : List Key → Bool
  | [] => true
  | k :: ks => !ks.contains k && keysNodupB ks

theorem keysNodupB_sound (ks : List Key) (h : keysNodupB ks = true) : ks.Nodup :=
  nodup_of_check keysNodupB (fun _ _ => rfl) ks h

def shapeOK (cd : ClassDef) : Bool :=
  match cd.kind with
  | .array => cd.fields.all (fun f => f.init && !f.optional)
  | .coded k => decide (k < 2^64) && (wireFields cd).all (fun f => !f.optional)
  | .map => cd.fields.all (fun f => f.init && keyOkB f.key && (!f.optional || dfltNoneB f)) &&
      keysNodupB (cd.fields.map (·.key))
  | _ => false

theorem shapeOK_sound (cd : ClassDef) (h : shapeOK cd = true) : ShapeOK cd := by
  unfold shapeOK at h; unfold ShapeOK
  cases hk : cd.kind with
  | array =>
    rw [hk] at h; simp only at h ⊢
    rw [List.all_eq_true] at h
    intro f hf
    have := h f hf
    simp only [Bool.and_eq_true, Bool.not_eq_true'] at this
    exact ⟨this.1, this.2⟩
  | coded k =>
    rw [hk] at h; simp only at h ⊢
    simp only [Bool.and_eq_true, decide_eq_true_eq, List.all_eq_true, Bool.not_eq_true'] at h
    exact ⟨h.1, fun f hf => h.2 f hf⟩
  | map =>
    rw [hk] at h; simp only at h ⊢
    simp only [Bool.and_eq_true, List.all_eq_true, Bool.not_eq_true', Bool.or_eq_true] at h
    refine ⟨?_, keysNodupB_sound _ h.2⟩
    intro f hf
    have := h.1 f hf
    refine ⟨this.1.1, keyOkB_sound _ this.1.2, ?_⟩
    intro ho
    rcases this.2 with h1 | h1
    · rw [ho] at h1; exact absurd h1 (by decide)
    · exact dfltNoneB_sound f h1
  | _ => rw [hk] at h; cases h

/-- the classes of a table that the generic theorem covers as objects -/
def coreClass (cd : ClassDef) : Bool := genericB cd && shapeOK cd

/-! ## discharging the union side condition for unions of coded classes -/

theorem coded_rejects (n : String) (cd : ClassDef) (k k' : Nat) (xs : List Item) (fuel : Nat)
    (hl : lookup S n = some cd) (hg : Generic cd) (hk : cd.kind = .coded k) (hk1 : k < 2^64) (hk2 : k' < 2^64)
    (hne : k' ≠ k) : fromPrim S (fuel+1) (.cls n) (.array (.uint k' :: xs)) = .deser := by
  have he : encode (.uint k') ≠ encode (.uint k) := fun h => hne (encode_uint_inj k' k hk2 hk1 h)
  rw [← Compose.fromPrimL_noLeaves, Compose.fromPrimL_cls_coded hl hg hk, if_neg he]

theorem coded_rejects_none (n : String) (cd : ClassDef) (k : Nat) (fuel : Nat)
    (hl : lookup S n = some cd) (hg : Generic cd) (hk : cd.kind = .coded k) :
    fromPrim S (fuel+1) (.cls n) (.simple 22) = .deser := by
  rw [← Compose.fromPrimL_noLeaves, Compose.fromPrimL_cls, hl]
  simp only [hg.1, hg.2, hk, Bool.or_self, Bool.false_eq_true, if_false]

theorem toPrim_coded (n : String) (cd : ClassDef) (k : Nat) (fs : List Val)
    (hl : lookup S n = some cd) (hk : cd.kind = .coded k) :
    toPrim S (.obj n fs) = .array (.uint k :: arrFields S (wireFields cd) fs) := by
  simp [toPrim, hl, hk]

/-- alternatives of a union: generic coded classes of the table, with these codes -/
def CodedAlts (S : List ClassDef) : List Ty → List Nat → Prop
  | [], [] => True
  | .cls n :: ts, k :: ks => (∃ cd, lookup S n = some cd ∧ Generic cd ∧ cd.kind = .coded k ∧ k < 2^64) ∧ CodedAlts S ts ks
  | _, _ => False

theorem CodedAlts.mem {ts : List Ty} {ks : List Nat} (h : CodedAlts S ts ks) {t : Ty} (ht : t ∈ ts) :
    ∃ n cd k, t = .cls n ∧ lookup S n = some cd ∧ Generic cd ∧ cd.kind = .coded k ∧ k < 2^64 ∧ k ∈ ks := by
  induction ts generalizing ks with
  | nil => cases ht
  | cons a as ih =>
    cases a with
    | cls n =>
      cases ks with
      | nil => exact h.elim
      | cons k ks =>
        rcases List.mem_cons.1 ht with rfl | ht
        · obtain ⟨cd, h1, h2, h3, h4⟩ := h.1
          exact ⟨n, cd, k, rfl, h1, h2, h3, h4, List.mem_cons_self ..⟩
        · obtain ⟨n', cd, k', e1, e2, e3, e4, e5, e6⟩ := ih h.2 ht
          exact ⟨n', cd, k', e1, e2, e3, e4, e5, List.mem_cons_of_mem _ e6⟩
    | _ => cases ks <;> exact h.elim

/-- **unions of coded classes with pairwise distinct codes satisfy the union side condition**: whichever
alternative produced the value, every earlier alternative rejects its image with `DeserializeException` -/
theorem unionOK_coded (ts : List Ty) (ks : List Nat) (hc : CodedAlts S ts ks) (hd : ks.Nodup)
    (pre : List Ty) (t : Ty) (post : List Ty) (he : ts = pre ++ t :: post) (v : Val) (hv : HasType S t v) :
    ∀ t' ∈ pre, Ev (fun fuel => fromPrim S fuel t' (toPrim S v) = .deser) := by
  subst he
  induction pre generalizing ks with
  | nil => intro t' h; cases h
  | cons a as ih =>
    intro t' ht'
    cases ks with
    | nil => cases a <;> exact hc.elim
    | cons k ks' =>
      cases a with
      | cls n =>
        obtain ⟨⟨cd, hl, hg, hk, hk1⟩, hrest⟩ := hc
        rw [List.nodup_cons] at hd
        rcases List.mem_cons.1 ht' with rfl | ht'
        · -- the head alternative (code `k`) on the image of `v`, which is an object of a later alternative (code `k' ≠ k`)
          obtain ⟨n', cd', k', rfl, hl', hgt, hk', hk1', hmem⟩ := hrest.mem (List.mem_append_right _ (List.mem_cons_self ..))
          have hne : k' ≠ k := fun h => hd.1 (h ▸ hmem)
          cases hv with
          | obj hl2 hg2 hs2 hf2 =>
            cases hl'.symm.trans hl2
            refine Ev.pos fun fuel => ?_
            rw [toPrim_coded n' cd' k' _ hl' hk']
            exact coded_rejects n cd k k' _ fuel hl hg hk hk1 hk1' hne
          | cb hl2 _ hk2 _ _ => cases hl'.symm.trans hl2; cases hk'.symm.trans hk2
          | «enum» hl2 _ hk2 _ _ => cases hl'.symm.trans hl2; cases hk'.symm.trans hk2
          | custom hl2 hc2 =>
            cases hl'.symm.trans hl2
            rcases hc2 hgt with h | h <;> cases hk'.symm.trans h
        · exact ih ks' hd.2 hrest t' ht'
      | _ => exact hc.elim

end Pyc.Codec
