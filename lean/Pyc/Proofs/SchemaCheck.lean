import Pyc.Model.SchemaCheck

/-! Facts about the Boolean table checks of `Model/SchemaCheck.lean`, for every pair of tables. -/

namespace Pyc.Schema

theorem refineFailures_eq_nil {R S : List ClassDef} (h : refines R S = true) : refineFailures R S = [] := by
  unfold refines at h
  unfold refineFailures
  rw [List.map_eq_nil_iff, List.filter_eq_nil_iff]
  intro s hs
  have := List.all_eq_true.mp h s hs
  split at this <;> simp_all

/-- soundness of the Boolean duplicate checks (`keysNodupB`, `nodupB` …), all of which are written
`f (k :: ks) = !ks.contains k && f ks` -/
theorem nodup_of_check {α : Type} [BEq α] [LawfulBEq α] (f : List α → Bool)
    (hf : ∀ k ks, f (k :: ks) = (!ks.contains k && f ks)) : ∀ ks, f ks = true → ks.Nodup
  | [], _ => List.nodup_nil
  | k :: ks, h => by
    rw [hf, Bool.and_eq_true, Bool.not_eq_true'] at h
    refine List.nodup_cons.2 ⟨fun hm => ?_, nodup_of_check f hf ks h.2⟩
    rw [List.contains_iff_mem.2 hm] at h
    exact nomatch h.1

end Pyc.Schema
