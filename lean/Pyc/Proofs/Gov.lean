import Pyc.Model.Gov
import Pyc.Spec.Gov
import Pyc.Proofs.CustomCodec
import Pyc.Proofs.Bech32Str

/-! Lemmas behind `Props/C01_Gov.lean` and `Props/C02_Gov.lean` (models: `Model/Gov.lean`, `Spec/Gov.lean`).

Per class `X` with constructor-checked payloads (`Cred`, `DRep`, `Voter`, `GovActionId`, `HardFork`): `X.fromItem_toItem` is the round trip for every object whose payloads the constructors accept unchanged;
`X.wf_iff` (`DRep.typed_iff`) is the normal form of a well-formed object, which is such an object (`X_rt`); `X.fromItem_ok` says that every
decoded object is one too (`C01.Gov.X_reencode`); `Anchor` and `VotingProcedure` carry plain payloads (`anchor_decoded_wf`, `vp_decoded_wf`).  The two dict classes are instances of one loop theorem (`decDict_encDict`). -/

namespace Pyc.Gov
open Pyc.Cbor Pyc.Codec
open Pyc.Custom (Res.bind hexOfText)

@[simp] theorem bind_ok {α β : Type} (a : α) (f : α → Res β) : Res.bind (.ok a) f = f a := rfl

/-! ## the entries of a map -/

theorem wfPairs_iff (l : List (Item × Item)) : Cbor.WFPairs l ↔ ∀ p ∈ l, Cbor.WF p.1 ∧ Cbor.WF p.2 := by
  induction l with
  | nil => simp [Cbor.WFPairs]
  | cons q r ih =>
    obtain ⟨k, v⟩ := q
    simp only [Cbor.WFPairs, ih, List.mem_cons, forall_eq_or_imp]
    constructor
    · rintro ⟨a, b, c⟩; exact ⟨⟨a, b⟩, c⟩
    · rintro ⟨⟨a, b⟩, c⟩; exact ⟨a, b, c⟩

theorem keysHashablePairs_iff (l : List (Item × Item)) :
    keysHashablePairs l = true ↔ ∀ p ∈ l, hasIndef p.1 = false ∧ keysHashable p.1 = true ∧ keysHashable p.2 = true := by
  induction l with
  | nil => simp [keysHashablePairs]
  | cons q r ih =>
    obtain ⟨k, v⟩ := q
    simp only [keysHashablePairs, Bool.and_eq_true, ih, List.mem_cons, forall_eq_or_imp, Bool.not_eq_true']
    constructor
    · rintro ⟨⟨⟨a, b⟩, c⟩, d⟩; exact ⟨⟨a, b, c⟩, d⟩
    · rintro ⟨⟨a, b, c⟩, d⟩; exact ⟨⟨⟨a, b⟩, c⟩, d⟩

/-! ## primitives -/

theorem isHashB_iff (n : Nat) (i : Item) : isHashB n i = true ↔ ∃ b, i = .bytes b ∧ b.length = n := by
  unfold isHashB
  split
  · simp only [beq_iff_eq, Item.bytes.injEq, exists_eq_left']
  · rename_i h
    simp only [Bool.false_eq_true, false_iff, not_exists, not_and]
    exact fun b e => absurd e (h b)

theorem isIdxB_iff (i : Item) : isIdxB i = true ↔ ∃ n, i = .uint n ∧ n ≤ 65535 := by
  unfold isIdxB
  split
  · simp only [decide_eq_true_eq, Item.uint.injEq, exists_eq_left']
  · rename_i h
    simp only [Bool.false_eq_true, false_iff, not_exists, not_and]
    exact fun n e => absurd e (h n)

theorem isUIntB_iff (i : Item) : isUIntB i = true ↔ ∃ n, i = .uint n ∧ n < 2 ^ 64 := by
  unfold isUIntB
  split
  · simp only [decide_eq_true_eq, Item.uint.injEq, exists_eq_left']
  · rename_i h
    simp only [Bool.false_eq_true, false_iff, not_exists, not_and]
    exact fun n e => absurd e (h n)

@[simp] theorem pyNum_uint (n : Nat) : pyNum? (.uint n) = some (n : Int) := rfl

/-- a primitive that is an integer for `itemInt?` is the same integer under Python's `==` -/
theorem pyNum_of_itemInt {i : Item} {v : Int} (h : itemInt? i = some v) : pyNum? i = some v := by
  unfold pyNum?
  split
  · cases h
  · exact h

theorem ofInt_nat (n : Nat) (h : n < 2 ^ 64) : ofInt (n : Int) = .uint n := by
  simp only [ofInt, Int.natCast_nonneg, Int.toNat_natCast, h, if_true]

theorem pyObj_ofInt (v : Int) : pyObj (ofInt v) = ofInt v := by
  have h := Custom.itemInt_ofInt_all v
  generalize hi : ofInt v = i at h ⊢
  unfold pyObj
  split
  · cases h
  · simp only [h, hi]
  · rfl

theorem pyObj_pyObj (i : Item) : pyObj (pyObj i) = pyObj i := by
  generalize h : pyObj i = j
  unfold pyObj at h
  split at h
  · subst h; rfl
  · split at h
    · subst h; exact pyObj_ofInt _
    · rename_i hn; subst h; simp only [pyObj, hn]
  · rename_i h1 h2
    subst h
    unfold pyObj
    split
    · exact absurd rfl (h1 _)
    · exact absurd rfl (h2 _ _)
    · rfl

theorem pyNum_pyObj (i : Item) : pyNum? (pyObj i) = pyNum? i := by
  unfold pyObj
  split
  · rfl
  · split
    · rename_i h; exact (pyNum_of_itemInt (Custom.itemInt_ofInt_all _)).trans (pyNum_of_itemInt h).symm
    · rfl
  · rfl

theorem pyLen_pyObj {i : Item} {l : Nat} (h : pyLen? i = some l) : pyLen? (pyObj i) = some l := by
  unfold pyObj
  split
  · exact h
  · cases h
  · exact h

theorem hashCtor_eq_ok_iff {n : Nat} {i p : Item} : hashCtor n i = .ok p ↔ pyLen? i = some n ∧ pyObj i = p := by
  unfold hashCtor
  split
  · split
    · rename_i l hl e; simp only [Res.ok.injEq, hl, e, true_and]
    · rename_i l hl e
      simp only [reduceCtorEq, hl, Option.some.injEq, e, false_and]
  · rename_i hl; simp only [reduceCtorEq, hl, false_and]

/-- a stored hash payload is accepted again, unchanged (for EVERY accepted primitive, ill-typed payloads included) -/
theorem hashCtor_stable {n : Nat} {i p : Item} (h : hashCtor n i = .ok p) : hashCtor n p = .ok p := by
  obtain ⟨hl, rfl⟩ := hashCtor_eq_ok_iff.1 h
  exact hashCtor_eq_ok_iff.2 ⟨pyLen_pyObj hl, pyObj_pyObj i⟩

@[simp] theorem hashCtor_bytes (n : Nat) (b : Bytes) (h : b.length = n) : hashCtor n (.bytes b) = .ok (.bytes b) :=
  hashCtor_eq_ok_iff.2 ⟨congrArg some h, rfl⟩

theorem idxCtor_eq_ok_iff {i k : Item} :
    idxCtor i = .ok k ↔ ∃ v, pyNum? i = some v ∧ (0 ≤ v ∧ v ≤ 65535) ∧ pyObj i = k := by
  unfold idxCtor
  split
  · rename_i v hv
    split
    · rename_i hr; simp only [Res.ok.injEq, hv, Option.some.injEq, exists_eq_left', hr, true_and]
    · rename_i hr; simp only [reduceCtorEq, hv, Option.some.injEq, exists_eq_left', hr, false_and]
  · rename_i hv; simp only [reduceCtorEq, hv, false_and, exists_false]

theorem idxCtor_stable {i k : Item} (h : idxCtor i = .ok k) : idxCtor k = .ok k := by
  obtain ⟨v, hv, hr, rfl⟩ := idxCtor_eq_ok_iff.1 h
  exact idxCtor_eq_ok_iff.2 ⟨v, (pyNum_pyObj i).trans hv, hr, pyObj_pyObj i⟩

theorem idxCtor_uint (n : Nat) (h : n ≤ 65535) : idxCtor (.uint n) = .ok (.uint n) :=
  idxCtor_eq_ok_iff.2 ⟨n, rfl, ⟨Int.natCast_nonneg n, Int.ofNat_le.2 h⟩, rfl⟩

theorem cbytesFromPrim_len (n : Nat) (i : Item) (b : Bytes) (h : cbytesFromPrim n i = .ok b) : b.length = n := by
  unfold cbytesFromPrim at h
  split at h
  · split at h
    · rename_i hl; cases h; exact hl
    · cases h
  · split at h
    · rename_i hl; cases h; exact hl
    · cases h
  · split at h
    · split at h
      · rename_i hl; cases h; exact hl
      · cases h
    · cases h
  · cases h

@[simp] theorem cbytesFromPrim_bytes (n : Nat) (b : Bytes) (h : b.length = n) : cbytesFromPrim n (.bytes b) = .ok b :=
  if_pos h

/-- the `@limit_primitive_type(list, tuple)` wrapper: an accepted primitive is a sequence whose body accepts it -/
theorem seq_ok {α : Type} {f : List Item → Res α} {i : Item} {a : α}
    (h : (match seqElems? i with | some xs => f xs | Option.none => Res.deser) = .ok a) : ∃ xs, f xs = .ok a := by
  split at h
  · exact ⟨_, h⟩
  · cases h

/-- `loads` reads the encoding of the item back as the item itself: sizes that fit CBOR heads, no indefinite-length
array inside a map key -/
def Loadable (i : Item) : Prop := Cbor.WF i ∧ keysHashable i = true

/-- `from_cbor` of the bytes `to_cbor` writes is `from_primitive` of the primitive -/
theorem fromBytes_encode {α : Type} (dec : Item → Res α) {i : Item} (h : Loadable i) :
    fromBytes dec (encode i) = dec i := by
  simp only [fromBytes, loads, decodeAll_encode i h.1, h.2, if_true]

/-! ## `StakeCredential` -/

theorem Cred.wf_iff {c : Cred} : c.wf = true ↔ ∃ k b, c = ⟨k, .bytes b⟩ ∧ b.length = 28 := by
  obtain ⟨k, p⟩ := c
  refine (isHashB_iff 28 p).trans ⟨fun ⟨b, e, h⟩ => ⟨k, b, e ▸ rfl, h⟩, fun ⟨_, b, e, h⟩ => ?_⟩
  cases e
  exact ⟨b, rfl, h⟩

theorem Cred.fromItem_toItem (c : Cred) (h : hashCtor 28 c.hash = .ok c.hash) : Cred.fromItem c.toItem = .ok c := by
  obtain ⟨k, p⟩ := c
  have e : Cred.fromItem (Cred.toItem ⟨k, p⟩) = Res.bind (hashCtor 28 p) fun q => .ok ⟨k, q⟩ := by cases k <;> rfl
  rw [e, h]
  rfl

theorem Cred.fromItem_ok {i : Item} {c : Cred} (h : Cred.fromItem i = .ok c) : ∃ p, hashCtor 28 p = .ok c.hash := by
  obtain ⟨xs, h⟩ := seq_ok h
  unfold Cred.fromList at h
  split at h
  · cases h
  · split at h
    · split at h
      · cases h
      · obtain ⟨p, hp, he⟩ := Custom.bind_eq_ok.1 h
        cases he
        exact ⟨_, hp⟩
    · split at h
      · split at h
        · cases h
        · obtain ⟨p, hp, he⟩ := Custom.bind_eq_ok.1 h
          cases he
          exact ⟨_, hp⟩
      · cases h

theorem cred_rt (c : Cred) (h : c.wf = true) : Cred.fromItem c.toItem = .ok c := by
  obtain ⟨k, b, rfl, hb⟩ := Cred.wf_iff.1 h
  exact Cred.fromItem_toItem _ (hashCtor_bytes 28 b hb)

theorem cred_inj (a b : Cred) (h : a.toItem = b.toItem) : a = b := by
  obtain ⟨ka, pa⟩ := a
  obtain ⟨kb, pb⟩ := b
  simp only [Cred.toItem, Item.array.injEq, List.cons.injEq, Item.uint.injEq, and_true] at h
  obtain ⟨hc, rfl⟩ := h
  cases ka <;> cases kb <;> first | rfl | cases hc

theorem cred_item_loadable (c : Cred) (h : c.wf = true) : Loadable c.toItem := by
  obtain ⟨k, b, rfl, hb⟩ := Cred.wf_iff.1 h
  have hc : Cred.code ⟨k, .bytes b⟩ < 2 ^ 64 := by unfold Cred.code; split <;> decide
  have hb' : b.length < 2 ^ 64 := by omega
  exact ⟨wf_array2 hc hb', rfl⟩

/-! ## `DRep` -/

theorem drepKind_code_inj (a b : DRepKind) (h : a.code = b.code) : a = b := by
  cases a <;> cases b <;> first | rfl | cases h

theorem drepKind_ofNum_code (k : DRepKind) : DRepKind.ofNum? (k.code : Int) = some k := by
  cases k <;> rfl

theorem DRep.typed_iff {d : DRep} :
    d.typed = true ↔ d.cred = Option.none ∨ ∃ k b, d.cred = some (k, .bytes b) ∧ b.length = 28 := by
  obtain ⟨kd, c⟩ := d
  cases c with
  | none => exact ⟨fun _ => .inl rfl, fun _ => rfl⟩
  | some q =>
    obtain ⟨k, p⟩ := q
    refine (isHashB_iff 28 p).trans ⟨fun ⟨b, e, h⟩ => .inr ⟨k, b, e ▸ rfl, h⟩, ?_⟩
    rintro (e | ⟨_, b, e, h⟩)
    · cases e
    · cases e
      exact ⟨b, rfl, h⟩

theorem DRep.coherent_cred {d : DRep} (h : d.coherent = true) :
    d.cred = (d.cred.map Prod.snd).map fun p => (d.kind == .keyHash, p) := by
  obtain ⟨kd, c⟩ := d
  rcases c with _ | ⟨k, p⟩
  · rfl
  · cases kd <;> cases k <;> first | exact Bool.noConfusion h | rfl

theorem DRep.fromItem_toItem (d : DRep) (hc : d.coherent = true)
    (hh : ∀ k h, d.cred = some (k, h) → hashCtor 28 h = .ok h) : DRep.fromItem d.toItem = .ok d := by
  obtain ⟨kd, c⟩ := d
  cases c with
  | none => cases kd <;> first | rfl | cases hc
  | some q =>
    obtain ⟨k, p⟩ := q
    have e : DRep.fromItem (DRep.toItem ⟨kd, some (k, p)⟩) = Res.bind (hashCtor 28 p) fun q => .ok ⟨kd, some (k, q)⟩ := by
      cases kd <;> cases k <;> first | exact Bool.noConfusion hc | rfl
    rw [e, hh k p rfl]
    rfl

theorem DRep.fromItem_ok {i : Item} {d : DRep} (h : DRep.fromItem i = .ok d) :
    d.coherent = true ∧ ∀ k h, d.cred = some (k, h) → ∃ p, hashCtor 28 p = .ok h := by
  unfold DRep.fromItem at h
  split at h
  · split at h
    · cases h
    · split at h
      · cases h
      · split at h
        · cases h
        · obtain ⟨p, hp, he⟩ := Custom.bind_eq_ok.1 h
          cases he
          exact ⟨rfl, fun _ _ e => by cases e; exact ⟨_, hp⟩⟩
      · split at h
        · cases h
        · obtain ⟨p, hp, he⟩ := Custom.bind_eq_ok.1 h
          cases he
          exact ⟨rfl, fun _ _ e => by cases e; exact ⟨_, hp⟩⟩
      · rename_i k hk1 hk2 _
        cases h
        refine ⟨?_, fun _ _ e => by cases e⟩
        cases k with
        | keyHash => exact absurd rfl (hk1 ·)
        | scriptHash => exact absurd rfl (hk2 ·)
        | alwaysAbstain => rfl
        | alwaysNoConfidence => rfl
  · cases h

theorem drep_rt (d : DRep) (ht : d.typed = true) (hc : d.coherent = true) : DRep.fromItem d.toItem = .ok d := by
  refine DRep.fromItem_toItem d hc fun k h e => ?_
  rcases DRep.typed_iff.1 ht with hn | ⟨k', b, hs, hb⟩
  · cases hn.symm.trans e
  · cases hs.symm.trans e
    exact hashCtor_bytes 28 b hb

/-- kind and arity right, the class of the hash object free: the decoded object is the one with the class the kind
prescribes -/
theorem drep_rt_arity (d : DRep) (ht : d.typed = true) (ha : d.arityOk = true) :
    ∃ d', DRep.fromItem d.toItem = .ok d' ∧ DRep.PyEq d' d ∧ d'.coherent = true := by
  obtain ⟨kd, c⟩ := d
  rcases DRep.typed_iff.1 ht with hn | ⟨k, b, hs, hb⟩
  · cases hn
    exact ⟨_, drep_rt _ ht (by cases kd <;> first | rfl | cases ha), ⟨rfl, rfl⟩, by cases kd <;> first | rfl | cases ha⟩
  · cases hs
    have hk : (⟨kd, some (kd == .keyHash, .bytes b)⟩ : DRep).coherent = true := by cases kd <;> first | rfl | cases ha
    exact ⟨_, drep_rt ⟨kd, some (kd == .keyHash, .bytes b)⟩ ht hk, ⟨rfl, rfl⟩, hk⟩

theorem drep_item_eq_iff (a b : DRep) : a.toItem = b.toItem ↔ DRep.PyEq a b := by
  obtain ⟨ka, ca⟩ := a
  obtain ⟨kb, cb⟩ := b
  have hk : ka.code = kb.code ↔ ka = kb := ⟨drepKind_code_inj _ _, congrArg _⟩
  rcases ca with _ | ⟨_, pa⟩ <;> rcases cb with _ | ⟨_, pb⟩ <;>
    simp only [DRep.toItem, DRep.PyEq, Item.array.injEq, List.cons.injEq, Item.uint.injEq, hk, and_true, Option.map_none,
      Option.map_some, Option.some.injEq, reduceCtorEq, and_false, List.nil_eq, List.cons_ne_self]

theorem drep_item_loadable (d : DRep) (ht : d.typed = true) : Loadable d.toItem := by
  obtain ⟨kd, c⟩ := d
  have hc : kd.code < 2 ^ 64 := by cases kd <;> decide
  rcases DRep.typed_iff.1 ht with hn | ⟨k, b, hs, hb⟩
  · cases hn
    exact ⟨⟨(by decide : 1 < 2 ^ 64), hc, trivial⟩, rfl⟩
  · cases hs
    have hb' : b.length < 2 ^ 64 := by omega
    exact ⟨wf_array2 hc hb', rfl⟩

/-! ## `Voter` -/

theorem Voter.wf_iff {v : Voter} :
    v.wf = true ↔ ∃ t k b, v = ⟨t, k, .bytes b⟩ ∧ b.length = 28 ∧ (t != .stakingPool || k) = true := by
  obtain ⟨t, k, p⟩ := v
  refine Bool.and_eq_true_iff.trans ⟨fun ⟨h1, h2⟩ => ?_, fun ⟨_, _, b, e, h1, h2⟩ => ?_⟩
  · obtain ⟨b, rfl, hb⟩ := (isHashB_iff 28 p).1 h1
    exact ⟨t, k, b, rfl, hb, h2⟩
  · cases e
    exact ⟨(isHashB_iff 28 _).2 ⟨b, rfl, h1⟩, h2⟩

/-- the decoder's table inverts `Voter.code` on the constructible combinations -/
theorem Voter.table_code (t : VoterType) (k : Bool) (p : Item) (h : (t != .stakingPool || k) = true) :
    ∀ c : Int, c = (Voter.code ⟨t, k, p⟩ : Nat) →
      (c = 0 ∨ c = 1 ∨ c = 2 ∨ c = 3 ∨ c = 4) ∧
      (if c = 0 ∨ c = 1 then VoterType.committeeHot else if c = 2 ∨ c = 3 then .drep else .stakingPool) = t ∧
      decide (c = 0 ∨ c = 2 ∨ c = 4) = k := by
  rintro c rfl
  cases t with
  | committeeHot =>
    cases k with
    | true => exact ⟨.inl rfl, rfl, rfl⟩
    | false => exact ⟨.inr (.inl rfl), rfl, rfl⟩
  | drep =>
    cases k with
    | true => exact ⟨.inr (.inr (.inl rfl)), rfl, rfl⟩
    | false => exact ⟨.inr (.inr (.inr (.inl rfl))), rfl, rfl⟩
  | stakingPool =>
    cases k with
    | true => exact ⟨.inr (.inr (.inr (.inr rfl))), rfl, rfl⟩
    | false => cases h

theorem Voter.fromItem_toItem (v : Voter) (hh : hashCtor 28 v.hash = .ok v.hash)
    (hc : (v.vtype != .stakingPool || v.isKey) = true) : Voter.fromItem v.toItem = .ok v := by
  obtain ⟨t, k, p⟩ := v
  obtain ⟨h1, h2, h3⟩ := Voter.table_code t k p hc _ rfl
  simp only [Voter.fromItem, Voter.toItem, seqElems?, Voter.fromList, pyNum_uint, h1, if_true, hh, bind_ok, h2, h3]

theorem Voter.fromItem_ok {i : Item} {v : Voter} (h : Voter.fromItem i = .ok v) :
    (∃ p, hashCtor 28 p = .ok v.hash) ∧ (v.vtype != .stakingPool || v.isKey) = true := by
  obtain ⟨xs, h⟩ := seq_ok h
  unfold Voter.fromList at h
  split at h
  · cases h
  · split at h
    · cases h
    · split at h
      · rename_i hr
        split at h
        · cases h
        · obtain ⟨p, hp, he⟩ := Custom.bind_eq_ok.1 h
          cases he
          refine ⟨⟨_, hp⟩, ?_⟩
          rcases hr with rfl | rfl | rfl | rfl | rfl <;> rfl
      · cases h

theorem voter_rt (v : Voter) (h : v.wf = true) : Voter.fromItem v.toItem = .ok v := by
  obtain ⟨t, k, b, rfl, hb, hc⟩ := Voter.wf_iff.1 h
  exact Voter.fromItem_toItem _ (hashCtor_bytes 28 b hb) hc

/-- the second part is what a dict key needs (`encDict_loadable`) -/
theorem voter_item_loadable (v : Voter) (h : v.wf = true) : Loadable v.toItem ∧ hasIndef v.toItem = false := by
  obtain ⟨t, k, b, rfl, hb, hc⟩ := Voter.wf_iff.1 h
  have hc : Voter.code ⟨t, k, .bytes b⟩ < 2 ^ 64 := by unfold Voter.code; split <;> first | decide | (split <;> decide)
  have hb' : b.length < 2 ^ 64 := by omega
  exact ⟨⟨wf_array2 hc hb', rfl⟩, rfl⟩

/-! ## `Anchor`, `VotingProcedure` -/

theorem anchor_rt (a : Anchor) (h : a.wf = true) : Anchor.fromItem a.toItem = .ok a :=
  show Res.bind (cbytesFromPrim 32 (.bytes a.hash)) (fun b => .ok ⟨a.url, b⟩) = .ok a from
    cbytesFromPrim_bytes 32 a.hash (of_decide_eq_true h) ▸ rfl

theorem anchor_inj (a b : Anchor) (h : a.toItem = b.toItem) : a = b := by
  obtain ⟨ua, ha⟩ := a
  obtain ⟨ub, hb⟩ := b
  simpa only [Anchor.toItem, Item.array.injEq, List.cons.injEq, Item.text.injEq, Item.bytes.injEq, and_true,
    Anchor.mk.injEq] using h

theorem anchor_item_loadable (a : Anchor) (h : a.wf = true) (hu : a.url.length < 2 ^ 64) : Loadable a.toItem := by
  have hb : a.hash.length = 32 := of_decide_eq_true h
  have hb' : a.hash.length < 2 ^ 64 := by omega
  exact ⟨wf_array2 hu hb', rfl⟩

theorem anchor_decoded_wf (i : Item) (a : Anchor) (h : Anchor.fromItem i = .ok a) : a.wf = true := by
  unfold Anchor.fromItem at h
  split at h
  · unfold Anchor.fromList at h
    split at h
    · cases h
    · split at h
      · split at h
        · cases h
        · obtain ⟨b, hb, he⟩ := Custom.bind_eq_ok.1 h
          cases he
          exact decide_eq_true (cbytesFromPrim_len _ _ _ hb)
      · cases h
  · cases h

theorem vote_ofNum_code (v : Vote) : Vote.ofNum? (v.code : Int) = some v := by
  cases v <;> rfl

theorem vote_code_inj (a b : Vote) (h : a.code = b.code) : a = b := by
  cases a <;> cases b <;> first | rfl | cases h

theorem vp_rt (p : VotingProcedure) (h : p.wf = true) : VotingProcedure.fromItem p.toItem = .ok p := by
  obtain ⟨v, a⟩ := p
  cases a with
  | none => simp only [VotingProcedure.toItem, VotingProcedure.fromItem, pyNum_uint, Option.bind_some, vote_ofNum_code,
      isNull, beq_self_eq_true, if_true]
  | some a =>
    have hn : isNull a.toItem = false := rfl
    simp only [VotingProcedure.toItem, VotingProcedure.fromItem, pyNum_uint, Option.bind_some, vote_ofNum_code, hn,
      anchor_rt a h, bind_ok, Bool.false_eq_true, if_false]

theorem vp_item_loadable (p : VotingProcedure) (h : p.wf = true)
    (hu : ∀ a, p.anchor = some a → a.url.length < 2 ^ 64) : Loadable p.toItem := by
  obtain ⟨v, a⟩ := p
  have hv : v.code < 2 ^ 64 := by cases v <;> decide
  cases a with
  | none => exact ⟨wf_array2 hv (by decide : 22 < 24), rfl⟩
  | some a => exact ⟨wf_array2 hv (anchor_item_loadable a h (hu a rfl)).1, rfl⟩

theorem vp_decoded_wf (i : Item) (p : VotingProcedure) (h : VotingProcedure.fromItem i = .ok p) : p.wf = true := by
  unfold VotingProcedure.fromItem at h
  split at h
  · split at h
    · cases h
    · split at h
      · cases h
      · split at h
        · cases h
        · split at h
          · cases h; rfl
          · obtain ⟨an, han, he⟩ := Custom.bind_eq_ok.1 h
            cases he
            exact anchor_decoded_wf _ _ han
  · cases h

/-! ## `GovActionId` -/

theorem GovActionId.wf_iff {g : GovActionId} :
    g.wf = true ↔ ∃ b n, g = ⟨.bytes b, .uint n⟩ ∧ b.length = 32 ∧ n ≤ 65535 := by
  obtain ⟨t, i⟩ := g
  refine Bool.and_eq_true_iff.trans ⟨fun ⟨h1, h2⟩ => ?_, fun ⟨b, n, e, h1, h2⟩ => ?_⟩
  · obtain ⟨b, rfl, hb⟩ := (isHashB_iff 32 t).1 h1
    obtain ⟨n, rfl, hn⟩ := (isIdxB_iff i).1 h2
    exact ⟨b, n, rfl, hb, hn⟩
  · cases e
    exact ⟨(isHashB_iff 32 _).2 ⟨b, rfl, h1⟩, (isIdxB_iff _).2 ⟨n, rfl, h2⟩⟩

theorem GovActionId.fromItem_toItem (g : GovActionId) (ht : hashCtor 32 g.txid = .ok g.txid)
    (hi : idxCtor g.idx = .ok g.idx) : GovActionId.fromItem g.toItem = .ok g :=
  show Res.bind (hashCtor 32 g.txid) (fun h => Res.bind (idxCtor g.idx) fun k => .ok ⟨h, k⟩) = .ok g from
    ht ▸ hi ▸ rfl

theorem GovActionId.fromItem_ok {i : Item} {g : GovActionId} (h : GovActionId.fromItem i = .ok g) :
    (∃ t, hashCtor 32 t = .ok g.txid) ∧ ∃ k, idxCtor k = .ok g.idx := by
  obtain ⟨xs, h⟩ := seq_ok h
  unfold GovActionId.fromList at h
  split at h
  · obtain ⟨t, ht, h2⟩ := Custom.bind_eq_ok.1 h
    obtain ⟨k, hk, he⟩ := Custom.bind_eq_ok.1 h2
    cases he
    exact ⟨⟨_, ht⟩, _, hk⟩
  · cases h

theorem gaid_rt (g : GovActionId) (h : g.wf = true) : GovActionId.fromItem g.toItem = .ok g := by
  obtain ⟨b, n, rfl, hb, hn⟩ := GovActionId.wf_iff.1 h
  exact GovActionId.fromItem_toItem _ (hashCtor_bytes 32 b hb) (idxCtor_uint n hn)

theorem gaid_stable (i : Item) (g : GovActionId) (h : GovActionId.fromItem i = .ok g) :
    GovActionId.fromItem g.toItem = .ok g :=
  let ⟨⟨_, ht⟩, _, hk⟩ := GovActionId.fromItem_ok h
  GovActionId.fromItem_toItem g (hashCtor_stable ht) (idxCtor_stable hk)

theorem gaid_inj (a b : GovActionId) (h : a.toItem = b.toItem) : a = b := by
  obtain ⟨ta, ia⟩ := a
  obtain ⟨tb, ib⟩ := b
  simpa only [GovActionId.toItem, Item.array.injEq, List.cons.injEq, and_true, GovActionId.mk.injEq] using h

theorem gaid_item_loadable (g : GovActionId) (h : g.wf = true) : Loadable g.toItem ∧ hasIndef g.toItem = false := by
  obtain ⟨b, n, rfl, hb, hn⟩ := GovActionId.wf_iff.1 h
  have hb' : b.length < 2 ^ 64 := by omega
  have hn' : n < 2 ^ 64 := by omega
  exact ⟨⟨wf_array2 hb' hn', rfl⟩, rfl⟩

theorem gaid_item_not_null (g : GovActionId) : isNull g.toItem = false := rfl

/-! ## `HardForkInitiationAction` -/

theorem HardFork.wf_iff {x : HardFork} :
    x.wf = true ↔ ∃ p n m, x = ⟨p, .uint n, .uint m⟩ ∧ (∀ g, p = some g → g.wf = true) ∧ (1 ≤ n ∧ n ≤ 10) ∧ m < 2 ^ 64 := by
  obtain ⟨p, ma, mi⟩ := x
  constructor
  · intro h
    simp only [HardFork.wf, Bool.and_eq_true] at h
    obtain ⟨⟨hp, hma⟩, hmi⟩ := h
    obtain ⟨m, rfl, hm⟩ := (isUIntB_iff mi).1 hmi
    split at hma
    · refine ⟨p, _, m, rfl, fun g e => ?_, of_decide_eq_true hma, hm⟩
      subst e
      exact hp
    · cases hma
  · rintro ⟨p, n, m, e, hp, hn, hm⟩
    cases e
    simp only [HardFork.wf, Bool.and_eq_true, decide_eq_true_eq]
    refine ⟨⟨?_, hn⟩, (isUIntB_iff _).2 ⟨m, rfl, hm⟩⟩
    cases p with
    | none => rfl
    | some g => exact hp g rfl

theorem restoreInt_ofInt (v : Int) : restoreInt (ofInt v) = .ok (ofInt v) := by
  simp only [restoreInt, Custom.itemInt_ofInt_all]

theorem restoreInt_uint (n : Nat) (h : n < 2 ^ 64) : restoreInt (.uint n) = .ok (.uint n) :=
  ofInt_nat n h ▸ restoreInt_ofInt n

theorem restoreInt_stable {i x : Item} (h : restoreInt i = .ok x) : restoreInt x = .ok x := by
  unfold restoreInt at h
  split at h
  · cases h
    exact restoreInt_ofInt _
  · split at h
    · split at h
      · rename_i n hn
        cases h
        rcases hn with rfl | rfl <;> rfl
      · cases h
    · cases h

theorem restoreVersion_pair {a b : Item} (ha : restoreInt a = .ok a) (hb : restoreInt b = .ok b) :
    restoreVersion (.array [a, b]) = .ok (a, b) :=
  show Res.bind (restoreInt a) (fun x => Res.bind (restoreInt b) fun y => .ok (x, y)) = _ from ha ▸ hb ▸ rfl

theorem restoreVersion_stable {i : Item} {mm : Item × Item} (h : restoreVersion i = .ok mm) :
    restoreVersion (.array [mm.1, mm.2]) = .ok mm := by
  unfold restoreVersion at h
  split at h
  · obtain ⟨x, hx, h2⟩ := Custom.bind_eq_ok.1 h
    obtain ⟨y, hy, he⟩ := Custom.bind_eq_ok.1 h2
    cases he
    exact restoreVersion_pair (restoreInt_stable hx) (restoreInt_stable hy)
  · cases h

theorem restoreOptGaid_null : restoreOptGaid (.simple 22) = .ok Option.none := rfl

theorem restoreOptGaid_some {g : GovActionId} (h : GovActionId.fromItem g.toItem = .ok g) :
    restoreOptGaid g.toItem = .ok (some g) := by
  simp only [restoreOptGaid, h]

theorem restoreOptGaid_eq_some {i : Item} {g : GovActionId} (h : restoreOptGaid i = .ok (some g)) :
    GovActionId.fromItem i = .ok g := by
  unfold restoreOptGaid at h
  split at h
  · rename_i hy
    cases h
    exact hy
  · cases h
  · split at h <;> cases h

theorem HardFork.fromItem_toItem (x : HardFork) (hp : ∀ g, x.prev = some g → GovActionId.fromItem g.toItem = .ok g)
    (hv : restoreVersion (.array [x.major, x.minor]) = .ok (x.major, x.minor)) (hm : majorOk x.major = true) :
    HardFork.fromItem x.toItem = .ok x := by
  obtain ⟨p, ma, mi⟩ := x
  cases p with
  | none =>
    simp only [HardFork.fromItem, HardFork.toItem, seqElems?, HardFork.fromList, pyNum_uint, Int.cast_ofNat_Int, if_true,
      restoreOptGaid_null, hv, bind_ok, hm]
  | some g =>
    simp only [HardFork.fromItem, HardFork.toItem, seqElems?, HardFork.fromList, pyNum_uint, Int.cast_ofNat_Int, if_true,
      restoreOptGaid_some (hp g rfl), hv, bind_ok, hm]

theorem HardFork.fromItem_ok {i : Item} {x : HardFork} (h : HardFork.fromItem i = .ok x) :
    (∃ p, restoreOptGaid p = .ok x.prev) ∧ (∃ v, restoreVersion v = .ok (x.major, x.minor)) ∧ majorOk x.major = true := by
  obtain ⟨xs, h⟩ := seq_ok h
  unfold HardFork.fromList at h
  split at h
  · cases h
  · split at h
    · split at h
      · cases h
      · obtain ⟨_, _, he⟩ := Custom.bind_eq_ok.1 h
        cases he
      · obtain ⟨g, hg, h2⟩ := Custom.bind_eq_ok.1 h
        obtain ⟨mm, hmm, h3⟩ := Custom.bind_eq_ok.1 h2
        split at h3
        · rename_i hok
          cases h3
          exact ⟨⟨_, hg⟩, ⟨_, hmm⟩, hok⟩
        · cases h3
    · cases h

theorem majorOk_uint {n : Nat} (h : 1 ≤ n ∧ n ≤ 10) : majorOk (.uint n) = true :=
  decide_eq_true ⟨Int.ofNat_le.2 h.1, Int.ofNat_le.2 h.2⟩

/-- a hard-fork action built from Python ints of ANY size for the minor version (bignums included) -/
theorem hardfork_rt_int (p : Option GovActionId) (n : Nat) (v : Int)
    (hp : ∀ g, p = some g → g.wf = true) (hn : 1 ≤ n ∧ n ≤ 10) :
    HardFork.fromItem (HardFork.toItem ⟨p, .uint n, ofInt v⟩) = .ok ⟨p, .uint n, ofInt v⟩ :=
  HardFork.fromItem_toItem _ (fun g e => gaid_rt g (hp g e))
    (restoreVersion_pair (restoreInt_uint n (by omega)) (restoreInt_ofInt v)) (majorOk_uint hn)

theorem hardfork_rt (x : HardFork) (h : x.wf = true) : HardFork.fromItem x.toItem = .ok x := by
  obtain ⟨p, n, m, rfl, hp, hn, hm⟩ := HardFork.wf_iff.1 h
  exact ofInt_nat m hm ▸ hardfork_rt_int p n m hp hn

theorem hardfork_item_loadable (x : HardFork) (h : x.wf = true) : Loadable x.toItem := by
  obtain ⟨p, n, m, rfl, hp, hn, hm⟩ := HardFork.wf_iff.1 h
  have hn' : n < 2 ^ 64 := by omega
  have hw (i : Item) (hi : Cbor.WF i) : Cbor.WF (.array [.uint 1, i, .array [.uint n, .uint m]]) :=
    ⟨(by decide : 3 < 2 ^ 64), (by decide : 1 < 2 ^ 64), hi, wf_array2 hn' hm, trivial⟩
  cases p with
  | none => exact ⟨hw _ (by decide : 22 < 24), rfl⟩
  | some g =>
    obtain ⟨b, k, rfl, hb, hk⟩ := GovActionId.wf_iff.1 (hp g rfl)
    exact ⟨hw _ (gaid_item_loadable _ (hp _ rfl)).1.1, rfl⟩

/-! ## `DictCBORSerializable` with a key class -/

section Dict
variable {κ ν : Type}

theorem assocSet_fresh (keq : κ → κ → Bool) (m : List (κ × ν)) (k : κ) (v : ν)
    (h : ∀ p ∈ m, keq p.1 k = false) : assocSet keq m k v = m ++ [(k, v)] := by
  induction m with
  | nil => rfl
  | cons q r ih =>
    obtain ⟨k', v'⟩ := q
    have h1 : keq k' k = false := h (k', v') (by simp)
    simp [assocSet, h1, ih (fun p hp => h p (by simp [hp]))]

/-- the decoding loop over the images of entries with pairwise distinct keys appends them in wire order (`keq`, the key
class's `__eq__`, only identifies keys that are written alike: `hs`).  The hypotheses speak of the keys of `acc ++ l`
only, which the loop leaves as they are. -/
theorem decDictLoop_images (ek : κ → Item) (keq : κ → κ → Bool) (dk : Item → Res κ) (dv : Item → Res ν) (ev : ν → Item)
    (nv : ν → ν) (l acc : List (κ × ν))
    (hk : ∀ p ∈ l, dk (ek p.1) = .ok p.1) (hv : ∀ p ∈ l, dv (ev p.2) = .ok (nv p.2))
    (hs : ∀ a ∈ (acc ++ l).map (·.1), ∀ b ∈ (acc ++ l).map (·.1), keq a b = true → keyBytes ek a = keyBytes ek b)
    (hd : (((acc ++ l).map (·.1)).map (keyBytes ek)).Nodup) :
    decDictLoop keq dk dv acc (l.map fun p => (ek p.1, ev p.2)) = .ok (acc ++ l.map fun p => (p.1, nv p.2)) := by
  induction l generalizing acc with
  | nil => simp only [List.map_nil, decDictLoop, List.append_nil]
  | cons q r ih =>
    obtain ⟨k, v⟩ := q
    have h1 : dk (ek k) = .ok k := hk (k, v) List.mem_cons_self
    have h2 : dv (ev v) = .ok (nv v) := hv (k, v) List.mem_cons_self
    have e : ((acc ++ [(k, nv v)]) ++ r).map (·.1) = (acc ++ (k, v) :: r).map (·.1) := by
      simp only [List.map_append, List.map_cons, List.append_assoc, List.singleton_append]
    have hfresh : ∀ p ∈ acc, keq p.1 k = false := fun p hp => by
      cases hq : keq p.1 k with
      | false => rfl
      | true =>
        have hp' : p.1 ∈ acc.map (·.1) := List.mem_map.2 ⟨p, hp, rfl⟩
        rw [List.map_append, List.map_cons] at hs hd
        rw [List.map_append, List.map_cons, List.nodup_append] at hd
        exact absurd (hs p.1 (List.mem_append_left _ hp') k (List.mem_append_right _ List.mem_cons_self) hq)
          (hd.2.2 _ (List.mem_map.2 ⟨_, hp', rfl⟩) _ List.mem_cons_self)
    simp only [List.map_cons, decDictLoop, h1, h2]
    rw [assocSet_fresh keq acc k (nv v) hfresh, ih (acc ++ [(k, nv v)]) (fun p hp => hk p (List.mem_cons_of_mem _ hp))
      (fun p hp => hv p (List.mem_cons_of_mem _ hp)) (e ▸ hs) (e ▸ hd), List.append_assoc, List.singleton_append]

theorem sortDict_perm (ek : κ → Item) (m : List (κ × ν)) : (sortDict ek m).Perm m := isort_perm _ _

theorem sortPairs_map (ek : κ → Item) (ev : ν → Item) (m : List (κ × ν)) :
    sortPairs (m.map fun p => (ek p.1, ev p.2)) = (sortDict ek m).map fun p => (ek p.1, ev p.2) := by
  unfold sortPairs sortDict
  exact (map_isort _ _ (fun p : κ × ν => (ek p.1, ev p.2)) (fun a b => rfl) m).symm

/-- **round trip of a dict class**: keys and values round-trip (values up to their normal form `nv`), keys pairwise
distinct: decoding the encoding returns the entries in canonical order -/
theorem decDict_encDict (ek : κ → Item) (keq : κ → κ → Bool) (dk : Item → Res κ) (dv : Item → Res ν) (ev : ν → Item)
    (nv : ν → ν) (m : List (κ × ν)) (hk : ∀ p ∈ m, dk (ek p.1) = .ok p.1) (hv : ∀ p ∈ m, dv (ev p.2) = .ok (nv p.2))
    (hs : ∀ p ∈ m, ∀ q ∈ m, keq p.1 q.1 = true → keyBytes ek p.1 = keyBytes ek q.1)
    (hd : DistinctKeys ek m) :
    decDict keq dk dv (encDict ek ev m) = .ok ((sortDict ek m).map fun p => (p.1, nv p.2)) := by
  unfold decDict encDict
  simp only [sortPairs_map]
  have hp := sortDict_perm ek m
  refine (decDictLoop_images ek keq dk dv ev nv (sortDict ek m) [] (fun p h => hk p (hp.subset h))
    (fun p h => hv p (hp.subset h)) (fun a ha b hb => ?_) ?_).trans (congrArg Res.ok (List.nil_append _))
  · obtain ⟨p, hp', rfl⟩ := List.mem_map.1 ha
    obtain ⟨q, hq', rfl⟩ := List.mem_map.1 hb
    exact hs p (hp.subset hp') q (hp.subset hq')
  · rw [List.nil_append, List.map_map]
    exact ((hp.map fun p : κ × ν => keyBytes ek p.1).nodup_iff).2 hd

theorem sortDict_sorted (ek : κ → Item) (m : List (κ × ν)) :
    (sortDict ek m).Pairwise (fun a b => lenLexLe (keyBytes ek a.1) (keyBytes ek b.1) = true) :=
  isort_pairwise (fun a b : κ × ν => lenLexLe (keyBytes ek a.1) (keyBytes ek b.1))
    (fun _ _ _ h1 h2 => lenLexLe_trans _ _ _ h1 h2) (fun _ _ => lenLexLe_total _ _) m

theorem sortDict_strict (ek : κ → Item) (m : List (κ × ν)) (hd : DistinctKeys ek m) :
    (sortDict ek m).Pairwise (fun a b => lenLexLe (keyBytes ek a.1) (keyBytes ek b.1) = true ∧
      keyBytes ek a.1 ≠ keyBytes ek b.1) := by
  have h1 := sortDict_sorted ek m
  have h2 : ((sortDict ek m).map fun p => keyBytes ek p.1).Nodup :=
    (((sortDict_perm ek m).map fun p : κ × ν => keyBytes ek p.1).nodup_iff).2 hd
  rw [List.Nodup, List.pairwise_map] at h2
  exact h1.and h2

/-- the canonical order does not depend on the insertion order -/
theorem sortDict_unique (ek : κ → Item) (m₁ m₂ : List (κ × ν)) (hd : DistinctKeys ek m₁) (hp : m₁.Perm m₂) :
    sortDict ek m₁ = sortDict ek m₂ :=
  isort_congr_perm (fun a b : κ × ν => lenLexLe (keyBytes ek a.1) (keyBytes ek b.1)) (fun _ _ => lenLexLe_total _ _)
    (fun _ _ _ => lenLexLe_trans _ _ _)
    (fun _ ha _ hb h1 h2 => eq_of_map_eq_of_nodup hd ha hb (lenLexLe_antisymm _ _ h1 h2)) hp

theorem distinct_of_perm (ek : κ → Item) {m₁ m₂ : List (κ × ν)} (hp : m₁.Perm m₂) (hd : DistinctKeys ek m₂) :
    DistinctKeys ek m₁ := ((hp.map fun p : κ × ν => keyBytes ek p.1).nodup_iff).2 hd

theorem sortDict_idem (ek : κ → Item) (m : List (κ × ν)) : sortDict ek (sortDict ek m) = sortDict ek m :=
  isort_of_sorted _ _ (sortDict_sorted ek m)

end Dict

/-! ## `GovActionIdToVotingProcedure`, `VotingProcedures` -/

theorem all_and_mem {α : Type} {f g : α → Bool} {m : List α} (h : (m.all fun p => f p && g p) = true) :
    ∀ p ∈ m, f p = true ∧ g p = true :=
  fun p hp => Bool.and_eq_true_iff.1 (List.all_eq_true.1 h p hp)

theorem gaid_keq_sound (a b : GovActionId) (ha : isIdxB a.idx = true) (hb : isIdxB b.idx = true)
    (h : GovActionId.pyEqB a b = true) : keyBytes GovActionId.toItem a = keyBytes GovActionId.toItem b := by
  obtain ⟨x, i⟩ := a
  obtain ⟨y, j⟩ := b
  obtain ⟨n, rfl, _⟩ := (isIdxB_iff i).1 ha
  obtain ⟨m, rfl, _⟩ := (isIdxB_iff j).1 hb
  obtain ⟨h1, h2⟩ := Bool.and_eq_true_iff.1 h
  cases Int.ofNat.inj (Option.some.inj (eq_of_beq h2))
  simp only [keyBytes, GovActionId.toItem, encode, encodeList, List.length_cons, eq_of_beq h1]

theorem voter_keq_sound (a b : Voter) (h : Voter.pyEqB a b = true) :
    keyBytes Voter.toItem a = keyBytes Voter.toItem b := by
  obtain ⟨h1, h2⟩ := Bool.and_eq_true_iff.1 h
  simp only [keyBytes, Voter.toItem, encode, encodeList, List.length_cons, eq_of_beq h1, eq_of_beq h2]

theorem votes_rt (m : GovVotes) (hw : GovVotes.wf m = true) (hd : DistinctKeys GovActionId.toItem m) :
    GovVotes.fromItem (GovVotes.toItem m) = .ok (GovVotes.canon m) := by
  have := decDict_encDict GovActionId.toItem GovActionId.pyEqB GovActionId.fromItem VotingProcedure.fromItem
    VotingProcedure.toItem id m
    (fun p hp => gaid_rt p.1 (all_and_mem hw p hp).1) (fun p hp => vp_rt p.2 (all_and_mem hw p hp).2)
    (fun p hp q hq => gaid_keq_sound p.1 q.1 (Bool.and_eq_true_iff.1 (all_and_mem hw p hp).1).2
      (Bool.and_eq_true_iff.1 (all_and_mem hw q hq).1).2) hd
  simpa [GovVotes.fromItem, GovVotes.toItem, GovVotes.canon] using this

theorem vps_rt (m : VotingProcedures) (hw : VotingProcedures.wf m = true) (hd : VotingProcedures.Distinct m) :
    VotingProcedures.fromItem (VotingProcedures.toItem m) = .ok (VotingProcedures.canon m) := by
  have := decDict_encDict Voter.toItem Voter.pyEqB Voter.fromItem GovVotes.fromItem GovVotes.toItem GovVotes.canon m
    (fun p hp => voter_rt p.1 (all_and_mem hw p hp).1)
    (fun p hp => votes_rt p.2 (all_and_mem hw p hp).2 (hd.2 p hp))
    (fun p _ q _ => voter_keq_sound p.1 q.1) hd.1
  simpa [VotingProcedures.fromItem, VotingProcedures.toItem, VotingProcedures.canon] using this

theorem votes_canon_pyeq (m : GovVotes) : GovVotes.PyEq (GovVotes.canon m) m := sortDict_perm _ m

theorem vps_rel_map (m : VotingProcedures) :
    VotingProcedures.Rel (m.map fun p => (p.1, GovVotes.canon p.2)) m := by
  induction m with
  | nil => trivial
  | cons p r ih => exact ⟨rfl, votes_canon_pyeq p.2, ih⟩

theorem vps_canon_pyeq (m : VotingProcedures) : VotingProcedures.PyEq (VotingProcedures.canon m) m :=
  ⟨m.map (fun p : Voter × GovVotes => (p.1, GovVotes.canon p.2)),
    (sortDict_perm Voter.toItem m).map (fun p : Voter × GovVotes => (p.1, GovVotes.canon p.2)), vps_rel_map m⟩

theorem votes_reencode (m : GovVotes) : GovVotes.toItem (GovVotes.canon m) = GovVotes.toItem m := by
  simp only [GovVotes.toItem, GovVotes.canon, encDict, sortPairs_map, sortDict_idem]

theorem sortDict_map_val {κ ν : Type} (ek : κ → Item) (g : ν → ν) (m : List (κ × ν)) :
    sortDict ek (m.map fun p => (p.1, g p.2)) = (sortDict ek m).map fun p => (p.1, g p.2) := by
  unfold sortDict
  exact (map_isort _ _ (fun p : κ × ν => (p.1, g p.2)) (fun _ _ => rfl) m).symm

theorem vps_reencode (m : VotingProcedures) :
    VotingProcedures.toItem (VotingProcedures.canon m) = VotingProcedures.toItem m := by
  unfold VotingProcedures.toItem VotingProcedures.canon encDict
  rw [sortPairs_map, sortPairs_map, sortDict_map_val, sortDict_idem, List.map_map]
  congr 1
  apply List.map_congr_left
  intro p _
  simp [votes_reencode]

theorem votes_order_independent (a b : GovVotes) (hd : DistinctKeys GovActionId.toItem a) (h : GovVotes.PyEq a b) :
    GovVotes.toItem a = GovVotes.toItem b := by
  simp only [GovVotes.toItem, encDict, sortPairs_map, sortDict_unique _ a b hd h]

theorem vps_rel_item (a b : VotingProcedures) (hd : ∀ p ∈ a, DistinctKeys GovActionId.toItem p.2)
    (h : VotingProcedures.Rel a b) :
    (a.map fun p => (Voter.toItem p.1, GovVotes.toItem p.2)) = b.map fun p => (Voter.toItem p.1, GovVotes.toItem p.2) := by
  induction a generalizing b with
  | nil => cases b with
    | nil => rfl
    | cons _ _ => exact absurd h (by simp [VotingProcedures.Rel])
  | cons x xs ih =>
    cases b with
    | nil => exact absurd h (by simp [VotingProcedures.Rel])
    | cons y ys =>
      obtain ⟨h1, h2, h3⟩ := h
      simp only [List.map_cons, List.cons.injEq]
      refine ⟨?_, ih ys (fun p hp => hd p (by simp [hp])) h3⟩
      rw [h1, votes_order_independent x.2 y.2 (hd x (by simp)) h2]

theorem vps_order_independent (a b : VotingProcedures) (hd : VotingProcedures.Distinct a) (h : VotingProcedures.PyEq a b) :
    VotingProcedures.toItem a = VotingProcedures.toItem b := by
  obtain ⟨b', hp, hr⟩ := h
  have h1 : VotingProcedures.toItem a = VotingProcedures.toItem b' := by
    simp only [VotingProcedures.toItem, encDict, sortPairs_map, sortDict_unique _ a b' hd.1 hp]
  have h2 : VotingProcedures.toItem b' = VotingProcedures.toItem b := by
    simp only [VotingProcedures.toItem, encDict]
    rw [vps_rel_item b' b (fun p hp' => hd.2 p (hp.symm.subset hp')) hr]
  rw [h1, h2]

/-- the keys of the emitted map are strictly increasing in the (length, bytes) order of their encodings -/
def StrictlySorted (kvs : List (Item × Item)) : Prop :=
  kvs.Pairwise fun a b => lenLexLe (encode a.1) (encode b.1) = true ∧ encode a.1 ≠ encode b.1

theorem encDict_sorted {κ ν : Type} (ek : κ → Item) (ev : ν → Item) (m : List (κ × ν)) (hd : DistinctKeys ek m) :
    ∃ kvs, encDict ek ev m = .map kvs ∧ StrictlySorted kvs ∧ kvs.length = m.length := by
  refine ⟨_, rfl, ?_, ?_⟩
  · rw [sortPairs_map]
    unfold StrictlySorted
    rw [List.pairwise_map]
    exact sortDict_strict ek m hd
  · rw [sortPairs_map, List.length_map]
    exact (sortDict_perm ek m).length_eq

theorem encDict_loadable {κ ν : Type} (ek : κ → Item) (ev : ν → Item) (m : List (κ × ν)) (hl : m.length < 2 ^ 64)
    (h : ∀ p ∈ m, (Loadable (ek p.1) ∧ hasIndef (ek p.1) = false) ∧ Loadable (ev p.2)) : Loadable (encDict ek ev m) := by
  have hp := sortDict_perm ek m
  unfold encDict
  rw [sortPairs_map]
  refine ⟨⟨by rw [List.length_map, hp.length_eq]; exact hl, (wfPairs_iff _).2 ?_⟩, (keysHashablePairs_iff _).2 ?_⟩
  all_goals
    intro p hp'
    obtain ⟨q, hq, rfl⟩ := List.mem_map.1 hp'
    obtain ⟨⟨hk, hi⟩, hv⟩ := h q (hp.subset hq)
  · exact ⟨hk.1, hv.1⟩
  · exact ⟨hi, hk.2, hv.2⟩

/-! ## `PoolId` -/

theorem isPoolId_ascii (s : List Char) (h : isPoolId s = true) : ∀ c ∈ s, 33 ≤ c.toNat ∧ c.toNat ≤ 126 := by
  simp only [isPoolId, Bool.and_eq_true] at h
  have h2 := h.2
  unfold Bech32.bech32Decode at h2
  split at h2
  · simp at h2
  · rename_i hc
    intro c hcmem
    have ha : s.any (fun x => decide (x.toNat < 33) || decide (x.toNat > 126)) = false := by
      cases hh : s.any (fun x => decide (x.toNat < 33) || decide (x.toNat > 126))
      · rfl
      · simp [hh] at hc
    have := (List.any_eq_false.1 ha) c hcmem
    simp only [Bool.or_eq_true, decide_eq_true_eq, not_or, Nat.not_lt, gt_iff_lt] at this
    omega

theorem chars_bytes_chars (s : List Char) (h : ∀ c ∈ s, c.toNat < 256) :
    (s.map fun c => UInt8.ofNat c.toNat).map (fun b => Char.ofNat b.toNat) = s := by
  rw [List.map_map]
  conv => rhs; rw [← List.map_id s]
  apply List.map_congr_left
  intro c hc
  simp [u8_toNat_ofNat c.toNat (h c hc)]

theorem poolid_rt (p : PoolId) (h : p.wf = true) : PoolId.fromItem p.toItem = .ok p := by
  obtain ⟨s⟩ := p
  have hs : isPoolId s = true := h
  have hc := chars_bytes_chars s fun c hc => Nat.lt_of_le_of_lt (isPoolId_ascii s hs c hc).2 (by decide)
  simp only [PoolId.toItem, PoolId.fromItem, hc, hs, if_true]

theorem bytes_of_chars_inj (s t : List Char) (hs : ∀ c ∈ s, c.toNat < 256) (ht : ∀ c ∈ t, c.toNat < 256)
    (h : (s.map fun c => UInt8.ofNat c.toNat) = t.map fun c => UInt8.ofNat c.toNat) : s = t := by
  rw [← chars_bytes_chars s hs, ← chars_bytes_chars t ht, h]

/-- the library's own bech32 encoder with the prefix `pool` produces an accepted pool id for every payload -/
theorem poolid_of_bytes (bs : Bytes) : ∃ s, Bech32.encode "pool".toList bs = some s ∧ isPoolId s = true := by
  obtain ⟨out, _, ho, _, he⟩ := Bech32.encode_eq "pool".toList bs Bech32.hrpOk_pool
  refine ⟨_, he, ?_⟩
  have hd := Bech32.bech32Decode_bech32Encode "pool".toList out Bech32.hrpOk_pool ho
  simp only [isPoolId, hd, Option.isSome_some, Bool.and_true]
  exact List.isPrefixOf_iff_prefix.2 (List.prefix_append _ _)

/-! ## abstraction to the abstract syntax of the CDDL (`Spec/Gov.lean`) -/

/-- the bytes a well-typed payload holds -/
def payloadBytes : Item → Bytes
  | .bytes b => b
  | _ => []

def payloadNat : Item → Nat
  | .uint n => n
  | _ => 0

def Cred.abs (c : Cred) : Spec.Gov.Credential :=
  if c.isKey then .keyHash (payloadBytes c.hash) else .scriptHash (payloadBytes c.hash)

/-- by kind (the class of the hash object plays no role on the wire) -/
def DRep.abs (d : DRep) : Spec.Gov.DRep :=
  match d.kind with
  | .keyHash => .keyHash (match d.cred with | some (_, h) => payloadBytes h | Option.none => [])
  | .scriptHash => .scriptHash (match d.cred with | some (_, h) => payloadBytes h | Option.none => [])
  | .alwaysAbstain => .alwaysAbstain
  | .alwaysNoConfidence => .alwaysNoConfidence

def Voter.abs (v : Voter) : Spec.Gov.Voter :=
  match v.vtype with
  | .committeeHot => if v.isKey then .committeeKey (payloadBytes v.hash) else .committeeScript (payloadBytes v.hash)
  | .drep => if v.isKey then .drepKey (payloadBytes v.hash) else .drepScript (payloadBytes v.hash)
  | .stakingPool => .stakePool (payloadBytes v.hash)

def Anchor.abs (a : Anchor) : Spec.Gov.Anchor := ⟨a.url, a.hash⟩

def Vote.abs : Vote → Spec.Gov.Vote
  | .no => .no
  | .yes => .yes
  | .abstain => .abstain

def VotingProcedure.abs (p : VotingProcedure) : Spec.Gov.VotingProcedure := ⟨p.vote.abs, p.anchor.map Anchor.abs⟩

def GovActionId.abs (g : GovActionId) : Spec.Gov.GovActionId := ⟨payloadBytes g.txid, payloadNat g.idx⟩

def HardFork.abs (h : HardFork) : Spec.Gov.HardFork := ⟨h.prev.map GovActionId.abs, payloadNat h.major, payloadNat h.minor⟩

/-- the extra size limit of the CDDL that the library does not enforce: `url = text .size (0 .. 128)` -/
def Anchor.urlOk (a : Anchor) : Bool := decide (a.url.length ≤ 128)
def VotingProcedure.urlOk (p : VotingProcedure) : Bool :=
  match p.anchor with
  | some a => a.urlOk
  | Option.none => true

theorem cred_abs (c : Cred) (h : c.wf = true) : c.toItem = (Cred.abs c).enc ∧ (Cred.abs c).ok = true := by
  obtain ⟨k, b, rfl, hb⟩ := Cred.wf_iff.1 h
  cases k <;> exact ⟨rfl, decide_eq_true hb⟩

theorem drep_abs (d : DRep) (ht : d.typed = true) (ha : d.arityOk = true) :
    d.toItem = (DRep.abs d).enc ∧ (DRep.abs d).ok = true := by
  obtain ⟨kd, c⟩ := d
  rcases DRep.typed_iff.1 ht with hn | ⟨k, b, hs, hb⟩
  · cases hn
    cases kd <;> first | exact Bool.noConfusion ha | exact ⟨rfl, rfl⟩
  · cases hs
    cases kd <;> first | exact Bool.noConfusion ha | exact ⟨rfl, decide_eq_true hb⟩

theorem voter_abs (v : Voter) (h : v.wf = true) : v.toItem = (Voter.abs v).enc ∧ (Voter.abs v).ok = true := by
  obtain ⟨t, k, b, rfl, hb, hc⟩ := Voter.wf_iff.1 h
  cases t <;> cases k <;> first | exact Bool.noConfusion hc | exact ⟨rfl, decide_eq_true hb⟩

theorem anchor_abs (a : Anchor) (h : a.wf = true) (hu : a.urlOk = true) :
    a.toItem = (Anchor.abs a).enc ∧ (Anchor.abs a).ok = true :=
  ⟨rfl, Bool.and_eq_true_iff.2 ⟨hu, h⟩⟩

theorem vote_abs (v : Vote) : Item.uint v.code = (Vote.abs v).enc := by
  cases v <;> rfl

theorem vp_abs (p : VotingProcedure) (h : p.wf = true) (hu : p.urlOk = true) :
    p.toItem = (VotingProcedure.abs p).enc ∧ (VotingProcedure.abs p).ok = true := by
  obtain ⟨v, a⟩ := p
  cases a with
  | none => exact ⟨congrArg (fun x => Item.array [x, .simple 22]) (vote_abs v), rfl⟩
  | some a => exact ⟨congrArg (fun x => Item.array [x, a.toItem]) (vote_abs v), (anchor_abs a h hu).2⟩

theorem gaid_abs (g : GovActionId) (h : g.wf = true) : g.toItem = (GovActionId.abs g).enc ∧ (GovActionId.abs g).ok = true := by
  obtain ⟨b, n, rfl, hb, hn⟩ := GovActionId.wf_iff.1 h
  exact ⟨rfl, Bool.and_eq_true_iff.2 ⟨decide_eq_true hb, decide_eq_true (Nat.lt_succ_of_le hn)⟩⟩

theorem hardfork_abs (x : HardFork) (h : x.wf = true) : x.toItem = (HardFork.abs x).enc ∧ (HardFork.abs x).ok = true := by
  obtain ⟨p, n, m, rfl, hp, hn, hm⟩ := HardFork.wf_iff.1 h
  have hn' : n ≤ 12 := by omega
  cases p with
  | none => exact ⟨rfl, Bool.and_eq_true_iff.2 ⟨decide_eq_true hn', decide_eq_true hm⟩⟩
  | some g =>
    obtain ⟨hg, hk⟩ := gaid_abs g (hp g rfl)
    exact ⟨congrArg (fun x => Item.array [.uint 1, x, .array [.uint n, .uint m]]) hg,
      Bool.and_eq_true_iff.2 ⟨Bool.and_eq_true_iff.2 ⟨hk, decide_eq_true hn'⟩, decide_eq_true hm⟩⟩

end Pyc.Gov

namespace Pyc.Spec.Gov
open Pyc.Cbor

/-! ## the two renderings of each CDDL rule agree: the recogniser accepts exactly the image of the encoder -/

theorem isBytesN_iff (n : Nat) (i : Item) : isBytesN n i = true ↔ ∃ b, i = .bytes b ∧ b.length = n := by
  cases i <;> simp [isBytesN]

theorem isCredential_iff (i : Item) : isCredential i = true ↔ ∃ x : Credential, x.ok = true ∧ x.enc = i := by
  refine ⟨fun h => ?_, fun ⟨x, h, he⟩ => he ▸ ?_⟩
  · unfold isCredential at h
    split at h
    · rename_i c p
      simp only [Bool.and_eq_true, Bool.or_eq_true, beq_iff_eq] at h
      obtain ⟨b, rfl, hb⟩ := (isBytesN_iff 28 p).1 h.2
      rcases h.1 with rfl | rfl
      · exact ⟨.keyHash b, decide_eq_true hb, rfl⟩
      · exact ⟨.scriptHash b, decide_eq_true hb, rfl⟩
    · cases h
  · cases x <;> exact h

theorem isDRep_iff (i : Item) : isDRep i = true ↔ ∃ x : DRep, x.ok = true ∧ x.enc = i := by
  refine ⟨fun h => ?_, fun ⟨x, h, he⟩ => he ▸ ?_⟩
  · unfold isDRep at h
    split at h
    · rename_i c p
      simp only [Bool.and_eq_true, Bool.or_eq_true, beq_iff_eq] at h
      obtain ⟨b, rfl, hb⟩ := (isBytesN_iff 28 p).1 h.2
      rcases h.1 with rfl | rfl
      · exact ⟨.keyHash b, decide_eq_true hb, rfl⟩
      · exact ⟨.scriptHash b, decide_eq_true hb, rfl⟩
    · rename_i c
      simp only [Bool.or_eq_true, beq_iff_eq] at h
      rcases h with rfl | rfl
      · exact ⟨.alwaysAbstain, rfl, rfl⟩
      · exact ⟨.alwaysNoConfidence, rfl, rfl⟩
    · cases h
  · cases x <;> exact h

theorem isVoter_iff (i : Item) : isVoter i = true ↔ ∃ x : Voter, x.ok = true ∧ x.enc = i := by
  refine ⟨fun h => ?_, fun ⟨x, h, he⟩ => he ▸ ?_⟩
  · unfold isVoter at h
    split at h
    · rename_i c p
      simp only [Bool.and_eq_true, decide_eq_true_eq] at h
      obtain ⟨b, rfl, hb⟩ := (isBytesN_iff 28 p).1 h.2
      have hc : c = 0 ∨ c = 1 ∨ c = 2 ∨ c = 3 ∨ c = 4 := by omega
      rcases hc with rfl | rfl | rfl | rfl | rfl
      · exact ⟨.committeeKey b, decide_eq_true hb, rfl⟩
      · exact ⟨.committeeScript b, decide_eq_true hb, rfl⟩
      · exact ⟨.drepKey b, decide_eq_true hb, rfl⟩
      · exact ⟨.drepScript b, decide_eq_true hb, rfl⟩
      · exact ⟨.stakePool b, decide_eq_true hb, rfl⟩
    · cases h
  · cases x <;> exact h

theorem isAnchor_iff (i : Item) : isAnchor i = true ↔ ∃ x : Anchor, x.ok = true ∧ x.enc = i := by
  refine ⟨fun h => ?_, fun ⟨x, h, he⟩ => he ▸ ?_⟩
  · unfold isAnchor at h
    split at h
    · rename_i u p
      simp only [Bool.and_eq_true, decide_eq_true_eq] at h
      obtain ⟨b, rfl, hb⟩ := (isBytesN_iff 32 p).1 h.2
      exact ⟨⟨u, b⟩, Bool.and_eq_true_iff.2 ⟨decide_eq_true h.1, decide_eq_true hb⟩, rfl⟩
    · cases h
  · exact h

theorem anchor_enc_not_nil (x : Anchor) : isNil x.enc = false := rfl

theorem vote_valid_enc (i : Item) (h : isVote i = true) : ∃ v : Vote, v.enc = i := by
  unfold isVote at h
  split at h
  · rename_i n
    simp only [decide_eq_true_eq] at h
    have hc : n = 0 ∨ n = 1 ∨ n = 2 := by omega
    rcases hc with rfl | rfl | rfl
    · exact ⟨.no, rfl⟩
    · exact ⟨.yes, rfl⟩
    · exact ⟨.abstain, rfl⟩
  · cases h

theorem nil_iff (i : Item) : isNil i = true ↔ i = .simple 22 := by
  cases i <;> simp [isNil]

theorem isVotingProcedure_iff (i : Item) : isVotingProcedure i = true ↔ ∃ x : VotingProcedure, x.ok = true ∧ x.enc = i := by
  refine ⟨fun h => ?_, fun ⟨x, h, he⟩ => he ▸ ?_⟩
  · unfold isVotingProcedure at h
    split at h
    · rename_i v a
      simp only [Bool.and_eq_true, Bool.or_eq_true] at h
      obtain ⟨vv, rfl⟩ := vote_valid_enc v h.1
      rcases h.2 with ha | ha
      · obtain ⟨x, hx, rfl⟩ := (isAnchor_iff a).1 ha
        exact ⟨⟨vv, some x⟩, hx, rfl⟩
      · rw [nil_iff] at ha
        subst ha
        exact ⟨⟨vv, none⟩, rfl, rfl⟩
    · cases h
  · obtain ⟨v, a⟩ := x
    cases a with
    | none => cases v <;> rfl
    | some a => cases v <;> exact Bool.or_eq_true_iff.2 (.inl h)

theorem isGovActionId_iff (i : Item) : isGovActionId i = true ↔ ∃ x : GovActionId, x.ok = true ∧ x.enc = i := by
  refine ⟨fun h => ?_, fun ⟨x, h, he⟩ => he ▸ ?_⟩
  · unfold isGovActionId at h
    split at h
    · rename_i t n
      simp only [Bool.and_eq_true, decide_eq_true_eq] at h
      obtain ⟨b, rfl, hb⟩ := (isBytesN_iff 32 t).1 h.1
      exact ⟨⟨b, n⟩, Bool.and_eq_true_iff.2 ⟨decide_eq_true hb, decide_eq_true h.2⟩, rfl⟩
    · cases h
  · exact h

theorem gaid_enc_not_nil (x : GovActionId) : isNil x.enc = false := rfl

theorem isHardFork_iff (i : Item) : isHardFork i = true ↔ ∃ x : HardFork, x.ok = true ∧ x.enc = i := by
  refine ⟨fun h => ?_, fun ⟨x, h, he⟩ => he ▸ ?_⟩
  · unfold isHardFork at h
    split at h
    · rename_i c p ma mi
      simp only [Bool.and_eq_true, Bool.or_eq_true, beq_iff_eq, decide_eq_true_eq] at h
      obtain ⟨⟨⟨rfl, hp⟩, hma⟩, hmi⟩ := h
      rcases hp with hp | hp
      · obtain ⟨g, hg, rfl⟩ := (isGovActionId_iff p).1 hp
        exact ⟨⟨some g, ma, mi⟩, by simp [HardFork.ok, hg, hma, hmi], rfl⟩
      · rw [nil_iff] at hp
        subst hp
        exact ⟨⟨none, ma, mi⟩, by simp [HardFork.ok, hma, hmi], rfl⟩
    · cases h
  · obtain ⟨p, ma, mi⟩ := x
    simp only [HardFork.ok, Bool.and_eq_true, decide_eq_true_eq] at h
    cases p with
    | none => simp [HardFork.enc, isHardFork, isNil, h.1.2, h.2]
    | some g =>
      have : isGovActionId g.enc = true := h.1.1
      simp [HardFork.enc, isHardFork, this, h.1.2, h.2]

theorem keysDistinct_iff (l : List (Item × Item)) :
    keysDistinct l = true ↔ l.Pairwise (fun a b => encode a.1 ≠ encode b.1) := by
  induction l with
  | nil => simp [keysDistinct]
  | cons q r ih =>
    obtain ⟨k, v⟩ := q
    simp only [keysDistinct, Bool.and_eq_true, ih, List.pairwise_cons, List.all_eq_true, bne_iff_ne, ne_eq]
    constructor
    · rintro ⟨h1, h2⟩; exact ⟨fun a ha he => h1 a ha he.symm, h2⟩
    · rintro ⟨h1, h2⟩; exact ⟨fun a ha he => h1 a ha he.symm, h2⟩

end Pyc.Spec.Gov

namespace Pyc.Gov
open Pyc.Cbor Pyc.Codec

/-! ## every item the CDDL rule admits is accepted, decoded to a well-formed object, and written back unchanged

`X.ofSpec` is the object with the content a term of the rule's abstract syntax denotes. -/

/-- a class whose well-formed objects round-trip accepts every item of a rule whose terms it can represent -/
theorem complete_of {σ α : Type} {enc : σ → Item} {ok : σ → Prop} {toItem : α → Item} {fromItem : Item → Res α}
    {wf : α → Prop} (ofSpec : σ → α) (hi : ∀ s, toItem (ofSpec s) = enc s) (hw : ∀ s, ok s → wf (ofSpec s))
    (rt : ∀ x, wf x → fromItem (toItem x) = .ok x) {i : Item} (h : ∃ s, ok s ∧ enc s = i) :
    ∃ x, wf x ∧ fromItem i = .ok x ∧ toItem x = i := by
  obtain ⟨s, hs, rfl⟩ := h
  exact ⟨ofSpec s, hw s hs, hi s ▸ rt _ (hw s hs), hi s⟩

def Cred.ofSpec : Spec.Gov.Credential → Cred
  | .keyHash h => ⟨true, .bytes h⟩
  | .scriptHash h => ⟨false, .bytes h⟩

def DRep.ofSpec : Spec.Gov.DRep → DRep
  | .keyHash h => ⟨.keyHash, some (true, .bytes h)⟩
  | .scriptHash h => ⟨.scriptHash, some (false, .bytes h)⟩
  | .alwaysAbstain => ⟨.alwaysAbstain, Option.none⟩
  | .alwaysNoConfidence => ⟨.alwaysNoConfidence, Option.none⟩

def Voter.ofSpec : Spec.Gov.Voter → Voter
  | .committeeKey h => ⟨.committeeHot, true, .bytes h⟩
  | .committeeScript h => ⟨.committeeHot, false, .bytes h⟩
  | .drepKey h => ⟨.drep, true, .bytes h⟩
  | .drepScript h => ⟨.drep, false, .bytes h⟩
  | .stakePool h => ⟨.stakingPool, true, .bytes h⟩

def Anchor.ofSpec (a : Spec.Gov.Anchor) : Anchor := ⟨a.url, a.dataHash⟩

def Vote.ofSpec : Spec.Gov.Vote → Vote
  | .no => .no
  | .yes => .yes
  | .abstain => .abstain

def VotingProcedure.ofSpec (p : Spec.Gov.VotingProcedure) : VotingProcedure :=
  ⟨Vote.ofSpec p.vote, p.anchor.map Anchor.ofSpec⟩

def GovActionId.ofSpec (g : Spec.Gov.GovActionId) : GovActionId := ⟨.bytes g.txid, .uint g.index⟩

def HardFork.ofSpec (h : Spec.Gov.HardFork) : HardFork := ⟨h.prev.map GovActionId.ofSpec, .uint h.major, .uint h.minor⟩

theorem GovActionId.ofSpec_wf (s : Spec.Gov.GovActionId) (h : s.ok = true) : (GovActionId.ofSpec s).wf = true :=
  Bool.and_eq_true_iff.2 ⟨(Bool.and_eq_true_iff.1 h).1,
    decide_eq_true (Nat.le_of_lt_succ (of_decide_eq_true (Bool.and_eq_true_iff.1 h).2))⟩

/-! ## `voting_procedures = {+ voter => {+ gov_action_id => voting_procedure}}` -/

theorem table_valid {κ ν : Type} (ek : κ → Item) (ev : ν → Item) (isK isV : Item → Bool) (m : List (κ × ν))
    (hne : m ≠ []) (hd : DistinctKeys ek m) (h : ∀ p ∈ m, isK (ek p.1) = true ∧ isV (ev p.2) = true) :
    Spec.Gov.isTable isK isV (encDict ek ev m) = true := by
  unfold encDict Spec.Gov.isTable
  rw [sortPairs_map]
  have hp := sortDict_perm ek m
  simp only [Bool.and_eq_true, Bool.not_eq_true', List.isEmpty_eq_false_iff, ne_eq, List.map_eq_nil_iff, List.all_eq_true,
    Spec.Gov.keysDistinct_iff]
  refine ⟨⟨?_, ?_⟩, ?_⟩
  · intro he
    rw [he] at hp
    exact hne (List.Perm.nil_eq hp).symm
  · intro q hq
    obtain ⟨p, hp', rfl⟩ := List.mem_map.1 hq
    have := h p (hp.subset hp')
    simp [this.1, this.2]
  · rw [List.pairwise_map]
    exact (sortDict_strict ek m hd).imp (fun h => h.2)

/-! ## byte level for the dict classes: sizes that fit CBOR heads -/

/-- fewer than 2^64 entries, urls shorter than 2^64 bytes (everything that fits in memory) -/
def GovVotes.Sized (m : GovVotes) : Prop :=
  m.length < 2 ^ 64 ∧ ∀ p ∈ m, ∀ a, p.2.anchor = some a → a.url.length < 2 ^ 64

def VotingProcedures.Sized (m : VotingProcedures) : Prop := m.length < 2 ^ 64 ∧ ∀ p ∈ m, GovVotes.Sized p.2

theorem votes_item_loadable (m : GovVotes) (hw : GovVotes.wf m = true) (hs : GovVotes.Sized m) :
    Loadable (GovVotes.toItem m) :=
  encDict_loadable _ _ m hs.1 fun p hp =>
    ⟨gaid_item_loadable p.1 (all_and_mem hw p hp).1, vp_item_loadable p.2 (all_and_mem hw p hp).2 (hs.2 p hp)⟩

theorem vps_item_loadable (m : VotingProcedures) (hw : VotingProcedures.wf m = true) (hs : VotingProcedures.Sized m) :
    Loadable (VotingProcedures.toItem m) :=
  encDict_loadable _ _ m hs.1 fun p hp =>
    ⟨voter_item_loadable p.1 (all_and_mem hw p hp).1, votes_item_loadable p.2 (all_and_mem hw p hp).2 (hs.2 p hp)⟩

theorem poolid_item_loadable (p : PoolId) (h : p.value.length < 2 ^ 64) : Loadable p.toItem :=
  ⟨by simpa only [PoolId.toItem, Cbor.WF, List.length_map] using h, rfl⟩

end Pyc.Gov
