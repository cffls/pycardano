import Pyc.Model.Value

/-! Lemmas about the association-list model of Python dicts. -/

namespace Pyc.Dict
variable {ν : Type}

theorem has_cons (a : Bytes) (b : ν) (r : List (Bytes × ν)) (k : Bytes) :
    has ((a, b) :: r) k = (decide (a = k) || has r k) := rfl

theorem getD_cons (a : Bytes) (b : ν) (r : List (Bytes × ν)) (k : Bytes) (d : ν) :
    getD ((a, b) :: r) k d = if a = k then b else getD r k d := rfl

theorem set_cons (a : Bytes) (b : ν) (r : List (Bytes × ν)) (k : Bytes) (v : ν) :
    set ((a, b) :: r) k v = if a = k then (a, v) :: r else (a, b) :: set r k v := rfl

theorem has_iff_mem (m : List (Bytes × ν)) (k : Bytes) : has m k = true ↔ k ∈ keys m := by
  induction m with
  | nil => simp [has, keys]
  | cons p r ih =>
    obtain ⟨a, b⟩ := p
    rw [has_cons, Bool.or_eq_true, decide_eq_true_eq, ih]
    exact ⟨fun h => List.mem_cons.2 (h.imp_left Eq.symm), fun h => (List.mem_cons.1 h).imp_left Eq.symm⟩

theorem has_eq_false_iff_not_mem (m : List (Bytes × ν)) (k : Bytes) : has m k = false ↔ k ∉ keys m := by
  rw [← has_iff_mem, Bool.not_eq_true]

theorem wf_nil : WF ([] : List (Bytes × ν)) := List.nodup_nil

theorem wf_cons_iff (p : Bytes × ν) (r : List (Bytes × ν)) : WF (p :: r) ↔ has r p.1 = false ∧ WF r := by
  simp only [WF, keys, List.map_cons, List.nodup_cons, has_eq_false_iff_not_mem]

theorem has_false_getD (m : List (Bytes × ν)) (k : Bytes) (d : ν) (h : has m k = false) : getD m k d = d := by
  induction m with
  | nil => rfl
  | cons p r ih =>
    obtain ⟨a, b⟩ := p
    rw [has_cons, Bool.or_eq_false_iff, decide_eq_false_iff_not] at h
    rw [getD_cons, if_neg h.1, ih h.2]

theorem getD_set (m : List (Bytes × ν)) (k k' : Bytes) (v d : ν) :
    getD (set m k v) k' d = if k = k' then v else getD m k' d := by
  induction m with
  | nil => rfl
  | cons p r ih =>
    obtain ⟨a, b⟩ := p
    rw [set_cons]
    by_cases hak : a = k
    · subst hak; rw [if_pos rfl, getD_cons, getD_cons]; split <;> rfl
    · rw [if_neg hak, getD_cons, getD_cons, ih]
      by_cases hk : k = k'
      · subst hk; simp only [hak, if_true, if_false]
      · simp only [hk, if_false]

theorem has_set (m : List (Bytes × ν)) (k k' : Bytes) (v : ν) :
    has (set m k v) k' = (decide (k = k') || has m k') := by
  induction m with
  | nil => simp only [set, has, Bool.or_false]
  | cons p r ih =>
    obtain ⟨a, b⟩ := p
    rw [set_cons]
    by_cases hak : a = k
    · subst hak; rw [if_pos rfl, has_cons, has_cons, ← Bool.or_assoc, Bool.or_self]
    · rw [if_neg hak, has_cons, has_cons, ih, Bool.or_left_comm]

theorem keys_set (m : List (Bytes × ν)) (k : Bytes) (v : ν) :
    keys (set m k v) = if has m k then keys m else keys m ++ [k] := by
  induction m with
  | nil => rfl
  | cons p r ih =>
    obtain ⟨a, b⟩ := p
    rw [set_cons, has_cons]
    by_cases hak : a = k
    · rw [if_pos hak, decide_eq_true hak, Bool.true_or, if_pos rfl]; rfl
    · rw [if_neg hak, decide_eq_false hak, Bool.false_or]
      show a :: keys (set r k v) = _
      rw [ih]; split <;> rfl

theorem wf_set (m : List (Bytes × ν)) (k : Bytes) (v : ν) (h : WF m) : WF (set m k v) := by
  unfold WF at *
  rw [keys_set]
  cases hk : has m k with
  | true => exact h
  | false =>
    rw [if_neg Bool.false_ne_true, List.nodup_append]
    refine ⟨h, List.nodup_cons.2 ⟨List.not_mem_nil, List.nodup_nil⟩, ?_⟩
    intro a ha b hb hab
    rw [List.mem_singleton.1 hb] at hab
    exact (has_eq_false_iff_not_mem m k).1 hk (hab ▸ ha)

theorem wf_ofPairs (ps : List (Bytes × ν)) : WF (ofPairs ps) := by
  unfold ofPairs
  suffices ∀ acc : List (Bytes × ν), WF acc → WF (ps.foldl (fun acc p => set acc p.1 p.2) acc) from this [] wf_nil
  induction ps with
  | nil => exact fun acc h => h
  | cons p r ih => exact fun acc h => ih _ (wf_set _ _ _ h)

theorem wf_filter (m : List (Bytes × ν)) (f : Bytes × ν → Bool) (h : WF m) : WF (m.filter f) :=
  List.Nodup.sublist (List.Sublist.map _ List.filter_sublist) h

/-- a present key is stored with the value `getD` finds (its first occurrence: no `WF` needed) -/
theorem getD_mem (m : List (Bytes × ν)) (k : Bytes) (d : ν) (h : has m k = true) : (k, getD m k d) ∈ m := by
  induction m with
  | nil => cases h
  | cons p r ih =>
    obtain ⟨a, b⟩ := p
    rw [getD_cons]
    by_cases hak : a = k
    · rw [if_pos hak, hak]; exact List.mem_cons_self
    · rw [if_neg hak]
      rw [has_cons, decide_eq_false hak, Bool.false_or] at h
      exact List.mem_cons_of_mem _ (ih h)

theorem mem_iff_getD (m : List (Bytes × ν)) (k : Bytes) (v d : ν) (h : WF m) :
    (k, v) ∈ m ↔ has m k = true ∧ getD m k d = v := by
  induction m with
  | nil => simp [has]
  | cons p r ih =>
    obtain ⟨a, b⟩ := p
    obtain ⟨hh, hr⟩ := (wf_cons_iff _ _).1 h
    rw [List.mem_cons, ih hr, has_cons, getD_cons, Prod.mk.injEq]
    by_cases hak : a = k
    · subst hak
      simp only [hh, decide_true, Bool.true_or, if_true, true_and, Bool.false_eq_true, false_and, or_false, eq_comm]
    · simp only [hak, decide_false, Bool.false_or, if_false, false_and, false_or, Ne.symm hak]

theorem has_iff_exists_mem (m : List (Bytes × ν)) (k : Bytes) : has m k = true ↔ ∃ v, (k, v) ∈ m := by
  rw [has_iff_mem]
  simp only [keys, List.mem_map, Prod.exists, exists_and_right, exists_eq_right]

theorem has_filter (m : List (Bytes × ν)) (f : Bytes × ν → Bool) (k : Bytes) (d : ν) (h : WF m) :
    has (m.filter f) k = (has m k && f (k, getD m k d)) := by
  rw [Bool.eq_iff_iff, has_iff_exists_mem, Bool.and_eq_true]
  simp only [List.mem_filter, mem_iff_getD m k _ d h]
  exact ⟨fun ⟨v, ⟨hk, hv⟩, hf⟩ => ⟨hk, hv ▸ hf⟩, fun ⟨hk, hf⟩ => ⟨_, ⟨hk, rfl⟩, hf⟩⟩

theorem getD_filter (m : List (Bytes × ν)) (f : Bytes × ν → Bool) (k : Bytes) (d : ν) (h : WF m) :
    getD (m.filter f) k d = if has m k && f (k, getD m k d) then getD m k d else d := by
  rw [← has_filter m f k d h]
  cases hh : has (m.filter f) k with
  | false => rw [if_neg Bool.false_ne_true, has_false_getD _ _ _ hh]
  | true =>
    have hm := getD_mem _ k d hh
    rw [if_pos rfl, ((mem_iff_getD m k _ d h).1 (List.mem_filter.1 hm).1).2]

theorem getD_map (m : List (Bytes × ν)) (g : ν → ν) (k : Bytes) (d : ν) :
    getD (m.map (fun p => (p.1, g p.2))) k (g d) = g (getD m k d) := by
  induction m with
  | nil => rfl
  | cons p r ih => rw [List.map_cons, getD_cons, ih, getD_cons, apply_ite g]

theorem keys_map (m : List (Bytes × ν)) (g : ν → ν) : keys (m.map (fun p => (p.1, g p.2))) = keys m := by
  simp only [keys, List.map_map, Function.comp_def]

theorem has_map (m : List (Bytes × ν)) (g : ν → ν) (k : Bytes) :
    has (m.map (fun p => (p.1, g p.2))) k = has m k := by
  rw [Bool.eq_iff_iff, has_iff_mem, has_iff_mem, keys_map]

theorem wf_map (m : List (Bytes × ν)) (g : ν → ν) (h : WF m) : WF (m.map (fun p => (p.1, g p.2))) := by
  unfold WF at *; rw [keys_map]; exact h

theorem wf_merge (op : ν → ν → ν) (d : ν) (a b : List (Bytes × ν)) (h : WF a) : WF (merge op d a b) := by
  unfold merge
  induction b generalizing a with
  | nil => exact h
  | cons p r ih => exact ih _ (wf_set _ _ _ h)

theorem has_merge (op : ν → ν → ν) (d : ν) (a b : List (Bytes × ν)) (k : Bytes) :
    has (merge op d a b) k = (has a k || has b k) := by
  unfold merge
  induction b generalizing a with
  | nil => simp only [List.foldl_nil, has, Bool.or_false]
  | cons p r ih =>
    obtain ⟨n, q⟩ := p
    rw [List.foldl_cons, ih, has_set, has_cons, Bool.or_assoc, Bool.or_left_comm (has a k)]

theorem getD_merge (op : ν → ν → ν) (d : ν) (a b : List (Bytes × ν)) (k : Bytes) (hb : WF b) :
    getD (merge op d a b) k d = if has b k then op (getD a k d) (getD b k d) else getD a k d := by
  unfold merge
  induction b generalizing a with
  | nil => rfl
  | cons p r ih =>
    obtain ⟨n, q⟩ := p
    obtain ⟨hh, hr⟩ := (wf_cons_iff _ _).1 hb
    rw [List.foldl_cons, ih _ hr, getD_set, has_cons, getD_cons]
    by_cases h : n = k
    · subst h
      simp only [hh, decide_true, Bool.true_or, if_true, Bool.false_eq_true, if_false]
    · simp only [h, decide_false, Bool.false_or, if_false]

/-- a test over the keys of both dicts decides it at every key, provided it holds of the default (the value every
other key has on both sides) -/
theorem all_keys_iff (R : ν → ν → Bool) (d : ν) (hd : R d d = true) (a b : List (Bytes × ν)) :
    (keys a ++ keys b).all (fun k => R (getD a k d) (getD b k d)) = true ↔ ∀ k, R (getD a k d) (getD b k d) = true := by
  rw [List.all_eq_true]
  refine ⟨fun h k => ?_, fun h k _ => h k⟩
  by_cases hk : k ∈ keys a ++ keys b
  · exact h k hk
  · rw [List.mem_append, not_or, ← has_eq_false_iff_not_mem, ← has_eq_false_iff_not_mem] at hk
    rw [has_false_getD _ _ _ hk.1, has_false_getD _ _ _ hk.2]; exact hd

theorem all_enumeration (f : Bytes → Bool) (a b : List (Bytes × ν)) (ks : List Bytes)
    (h : ∀ k, k ∈ ks ↔ k ∈ keys a ∨ k ∈ keys b) : ks.all f = (keys a ++ keys b).all f := by
  rw [Bool.eq_iff_iff, List.all_eq_true, List.all_eq_true]
  simp only [List.mem_append, h]

/-! ## permutations, folds of `set`, entries -/

theorem has_of_wf_append (a b : List (Bytes × ν)) (k : Bytes) (v : ν) (h : WF (a ++ (k, v) :: b)) :
    has a k = false := by
  rw [has_eq_false_iff_not_mem]
  intro hm
  unfold WF at h
  unfold keys at h hm
  rw [List.map_append, List.nodup_append] at h
  exact h.2.2 _ hm _ (by simp) rfl

/-- the keys of `d[k] = v` done for a list of pairs in turn -/
theorem has_foldl_set (ps m : List (Bytes × ν)) (k : Bytes) :
    has (ps.foldl (fun acc p => set acc p.1 p.2) m) k = (has m k || ps.any fun p => decide (p.1 = k)) := by
  induction ps generalizing m with
  | nil => rw [List.foldl_nil, List.any_nil, Bool.or_false]
  | cons p r ih =>
    rw [List.foldl_cons, ih, has_set, List.any_cons, Bool.or_comm (decide _), Bool.or_assoc]

theorem wf_of_perm {a b : List (Bytes × ν)} (hp : a.Perm b) (h : WF b) : WF a := by
  unfold WF keys at *
  exact (hp.map _).nodup_iff.2 h

theorem has_perm {a b : List (Bytes × ν)} (hp : a.Perm b) (k : Bytes) : has a k = has b k := by
  rw [Bool.eq_iff_iff, has_iff_mem, has_iff_mem]
  exact (hp.map _).mem_iff

theorem getD_perm (a b : List (Bytes × ν)) (hp : a.Perm b) (ha : WF a) (k : Bytes) (d : ν) :
    getD a k d = getD b k d := by
  cases hh : has a k with
  | true =>
    exact ((mem_iff_getD b k _ d (wf_of_perm hp.symm ha)).1 (hp.mem_iff.1 (getD_mem a k d hh))).2.symm
  | false => rw [has_false_getD _ _ _ hh, has_false_getD _ _ _ (has_perm hp k ▸ hh)]

theorem set_of_not_has (acc : List (Bytes × ν)) (k : Bytes) (v : ν) (h : has acc k = false) :
    set acc k v = acc ++ [(k, v)] := by
  induction acc with
  | nil => simp [set]
  | cons p r ih =>
    obtain ⟨k', v'⟩ := p
    simp only [has, Bool.or_eq_false_iff, decide_eq_false_iff_not] at h
    simp [set, h.1, ih h.2]

theorem nodup_of_wf (m : List (Bytes × ν)) (h : WF m) : m.Nodup :=
  List.Pairwise.of_map (·.1) (fun _ _ hne e => hne (congrArg _ e)) h

theorem has_of_mem {m : List (Bytes × ν)} {a : Bytes × ν} (h : a ∈ m) : has m a.1 = true :=
  (has_iff_mem m a.1).2 (List.mem_map.2 ⟨a, h, rfl⟩)

theorem getD_eq_or_mem (m : List (Bytes × ν)) (k : Bytes) (d : ν) : getD m k d = d ∨ (k, getD m k d) ∈ m := by
  induction m with
  | nil => exact Or.inl rfl
  | cons y r ih =>
    obtain ⟨k', v'⟩ := y
    rw [getD_cons]
    split
    · rename_i hk
      exact Or.inr (hk ▸ List.mem_cons_self)
    · exact ih.imp id (List.mem_cons_of_mem _)

theorem mem_set (m : List (Bytes × ν)) (k : Bytes) (v : ν) (x : Bytes × ν) (h : x ∈ set m k v) :
    x = (k, v) ∨ x ∈ m := by
  induction m with
  | nil => exact Or.inl (List.mem_singleton.1 h)
  | cons y r ih =>
    obtain ⟨k', v'⟩ := y
    rw [set_cons] at h
    split at h
    · rename_i hk
      rcases List.mem_cons.1 h with h | h
      · exact Or.inl (hk ▸ h)
      · exact Or.inr (List.mem_cons_of_mem _ h)
    · rcases List.mem_cons.1 h with h | h
      · exact Or.inr (h ▸ List.mem_cons_self)
      · exact (ih h).imp id (List.mem_cons_of_mem _)

theorem set_ne_nil (m : List (Bytes × ν)) (k : Bytes) (v : ν) : set m k v ≠ [] := by
  cases m with
  | nil => exact List.cons_ne_nil _ _
  | cons y r => rw [set_cons]; split <;> exact List.cons_ne_nil _ _

end Pyc.Dict
