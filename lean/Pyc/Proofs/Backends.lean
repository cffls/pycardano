import Pyc.Proofs.Value
import Pyc.Proofs.Basic
import Pyc.Model.Backends

/-! Lemmas for C20: hex / decimal text round trips, `str.split`, rebuilding a bundle from its entries, the asset
loops of the five adapters run on rendered entries, and each adapter run on any response object that holds the
members it reads (`parse_X_members`). -/

namespace Pyc.Backends
open Pyc.Dict

theorem ofHexList_hexChars_append (b : Bytes) (r : List Char) (t : Bytes) (h : ofHexList r = some t) :
    ofHexList (hexChars b ++ r) = some (b ++ t) := ofHexList_hex_append b r t h

theorem ofHexList_hexChars (b : Bytes) : ofHexList (hexChars b) = some b := by
  have := ofHexList_hexChars_append b [] [] rfl
  simpa using this

theorem hexDigit_ne : ∀ k, k < 16 → hexDigit k ≠ '.' ∧ hexDigit k ≠ '#' := by decide

theorem hexChars_not_sep (b : Bytes) : ∀ c ∈ hexChars b, c ≠ '.' ∧ c ≠ '#' := by
  intro c hc
  simp only [hexChars, List.mem_flatMap] at hc
  obtain ⟨x, _, hx⟩ := hc
  have hlt : x.toNat < 256 := x.toNat_lt
  simp at hx
  rcases hx with rfl | rfl
  · exact hexDigit_ne _ (by omega)
  · exact hexDigit_ne _ (by omega)

theorem hexChars_length (b : Bytes) : (hexChars b).length = 2 * b.length := by
  induction b with
  | nil => simp [hexChars]
  | cons x xs ih => simp only [hexChars, List.flatMap_cons] at ih ⊢; simp [ih]; omega

theorem hexChars_append (a b : Bytes) : hexChars (a ++ b) = hexChars a ++ hexChars b := by
  simp [hexChars, List.flatMap_append]

theorem digitVal_digitChar : ∀ k, k < 10 → digitVal (digitChar k) = some k := by decide

theorem parseNatAux_append (l1 l2 : List Char) (acc : Nat) :
    parseNatAux (l1 ++ l2) acc = (parseNatAux l1 acc).bind (parseNatAux l2) := by
  induction l1 generalizing acc with
  | nil => simp [parseNatAux]
  | cons c r ih =>
    simp only [List.cons_append, parseNatAux]
    cases digitVal c with
    | none => simp
    | some d => simp [ih]

theorem parseNatAux_natDigits (n : Nat) : parseNatAux (natDigits n) 0 = some n := by
  induction n using Nat.strongRecOn with
  | _ n ih =>
    rw [natDigits]
    split
    · rename_i h
      simp [parseNatAux, digitVal_digitChar n h]
    · rename_i h
      rw [parseNatAux_append, ih (n / 10) (by omega)]
      simp [parseNatAux, digitVal_digitChar (n % 10) (by omega)]
      omega

theorem parseNat_natDigits (n : Nat) : parseNat (natDigits n) = some n := by
  cases hd : natDigits n with
  | nil => rw [natDigits] at hd; split at hd <;> simp at hd
  | cons c r => simp only [parseNat]; rw [← hd]; exact parseNatAux_natDigits n

theorem natDigits_digits (n : Nat) : ∀ c ∈ natDigits n, (digitVal c).isSome := by
  induction n using Nat.strongRecOn with
  | _ n ih =>
    rw [natDigits]
    split
    · rename_i h
      intro c hc; simp at hc; subst hc; simp [digitVal_digitChar n h]
    · rename_i h
      intro c hc
      simp at hc
      rcases hc with hc | hc
      · exact ih (n / 10) (by omega) c hc
      · subst hc; simp [digitVal_digitChar (n % 10) (by omega)]

theorem parseInt_digits (cs : List Char) (h : ∀ c ∈ cs, (digitVal c).isSome) :
    parseInt cs = (parseNat cs).map Int.ofNat := by
  cases cs with
  | nil => simp [parseInt]
  | cons c r =>
    have hc := h c (by simp)
    by_cases h1 : c = '-'
    · subst h1; exact absurd hc (by decide)
    · by_cases h2 : c = '+'
      · subst h2; exact absurd hc (by decide)
      · unfold parseInt
        split
        · rename_i heq; simp at heq; exact absurd heq.1 h1
        · rename_i heq; simp at heq; exact absurd heq.1 h2
        · rfl

theorem parseInt_natDigits (n : Nat) : parseInt (natDigits n) = some (n : Int) := by
  rw [parseInt_digits _ (natDigits_digits n), parseNat_natDigits]; rfl

theorem parseInt_intStr (i : Int) : parseInt (intStr i).toList = some i := by
  cases i with
  | ofNat n => simp [intStr, parseInt_natDigits]
  | negSucc n =>
    simp only [intStr, String.toList_ofList, parseInt, parseNat_natDigits]
    simp [Int.negSucc_eq]

theorem pyInt_intStr (i : Int) : pyInt (.str (intStr i)) = .ok i := by
  simp [pyInt, parseInt_intStr]
/-! ### `str.split` -/

theorem splitOn_ne_nil (sep : Char) (l : List Char) : splitOn sep l ≠ [] := by
  induction l with
  | nil => simp [splitOn]
  | cons c r ih =>
    simp only [splitOn]
    split
    · simp
    · split <;> simp

theorem splitOn_none (sep : Char) (l : List Char) (h : ∀ c ∈ l, c ≠ sep) : splitOn sep l = [l] := by
  induction l with
  | nil => simp [splitOn]
  | cons c r ih =>
    have hc : c ≠ sep := h c (by simp)
    have ih' := ih (fun x hx => h x (by simp [hx]))
    simp [splitOn, hc, ih']

theorem splitOn_append (sep : Char) (l1 l2 : List Char) (h : ∀ c ∈ l1, c ≠ sep) :
    splitOn sep (l1 ++ sep :: l2) = l1 :: splitOn sep l2 := by
  induction l1 with
  | nil => simp [splitOn]
  | cons c r ih =>
    have hc : c ≠ sep := h c (by simp)
    have ih' := ih (fun x hx => h x (by simp [hx]))
    simp [splitOn, hc, ih']
/-! ### rebuilding a bundle from its entries -/

section
variable {ν : Type}

theorem set_last (m : List (Bytes × ν)) (k : Bytes) (v v' : ν) (h : has m k = false) :
    set (m ++ [(k, v)]) k v' = m ++ [(k, v')] := by
  induction m with
  | nil => simp [Dict.set]
  | cons p r ih => grind [Dict.set, has]

theorem getD_last (m : List (Bytes × ν)) (k : Bytes) (v d : ν) (h : has m k = false) :
    Dict.getD (m ++ [(k, v)]) k d = v := by
  induction m with
  | nil => simp [Dict.getD]
  | cons p r ih => grind [Dict.getD, has]

end

theorem has_append {ν : Type} (a b : List (Bytes × ν)) (k : Bytes) : has (a ++ b) k = (has a k || has b k) := by
  induction a with
  | nil => simp [has]
  | cons p r ih => simp [has, ih, Bool.or_assoc]

/-- inserting further names under the policy that was inserted last -/
theorem putAll_inner (acc : MultiAsset) (p : Bytes) (cur rest : Asset)
    (hp : has acc p = false) (hn : Dict.WF (cur ++ rest)) :
    putAll (rest.map fun nq => (p, nq.1, nq.2)) (acc ++ [(p, cur)]) = acc ++ [(p, cur ++ rest)] := by
  induction rest generalizing cur with
  | nil => simp [putAll]
  | cons nq r ih =>
    obtain ⟨n, q⟩ := nq
    have step : put (acc ++ [(p, cur)]) p n q = acc ++ [(p, cur ++ [(n, q)])] := by
      unfold put
      rw [getD_last _ _ _ _ hp, set_of_not_has cur n q (has_of_wf_append cur r n q hn), set_last _ _ _ _ hp]
    simp only [putAll, List.map_cons, List.foldl_cons] at ih ⊢
    rw [step, ih (cur ++ [(n, q)]) (by simpa using hn), List.append_assoc]
    rfl

theorem putAll_policy (acc : MultiAsset) (p : Bytes) (a : Asset)
    (hp : has acc p = false) (hw : Dict.WF a) (hne : a ≠ []) :
    putAll (a.map fun nq => (p, nq.1, nq.2)) acc = acc ++ [(p, a)] := by
  cases a with
  | nil => exact absurd rfl hne
  | cons nq r =>
    obtain ⟨n, q⟩ := nq
    have step : put acc p n q = acc ++ [(p, [(n, q)])] := by
      unfold put
      rw [has_false_getD _ _ _ hp]
      simp [Dict.set, set_of_not_has acc p _ hp]
    have := putAll_inner acc p [(n, q)] r hp (by simpa using hw)
    simp only [putAll, List.map_cons, List.foldl_cons] at this ⊢
    rw [step]
    simpa using this

theorem putAll_append (e1 e2 : List (Bytes × Bytes × Int)) (acc : MultiAsset) :
    putAll (e1 ++ e2) acc = putAll e2 (putAll e1 acc) := by simp [putAll]

theorem putAll_flatten_acc (m acc : MultiAsset) (hk : Dict.WF (acc ++ m))
    (hm : ∀ pa ∈ m, Dict.WF pa.2 ∧ pa.2 ≠ []) : putAll (flatten m) acc = acc ++ m := by
  induction m generalizing acc with
  | nil => simp [flatten, putAll]
  | cons pa r ih =>
    obtain ⟨p, a⟩ := pa
    have h1 := hm (p, a) (by simp)
    simp only [flatten, List.flatMap_cons] at ih ⊢
    rw [putAll_append, putAll_policy acc p a (has_of_wf_append acc r p a hk) h1.1 h1.2,
      ih (acc ++ [(p, a)]) (by simpa using hk) (fun pa h => hm pa (by simp [h])), List.append_assoc]
    rfl

theorem putAll_flatten (m : MultiAsset) (hw : MultiAsset.WF m) (hne : ∀ pa ∈ m, pa.2 ≠ []) :
    putAll (flatten m) [] = m := by
  have := putAll_flatten_acc m [] (by simpa using hw.1) (fun pa h => ⟨hw.2 pa h, hne pa h⟩)
  simpa using this
section
variable {α β : Type}
@[simp] theorem ok_bind (a : α) (f : α → Res β) : (Except.ok a >>= f) = f a := rfl
@[simp] theorem err_bind (e : Err) (f : α → Res β) : ((Except.error e : Res α) >>= f) = Except.error e := rfl
@[simp] theorem map_ok (f : α → β) (a : α) : f <$> (Except.ok a : Res α) = Except.ok (f a) := rfl
@[simp] theorem map_err (f : α → β) (e : Err) : f <$> (Except.error e : Res α) = Except.error e := rfl
@[simp] theorem pure_eq (a : α) : (pure a : Res α) = Except.ok a := rfl
@[simp] theorem throw_eq (e : Err) : (throw e : Res α) = Except.error e := rfl
end

theorem fromHex_hexStr (b : Bytes) : fromHex (hexStr b) = .ok b := by
  simp [fromHex, hexStr, ofHexList_hexChars]

theorem constrained_hexStr (lo hi : Nat) (b : Bytes) (h : lo ≤ b.length ∧ b.length ≤ hi) :
    constrained lo hi (hexStr b) = .ok b := by
  simp [constrained, fromHex_hexStr, h]

theorem hexStr_length (b : Bytes) : (hexStr b).length = 2 * b.length := by
  simp [hexStr, hexChars_length]

theorem hexStr_ne_of_length (b : Bytes) (s : String) (h : s.length ≠ 2 * b.length) : hexStr b ≠ s := by
  intro he; apply h; rw [← he, hexStr_length]

theorem bfItem_entry (e : Bytes × Bytes × Int) (st : Int × MultiAsset)
    (hp : e.1.length = 28) (hn : e.2.1.length ≤ 32) :
    bfItem (bfEntry e) st = .ok (st.1, put st.2 e.1 e.2.1 e.2.2) := by
  obtain ⟨p, n, q⟩ := e
  simp only at hp hn
  have hu : bfUnit p n = hexStr (p ++ n) := by simp [bfUnit, hexStr, hexChars_append]
  have hne : hexStr (p ++ n) ≠ "lovelace" :=
    hexStr_ne_of_length _ _ (by have : ("lovelace" : String).length = 8 := by decide
                                simp; omega)
  simp [bfItem, bfEntry, J.field, J.lookup, J.asStr, hu, hne, fromHex_hexStr, pyInt_intStr, hp]
  omega

/-- sizes every asset identifier of the ledger has -/
def EntryOK (e : Bytes × Bytes × Int) : Prop := e.1.length = 28 ∧ e.2.1.length ≤ 32

theorem bfAmount_entries (es : List (Bytes × Bytes × Int)) (st : Int × MultiAsset) (h : ∀ e ∈ es, EntryOK e) :
    bfAmount (es.map bfEntry) st = .ok (st.1, putAll es st.2) := by
  induction es generalizing st with
  | nil => simp [bfAmount, putAll]
  | cons e r ih =>
    have he := h e (by simp)
    simp only [List.map_cons, bfAmount, bfItem_entry e st he.1 he.2, ok_bind]
    rw [ih _ (fun x hx => h x (by simp [hx]))]
    simp [putAll]

/-! ### `policy.name` identifiers -/

theorem extractAssetInfo_dotKey (p n : Bytes) (hp : p.length = 28) (hn : n.length ≤ 32) :
    extractAssetInfo (dotKey p n) = .ok (p, n) := by
  have hps : scriptHashOf (String.ofList (hexChars p)) = .ok p :=
    constrained_hexStr 28 28 p (by omega)
  by_cases h : n = []
  · subst h
    have : splitOn '.' (hexChars p) = [hexChars p] := splitOn_none _ _ (fun c hc => (hexChars_not_sep p c hc).1)
    simp [extractAssetInfo, dotKey, hexStr, this, hps, assetNameOf, constrained, fromHex, ofHexList]
  · have hs : splitOn '.' (hexChars p ++ '.' :: hexChars n) = [hexChars p, hexChars n] := by
      rw [splitOn_append _ _ _ (fun c hc => (hexChars_not_sep p c hc).1),
        splitOn_none _ _ (fun c hc => (hexChars_not_sep n c hc).1)]
    have hns : assetNameOf (String.ofList (hexChars n)) = .ok n := constrained_hexStr 0 32 n (by omega)
    simp [extractAssetInfo, dotKey, h, hs, hps, hns]

theorem dotAssets_entries (es : List (Bytes × Bytes × Int)) (ma : MultiAsset) (h : ∀ e ∈ es, EntryOK e) :
    dotAssets (es.map dotEntry) ma = .ok (putAll es ma) := by
  induction es generalizing ma with
  | nil => simp [dotAssets, putAll]
  | cons e r ih =>
    have he := h e (by simp)
    simp only [List.map_cons, dotEntry, dotAssets, extractAssetInfo_dotKey e.1 e.2.1 he.1 he.2, ok_bind, J.asInt]
    rw [ih _ (fun x hx => h x (by simp [hx]))]
    simp [putAll]

theorem flatten_entryOK (m : MultiAsset)
    (h : ∀ pa ∈ m, pa.1.length = 28 ∧ ∀ nq ∈ pa.2, nq.1.length ≤ 32) : ∀ e ∈ flatten m, EntryOK e := by
  intro e he
  simp only [flatten, List.mem_flatMap, List.mem_map] at he
  obtain ⟨pa, hpa, nq, hnq, rfl⟩ := he
  exact ⟨(h pa hpa).1, (h pa hpa).2 nq hnq⟩

/-! ### nested maps -/

theorem cliInner_names (p : Bytes) (a : Asset) (ma : MultiAsset) (hn : ∀ nq ∈ a, nq.1.length ≤ 32) :
    cliInner p (a.map nestedName) ma = .ok (putAll (a.map fun nq => (p, nq.1, nq.2)) ma) := by
  induction a generalizing ma with
  | nil => simp [cliInner, putAll]
  | cons nq r ih =>
    have h2 : assetNameOf (hexStr nq.1) = .ok nq.1 := constrained_hexStr 0 32 nq.1 (by have := hn nq (by simp); omega)
    simp only [List.map_cons, nestedName, cliInner, h2, ok_bind, J.asInt]
    rw [ih _ (fun x hx => hn x (by simp [hx]))]
    simp [putAll]

/-- the Ogmios loop parses the policy again at every name -/
theorem v6Inner_names (p : Bytes) (a : Asset) (ma : MultiAsset) (hp : p.length = 28)
    (hn : ∀ nq ∈ a, nq.1.length ≤ 32) :
    v6Inner (hexStr p) (a.map nestedName) ma = .ok (putAll (a.map fun nq => (p, nq.1, nq.2)) ma) := by
  have e : ∀ l ma, v6Inner (hexStr p) l ma = cliInner p l ma := by
    intro l
    induction l with
    | nil => intro ma; rfl
    | cons kq r ih => intro ma; simp only [v6Inner, cliInner, constrained_hexStr 28 28 p (by omega), scriptHashOf, ok_bind, ih]
  rw [e, cliInner_names p a ma hn]

def SizesOK (m : MultiAsset) : Prop := ∀ pa ∈ m, pa.1.length = 28 ∧ ∀ nq ∈ pa.2, nq.1.length ≤ 32

/-- a policy id in hex (56 characters) is neither `"ada"` nor `"lovelace"` -/
theorem hexStr_ne_short (p : Bytes) (hp : p.length = 28) (s : String) (hs : s.length < 56 := by decide) : hexStr p ≠ s :=
  hexStr_ne_of_length p s (by omega)

theorem v6Outer_policies (m : MultiAsset) (ma : MultiAsset) (h : SizesOK m) :
    v6Outer (m.map nestedPolicy) ma = .ok (putAll (flatten m) ma) := by
  induction m generalizing ma with
  | nil => simp [v6Outer, putAll, flatten]
  | cons pa r ih =>
    have h1 := h pa (by simp)
    simp only [List.map_cons, nestedPolicy, v6Outer, hexStr_ne_short pa.1 h1.1 "ada", if_false, J.asObj, ok_bind,
      v6Inner_names pa.1 pa.2 ma h1.1 h1.2]
    rw [ih _ (fun x hx => h x (by simp [hx]))]
    simp [flatten, putAll_append]

theorem onlyAda_render (c : J) (m : MultiAsset) (h : SizesOK m) :
    onlyAda (("ada", c) :: m.map nestedPolicy) = m.isEmpty := by
  cases m with
  | nil => simp [onlyAda]
  | cons pa r =>
    have h1 := h pa (by simp)
    simp [onlyAda, nestedPolicy, hexStr_ne_short pa.1 h1.1 "ada"]

theorem cliOuter_policies (m : MultiAsset) (c : J) (st : J × MultiAsset) (h : SizesOK m) :
    cliOuter (m.map nestedPolicy ++ [("lovelace", c)]) st = .ok (c, putAll (flatten m) st.2) := by
  induction m generalizing st with
  | nil => simp [cliOuter, putAll, flatten]
  | cons pa r ih =>
    have h1 := h pa (by simp)
    have hs : scriptHashOf (hexStr pa.1) = .ok pa.1 := constrained_hexStr 28 28 pa.1 (by omega)
    simp only [List.map_cons, List.cons_append, nestedPolicy, cliOuter, hexStr_ne_short pa.1 h1.1 "lovelace", if_false,
      J.asObj, ok_bind, hs, cliInner_names pa.1 pa.2 st.2 h1.2]
    rw [ih _ (fun x hx => h x (by simp [hx]))]
    simp [flatten, putAll_append]

/-! ### reading members of a JSON object -/

namespace J
variable {kvs : List (String × J)} {k : String} {v : J}

theorem field_of_lookup (h : lookup kvs k = some v) : (obj kvs).field k = .ok v := by simp only [field, h]

theorem getD_of_lookup (h : lookup kvs k = some v) (d : J) : (obj kvs).getD k d = .ok v := by
  simp only [getD, h, Option.getD_some]

theorem getN_of_lookup (h : lookup kvs k = some v) : (obj kvs).getN k = .ok v := getD_of_lookup h null

theorem hasKey_of_lookup (h : lookup kvs k = some v) : (obj kvs).hasKey k = .ok true := by
  simp only [hasKey, h, Option.isSome_some]

end J

theorem lookup_append (a b : List (String × J)) (k : String) :
    J.lookup (a ++ b) k = (J.lookup a k).orElse fun _ => J.lookup b k := by
  induction a with
  | nil => simp [J.lookup]
  | cons p r ih =>
    simp only [List.cons_append, J.lookup]
    split <;> simp [ih]

theorem lookup_optMember (k k' : String) (o : Option J) :
    J.lookup (optMember k o) k' = if k = k' then o else none := by
  cases o <;> simp [optMember, J.lookup]

/-! ### the domain of the round trips -/

/-- an inline datum, if any, is a non-empty byte string (every service but cardano-cli reports CBOR bytes) -/
def bytesPayload (d : Option Payload) : Bool :=
  match d with
  | some (.json _) => false
  | some (.bytes b) => !b.isEmpty
  | none => true

/-- a native-script JSON whose `type` is one of the six tags `NativeScript.from_dict` knows -/
def nativeOK (j : J) : Bool :=
  match j.field "type" with
  | .ok (.str t) => nativeTags.contains t
  | _ => false

theorem nativeJson_ok (j : J) (h : nativeOK j = true) : nativeJson j = .ok (.json j) := by
  unfold nativeOK at h
  unfold nativeJson
  cases hf : j.field "type" with
  | error e => simp [hf] at h
  | ok v =>
    cases v <;> simp [hf] at h
    simp [J.asStr, h]

/-- reference script absent, or of a language in `langs` with the matching payload kind
(`0` = native, JSON form; `1..3` = Plutus, bytes) -/
def scriptOK (langs : List Nat) (s : Option ScriptM) : Bool :=
  match s with
  | none => true
  | some s => langs.contains s.lang && (match s.body with
      | .bytes _ => s.lang != 0
      | .json j => s.lang == 0 && nativeOK j)

theorem scriptOK_bytes {langs : List Nat} {lang : Nat} {b : Bytes} :
    scriptOK langs (some ⟨lang, .bytes b⟩) = true ↔ lang ∈ langs ∧ lang ≠ 0 := by simp [scriptOK]

theorem scriptOK_json {langs : List Nat} {lang : Nat} {j : J} :
    scriptOK langs (some ⟨lang, .json j⟩) = true ↔ lang ∈ langs ∧ lang = 0 ∧ nativeOK j = true := by
  simp [scriptOK]

theorem scriptOK_plutus {langs : List Nat} {s : ScriptM} (h : scriptOK langs (some s) = true) (h0 : 0 ∉ langs) :
    s.lang ∈ langs ∧ ∃ b, s = ⟨s.lang, .bytes b⟩ := by
  obtain ⟨lang, body⟩ := s
  cases body with
  | bytes b => exact ⟨(scriptOK_bytes.1 h).1, b, rfl⟩
  | json j =>
    obtain ⟨hm, rfl, _⟩ := scriptOK_json.1 h
    exact absurd hm h0

/-- reference script absent, or of a language in `langs` and reported as bytes: Ogmios v6 reports every script —
Plutus (`1..3`) and native (`0`) — by its serialised form `cbor` -/
def scriptBytesOK (langs : List Nat) (s : Option ScriptM) : Bool :=
  match s with
  | none => true
  | some s => langs.contains s.lang && (match s.body with
      | .bytes _ => true
      | .json _ => false)

/-- an inline datum, if any, is in JSON form (cardano-cli) -/
def jsonPayload (d : Option Payload) : Bool :=
  match d with
  | some (.bytes _) => false
  | _ => true

/-- a UTxO of the ledger: 32-byte transaction id, 28-byte policies, names of at most 32 bytes, unique
(policy, name) pairs, no empty policy, positive quantities, non-negative ADA, at most one of datum hash /
inline datum, 32-byte datum hash -/
def WellFormed (u : UTxOModel) : Prop :=
  u.txId.length = 32 ∧ 0 ≤ u.index ∧ 0 ≤ u.coin ∧ MultiAsset.WF u.ma ∧
  (∀ pa ∈ u.ma, pa.1.length = 28 ∧ pa.2 ≠ [] ∧ ∀ nq ∈ pa.2, nq.1.length ≤ 32 ∧ 0 < nq.2) ∧
  (∀ h ∈ u.datumHash, h.length = 32) ∧ (u.datumHash.isNone ∨ u.datum.isNone)

instance (u : UTxOModel) : Decidable (WellFormed u) := by unfold WellFormed; infer_instance

theorem WellFormed.sizes {u : UTxOModel} (h : WellFormed u) : SizesOK u.ma :=
  fun pa hpa => ⟨(h.2.2.2.2.1 pa hpa).1, fun nq hnq => ((h.2.2.2.2.1 pa hpa).2.2 nq hnq).1⟩

theorem WellFormed.nonempty {u : UTxOModel} (h : WellFormed u) : ∀ pa ∈ u.ma, pa.2 ≠ [] :=
  fun pa hpa => (h.2.2.2.2.1 pa hpa).2.1

theorem WellFormed.hashLen {u : UTxOModel} (h : WellFormed u) : ∀ x ∈ u.datumHash, x.length = 32 := h.2.2.2.2.2.1

theorem WellFormed.rebuild {u : UTxOModel} (h : WellFormed u) : putAll (flatten u.ma) [] = u.ma :=
  putAll_flatten u.ma h.2.2.2.1 h.nonempty

theorem WellFormed.datum_cases {u : UTxOModel} (h : WellFormed u) (hb : bytesPayload u.datum = true) :
    (u.datumHash = none ∧ u.datum = none) ∨ (∃ x, x.length = 32 ∧ u.datumHash = some x ∧ u.datum = none) ∨
    (∃ b, b.length ≠ 0 ∧ u.datumHash = none ∧ u.datum = some (.bytes b)) := by
  have hl := h.hashLen
  have hx := h.2.2.2.2.2.2
  cases hd : u.datum with
  | none =>
    cases hh : u.datumHash with
    | none => exact .inl ⟨rfl, rfl⟩
    | some x => exact .inr (.inl ⟨x, hl x (by simp [hh]), rfl, rfl⟩)
  | some p =>
    have hh : u.datumHash = none := by simpa [hd] using hx
    cases p with
    | json j => simp [hd, bytesPayload] at hb
    | bytes b => exact .inr (.inr ⟨b, by simpa [hd, bytesPayload] using hb, hh, rfl⟩)

/-! ### components the adapters share -/

theorem hexStr_ne_empty (x : Bytes) (h : x.length ≠ 0) : hexStr x ≠ "" :=
  hexStr_ne_of_length x _ (by simp; omega)

theorem constrainedJ_hexStr (n : Nat) (x : Bytes) (h : x.length = n) : constrainedJ n n (.str (hexStr x)) = .ok x := by
  simp [constrainedJ, J.asStr, constrained_hexStr n n x (by omega)]

theorem txIn_render (t : Bytes) (i : Int) (h : t.length = 32) : txIn (.str (hexStr t)) (.num i) = .ok (t, i) := by
  simp [txIn, constrainedJ_hexStr 32 t h, J.asInt]

theorem hashIfTruthy_optStr (o : Option Bytes) (h : ∀ x ∈ o, x.length = 32) : hashIfTruthy (optStr o) = .ok o := by
  cases o with
  | none => simp [hashIfTruthy, optStr, J.truthy]
  | some x =>
    have hx : x.length = 32 := h x rfl
    simp [hashIfTruthy, optStr, J.truthy, hexStr_ne_empty x (by omega), constrainedJ_hexStr 32 x hx]

theorem dotValue_coins (u : UTxOModel) : (dotValue u).field "coins" = .ok (.num u.coin) :=
  J.field_of_lookup (by simp [J.lookup])

theorem dotParseValue_render (u : UTxOModel) (h : WellFormed u) : dotParseValue (dotValue u) = .ok (u.coin, u.ma) := by
  have ha : (dotValue u).field "assets" = .ok (.obj ((flatten u.ma).map dotEntry)) :=
    J.field_of_lookup (by simp [J.lookup])
  have hr := dotAssets_entries _ [] (flatten_entryOK u.ma h.sizes)
  rw [h.rebuild] at hr
  simp only [dotParseValue, dotValue_coins, ha, ok_bind, J.truthy, J.asObj, J.asInt, hr]
  cases hm : u.ma with
  | nil => simp [flatten]
  | cons pa r =>
    obtain ⟨e, t, he⟩ := List.exists_cons_of_ne_nil (h.nonempty pa (by simp [hm]))
    simp [flatten, he]

/-! ### reference scripts

The type strings are fixed tables; what the parsers compute from them is evaluated once per table. -/

theorem plutusLang_facts : startsPlutusV "native" = false ∧ ∀ n ∈ [1, 2, 3],
    startsPlutusV (plutusLang n) = true ∧ parseInt ((plutusLang n).toList.drop 8) = some (n : Int) := by
  decide +kernel

theorem bfScriptType_facts : isPlutusType (bfScriptType 0) = false ∧ ∀ n ∈ [1, 2, 3],
    isPlutusType (bfScriptType n) = true ∧
    parseInt ((bfScriptType n).toList.drop ((bfScriptType n).toList.length - 1)) = some (n : Int) := by
  decide +kernel

theorem plutusVersion_plutusLang (n : Nat) (h : n ∈ [1, 2, 3]) :
    startsPlutusV (plutusLang n) = true ∧ plutusVersion (plutusLang n) = .ok (n : Int) := by
  obtain ⟨h1, h2⟩ := plutusLang_facts.2 n h
  exact ⟨h1, by simp only [plutusVersion, h1, if_true, h2]⟩

/-- `PlutusScript.from_version` on a version taken from a language in `1..3` -/
theorem fromVersion_ok {α : Type} (n : Nat) (h : n ∈ [1, 2, 3]) (f : Nat → α) :
    (if 1 ≤ (n : Int) ∧ (n : Int) ≤ 3 then pure (f (n : Int).toNat) else throw Err.value : Res α) = .ok (f n) := by
  have : 1 ≤ (n : Int) ∧ (n : Int) ≤ 3 := by simp at h; omega
  rw [if_pos this, Int.toNat_natCast]; rfl

theorem v5Script_render (s : Option ScriptM) (h : scriptOK [1, 2] s = true) : v5Script (v5ScriptJ s) = .ok s := by
  cases s with
  | none => simp [v5Script, v5ScriptJ, J.truthy]
  | some s =>
    obtain ⟨hl, b, hs⟩ := scriptOK_plutus h (by decide)
    rw [hs]
    generalize s.lang = lang at hl
    simp only [List.mem_cons, List.not_mem_nil, or_false] at hl
    rcases hl with rfl | rfl <;>
      simp [v5Script, v5ScriptJ, plutusLang, J.truthy, J.hasKey, J.lookup, J.field, payloadJ, J.asStr, fromHex_hexStr]

theorem v6Script_of_fields (sc : J) (ty : String) (b : Bytes) (ht : sc.truthy = true)
    (hl : sc.field "language" = .ok (.str ty)) (hc : sc.field "cbor" = .ok (.str (hexStr b))) :
    v6Script sc =
      if startsPlutusV ty then do
        let ver ← plutusVersion ty
        if 1 ≤ ver ∧ ver ≤ 3 then pure (some ⟨ver.toNat, .bytes b⟩) else throw .value
      else if ty = "native" then .ok (some ⟨0, .bytes b⟩) else .error .value := by
  simp only [v6Script, ht, hl, hc, if_true, ok_bind, J.asStr, fromHex_hexStr]
  rfl

theorem v6Script_render (aux : Aux) (s : Option ScriptM) (h : scriptBytesOK [0, 1, 2, 3] s = true) :
    v6Script ((s.map (v6ScriptJ aux)).getD .null) = .ok s := by
  obtain _ | ⟨lang, b | j⟩ := s
  · simp [v6Script, J.truthy]
  · simp only [scriptBytesOK, List.contains_cons, List.contains_nil, Bool.or_false, Bool.and_true, Bool.or_eq_true,
      beq_iff_eq] at h
    simp only [Option.map_some, Option.getD_some]
    rcases h with rfl | h
    · rw [v6Script_of_fields _ "native" b (by simp [v6ScriptJ, J.truthy]) (by simp [v6ScriptJ, J.field, J.lookup])
        (by simp [v6ScriptJ, J.field, J.lookup, payloadJ]), plutusLang_facts.1]
      rfl
    · have hm : lang ∈ [1, 2, 3] := by simpa using h
      have h0 : lang ≠ 0 := by omega
      obtain ⟨hp, hv⟩ := plutusVersion_plutusLang lang hm
      rw [v6Script_of_fields _ (plutusLang lang) b (by simp [v6ScriptJ, h0, J.truthy])
        (by simp [v6ScriptJ, h0, J.field, J.lookup]) (by simp [v6ScriptJ, h0, J.field, J.lookup]), if_pos hp, hv, ok_bind]
      exact fromVersion_ok lang hm fun n => some (ScriptM.mk n (.bytes b))
  · simp [scriptBytesOK] at h

section
variable {kvs : List (String × J)} (aux : Aux) (u : UTxOModel)

/-! ### cardano-cli -/

theorem cliScript_render (rs sj : J) (lang : Nat) (b : Bytes) (hl : lang ∈ [1, 2, 3])
    (h0 : rs.field "script" = .ok sj) (h1 : sj.field "type" = .ok (.str (cliScriptType lang)))
    (h2 : sj.field "cborHex" = .ok (.str (hexStr b))) : cliScript rs = .ok ⟨lang, .bytes b⟩ := by
  simp only [cliScript, h0, h1, h2, ok_bind, J.asStr, fromHex_hexStr]
  simp only [List.mem_cons, List.not_mem_nil, or_false] at hl
  rcases hl with rfl | rfl | rfl <;> simp [cliScriptType]

theorem cliScriptRef_render (s : Option ScriptM)
    (h1 : J.lookup kvs "referenceScript" = some (cliScriptJ s)) (hs : scriptOK [1, 2, 3] s = true) :
    cliScriptRef (.obj kvs) = .ok s := by
  simp only [cliScriptRef, J.getN_of_lookup h1, ok_bind]
  cases s with
  | none => simp [cliScriptJ, J.truthy]
  | some s =>
    obtain ⟨hl, b, hb⟩ := scriptOK_plutus hs (by decide)
    rw [hb, cliScript_render (cliScriptJ (some ⟨s.lang, .bytes b⟩)) _ s.lang b hl
      (by simp [cliScriptJ, J.field, J.lookup]; rfl) (by simp [J.field, J.lookup]) (by simp [J.field, J.lookup])]
    simp [cliScriptJ, J.truthy]

theorem digit_ne_hash (c : Char) (h : (digitVal c).isSome) : c ≠ '#' := by
  intro hc; subst hc; revert h; decide

theorem intStr_no_hash (i : Int) : ∀ c ∈ (intStr i).toList, c ≠ '#' := by
  intro c hc
  cases i with
  | ofNat n =>
    simp [intStr] at hc
    exact digit_ne_hash c (natDigits_digits n c hc)
  | negSucc n =>
    simp [intStr] at hc
    rcases hc with rfl | hc
    · decide
    · exact digit_ne_hash c (natDigits_digits _ c hc)

theorem cliTxIn_render (h : u.txId.length = 32) : cliTxIn (cliKey u) = .ok (u.txId, u.index) := by
  have hs : splitOn '#' (hexChars u.txId ++ '#' :: (intStr u.index).toList) = [hexChars u.txId, (intStr u.index).toList] := by
    rw [splitOn_append _ _ _ (fun c hc => (hexChars_not_sep u.txId c hc).2), splitOn_none _ _ (intStr_no_hash u.index)]
  have ht : txIdOf (String.ofList (hexChars u.txId)) = .ok u.txId := constrained_hexStr 32 32 u.txId (by omega)
  simp [cliTxIn, cliKey, hs, parseInt_intStr, ht]

theorem cliDatumHash_render (dh : Option Bytes)
    (h1 : J.lookup kvs "datumhash" = some (optStr dh)) (h : ∀ x ∈ dh, x.length = 32) :
    cliDatumHash (.obj kvs) = .ok dh := by
  simp only [cliDatumHash, J.getN_of_lookup h1, ok_bind]
  cases dh with
  | none => simp [optStr, J.isNull]
  | some x => simp [optStr, J.isNull, constrainedJ_hexStr 32 x (h x rfl)]

theorem cliDatum_render (d : Option Payload)
    (h1 : J.lookup kvs "datum" = some .null)
    (h2 : J.lookup kvs "inlineDatumhash" = some (cliInlineHashJ aux d))
    (h3 : J.lookup kvs "inlineDatum" = some (cliInlineJ d))
    (hj : jsonPayload d = true) (ha : aux.inlineHash.length = 32) : cliDatum (.obj kvs) = .ok d := by
  simp only [cliDatum, J.getN_of_lookup h1, J.getN_of_lookup h2, J.field_of_lookup h3, ok_bind, J.truthy]
  obtain _ | b | j := d
  · simp [cliInlineHashJ]
  · simp [jsonPayload] at hj
  · simp [hexStr_ne_empty aux.inlineHash (by omega), payloadJ, cliInlineHashJ, cliInlineJ]

/-- `parse_cardano_cli` reads the members it needs by name: the response may list them in any order, among others -/
theorem parse_cardano_cli_members (hw : WellFormed u)
    (hd : jsonPayload u.datum = true) (hs : scriptOK [1, 2, 3] u.script = true) (ha : aux.inlineHash.length = 32)
    (l1 : J.lookup kvs "value" = some (.obj (u.ma.map nestedPolicy ++ [("lovelace", .num u.coin)])))
    (l2 : J.lookup kvs "datumhash" = some (optStr u.datumHash)) (l3 : J.lookup kvs "datum" = some .null)
    (l4 : J.lookup kvs "inlineDatumhash" = some (cliInlineHashJ aux u.datum))
    (l5 : J.lookup kvs "inlineDatum" = some (cliInlineJ u.datum))
    (l6 : J.lookup kvs "referenceScript" = some (cliScriptJ u.script))
    (l7 : J.lookup kvs "address" = some (.str u.address)) :
    parse_cardano_cli (cliKey u) (.obj kvs) = .ok u := by
  have hv := cliOuter_policies u.ma (.num u.coin) (.num 0, []) hw.sizes
  rw [hw.rebuild] at hv
  simp only [parse_cardano_cli, cliTxIn_render u hw.1, J.field_of_lookup l1, J.field_of_lookup l7, J.asObj, hv,
    cliDatumHash_render _ l2 hw.hashLen, cliDatum_render aux _ l3 l4 l5 hd ha, cliScriptRef_render _ l6 hs,
    ok_bind, J.asStr, J.asInt]
  rfl

/-! ### Ogmios v5 and v6 -/

theorem v5Datum_render (hw : WellFormed u) (hb : bytesPayload u.datum = true)
    (h1 : J.lookup kvs "datum" = some (datumHexJ u.datum)) (h2 : J.lookup kvs "datumHash" = some (optStr u.datumHash)) :
    v5Datum (.obj kvs) = .ok u.datum := by
  simp only [v5Datum, J.field_of_lookup h1, J.field_of_lookup h2, ok_bind]
  rcases hw.datum_cases hb with ⟨e1, e2⟩ | ⟨x, _, e1, e2⟩ | ⟨b, hne, e1, e2⟩
  · simp [e2, datumHexJ, J.truthy]
  · simp [e2, datumHexJ, J.truthy]
  · simp [e1, e2, datumHexJ, J.truthy, hexStr_ne_empty b hne, optStr, J.eqPrim, J.asStr, fromHex_hexStr]

theorem v6Datum_render (hw : WellFormed u) (hb : bytesPayload u.datum = true) :
    v6Datum ((u.datum.map payloadJ).getD .null) (optStr u.datumHash) = .ok u.datum := by
  rcases hw.datum_cases hb with ⟨e1, e2⟩ | ⟨x, _, e1, e2⟩ | ⟨b, hne, e1, e2⟩
  · simp [e2, v6Datum, J.truthy]
  · simp [e2, v6Datum, J.truthy]
  · simp [e1, e2, v6Datum, J.truthy, payloadJ, hexStr_ne_empty b hne, optStr, J.eqPrim, J.asStr, fromHex_hexStr]

theorem parse_ogmios_v5_members (i o : List (String × J)) (hw : WellFormed u)
    (hd : bytesPayload u.datum = true) (hs : scriptOK [1, 2] u.script = true)
    (i1 : J.lookup i "txId" = some (.str (hexStr u.txId))) (i2 : J.lookup i "index" = some (.num u.index))
    (o1 : J.lookup o "address" = some (.str u.address)) (o2 : J.lookup o "value" = some (dotValue u))
    (o3 : J.lookup o "datumHash" = some (optStr u.datumHash)) (o4 : J.lookup o "datum" = some (datumHexJ u.datum))
    (o5 : J.lookup o "script" = some (v5ScriptJ u.script)) :
    parse_ogmios_v5 (.arr [.obj i, .obj o]) = .ok u := by
  simp only [parse_ogmios_v5, v5Pair, J.field_of_lookup i1, J.field_of_lookup i2, J.field_of_lookup o1,
    J.field_of_lookup o2, J.getN_of_lookup o3, J.getN_of_lookup o5, dotValue_coins, txIn_render u.txId u.index hw.1,
    v5Script_render u.script hs, hashIfTruthy_optStr u.datumHash hw.hashLen, v5Datum_render u hw hd o4 o3,
    dotParseValue_render u hw, ok_bind, J.asStr]
  rfl

theorem v6ValueJ_ada : (v6ValueJ u).getN "ada" = .ok (.obj [("lovelace", .num u.coin)]) :=
  J.getN_of_lookup (by simp [J.lookup])

theorem lovelace_getD (c : Int) (d : J) : (J.obj [("lovelace", .num c)]).getD "lovelace" d = .ok (.num c) :=
  J.getD_of_lookup (by simp [J.lookup]) d

theorem v6Value_render (h : WellFormed u) : v6Value (v6ValueJ u) = .ok (u.coin, u.ma) := by
  have ho := onlyAda_render (.obj [("lovelace", .num u.coin)]) u.ma h.sizes
  have hv : v6Outer (("ada", .obj [("lovelace", .num u.coin)]) :: u.ma.map nestedPolicy) [] = .ok u.ma := by
    rw [v6Outer, if_pos rfl, v6Outer_policies u.ma [] h.sizes, h.rebuild]
  simp only [v6Value, v6ValueJ_ada, lovelace_getD, ok_bind]
  simp only [v6ValueJ, J.asObj, ok_bind, ho, hv, J.asInt]
  cases u.ma <;> rfl

/-- `parse_ogmios_v6` reads the members it needs by name, an absent optional member as `null` -/
theorem parse_ogmios_v6_members (hw : WellFormed u)
    (hd : bytesPayload u.datum = true) (hs : scriptBytesOK [0, 1, 2, 3] u.script = true)
    (l1 : J.lookup kvs "transaction" = some (.obj [("id", .str (hexStr u.txId))]))
    (l2 : J.lookup kvs "index" = some (.num u.index)) (l3 : J.lookup kvs "address" = some (.str u.address))
    (l4 : J.lookup kvs "value" = some (v6ValueJ u))
    (l5 : (J.obj kvs).getN "datumHash" = .ok (optStr u.datumHash))
    (l6 : (J.obj kvs).getN "datum" = .ok ((u.datum.map payloadJ).getD .null))
    (l7 : (J.obj kvs).getN "script" = .ok ((u.script.map (v6ScriptJ aux)).getD .null)) :
    parse_ogmios_v6 (.obj kvs) = .ok u := by
  have hi : (J.obj [("id", .str (hexStr u.txId))]).getN "id" = .ok (.str (hexStr u.txId)) :=
    J.getN_of_lookup (by simp [J.lookup])
  simp only [parse_ogmios_v6, J.getN_of_lookup l1, J.getN_of_lookup l2, J.getN_of_lookup l3, J.getN_of_lookup l4,
    l5, l6, l7, hi, ok_bind, v6ValueJ_ada]
  simp only [J.getN, lovelace_getD, txIn_render u.txId u.index hw.1, v6Script_render aux u.script hs,
    hashIfTruthy_optStr u.datumHash hw.hashLen, v6Datum_render u hw hd, v6Value_render u hw, ok_bind, J.asStr]
  rfl

/-! ### Blockfrost -/

theorem bfItem_lovelace (c : Int) (st : Int × MultiAsset) :
    bfItem (.obj [("unit", .str "lovelace"), ("quantity", .str (intStr c))]) st = .ok (c, st.2) := by
  simp [bfItem, J.field, J.lookup, J.asStr, pyInt_intStr]

theorem bfAmount_render (h : WellFormed u) :
    bfAmount (.obj [("unit", .str "lovelace"), ("quantity", .str (intStr u.coin))] :: (flatten u.ma).map bfEntry) (0, [])
      = .ok (u.coin, u.ma) := by
  simp only [bfAmount, bfItem_lovelace, ok_bind]
  rw [bfAmount_entries _ _ (flatten_entryOK u.ma h.sizes), h.rebuild]

theorem bfDatumHash_render (hw : WellFormed u) (hb : bytesPayload u.datum = true)
    (l1 : J.lookup kvs "data_hash" = some (optStr (shownHash aux u)))
    (l2 : J.lookup kvs "inline_datum" = some (datumHexJ u.datum)) : bfDatumHash (.obj kvs) = .ok u.datumHash := by
  simp only [bfDatumHash, J.field_of_lookup l1, J.field_of_lookup l2, ok_bind]
  rcases hw.datum_cases hb with ⟨e1, e2⟩ | ⟨x, hx, e1, e2⟩ | ⟨b, _, e1, e2⟩
  · simp [shownHash, e1, e2, optStr, J.truthy]
  · simp [shownHash, e1, e2, optStr, J.truthy, hexStr_ne_empty x (by omega), datumHexJ, J.isNull,
      constrainedJ_hexStr 32 x hx]
  · simp [shownHash, e1, e2, optStr, J.truthy, datumHexJ, J.isNull]

theorem bfDatum_render (hw : WellFormed u) (hb : bytesPayload u.datum = true)
    (l : J.lookup kvs "inline_datum" = some (datumHexJ u.datum)) : bfDatum (.obj kvs) = .ok u.datum := by
  simp only [bfDatum, J.hasKey_of_lookup l, J.field_of_lookup l, ok_bind, if_true]
  rcases hw.datum_cases hb with ⟨_, e2⟩ | ⟨x, _, _, e2⟩ | ⟨b, _, _, e2⟩ <;>
    simp [e2, datumHexJ, J.isNull, J.asStr, fromHex_hexStr]

theorem bfScript_render (side : Side) (h : String) (s : ScriptM)
    (hl : J.lookup side.scripts h = some (bfScriptInfo s)) (hs : scriptOK [0, 1, 2, 3] (some s) = true) :
    bfScript side h = .ok s := by
  obtain ⟨lang, body⟩ := s
  have ht : (bfScriptInfo ⟨lang, body⟩).field "type" = .ok (.str (bfScriptType lang)) := by
    simp [bfScriptInfo, J.field, J.lookup]
  cases body with
  | json j =>
    obtain ⟨_, rfl, hn⟩ := scriptOK_json.1 hs
    have hj : (bfScriptInfo ⟨0, .json j⟩).field "json" = .ok j := by simp [bfScriptInfo, J.field, J.lookup]
    simp only [bfScript, hl, ht, hj, ok_bind, pure_eq, J.asStr, bfScriptType_facts.1, nativeJson_ok j hn]
    rfl
  | bytes b =>
    obtain ⟨hm, h0⟩ := scriptOK_bytes.1 hs
    have hm : lang ∈ [1, 2, 3] := by simp at hm ⊢; omega
    obtain ⟨hp, hd⟩ := bfScriptType_facts.2 lang hm
    have hc : (bfScriptInfo ⟨lang, .bytes b⟩).field "cbor" = .ok (.str (hexStr b)) := by
      simp [bfScriptInfo, J.field, J.lookup]
    simp only [bfScript, hl, ht, hc, ok_bind, pure_eq, J.asStr, hp, if_true, lastDigit, hd, fromHex_hexStr]
    exact fromVersion_ok lang hm fun n => ScriptM.mk n (.bytes b)

theorem bfScriptRef_render (side : Side) (s : Option ScriptM)
    (l : J.lookup kvs "reference_script_hash" = some (scriptHashJ aux s))
    (hl : ∀ x, s = some x → J.lookup side.scripts (hexStr aux.scriptHash) = some (bfScriptInfo x))
    (hs : scriptOK [0, 1, 2, 3] s = true) (ha : aux.scriptHash.length = 28) :
    bfScriptRef side (.obj kvs) = .ok s := by
  simp only [bfScriptRef, J.hasKey_of_lookup l, J.field_of_lookup l, ok_bind, if_true]
  cases s with
  | none => simp [scriptHashJ, J.truthy]
  | some s =>
    simp [scriptHashJ, J.truthy, hexStr_ne_empty aux.scriptHash (by omega), J.asStr,
      bfScript_render side _ s (hl s rfl) hs]

theorem parse_blockfrost_members (side : Side)
    (hw : WellFormed u) (hd : bytesPayload u.datum = true) (hs : scriptOK [0, 1, 2, 3] u.script = true)
    (ha : aux.scriptHash.length = 28)
    (hl : ∀ x, u.script = some x → J.lookup side.scripts (hexStr aux.scriptHash) = some (bfScriptInfo x))
    (l1 : J.lookup kvs "tx_hash" = some (.str (hexStr u.txId)))
    (l2 : J.lookup kvs "output_index" = some (.num u.index))
    (l3 : J.lookup kvs "amount" = some (.arr (.obj [("unit", .str "lovelace"), ("quantity", .str (intStr u.coin))]
      :: (flatten u.ma).map bfEntry)))
    (l4 : J.lookup kvs "data_hash" = some (optStr (shownHash aux u)))
    (l5 : J.lookup kvs "inline_datum" = some (datumHexJ u.datum))
    (l6 : J.lookup kvs "reference_script_hash" = some (scriptHashJ aux u.script)) :
    parse_blockfrost u.address side (.obj kvs) = .ok u := by
  simp only [parse_blockfrost, J.field_of_lookup l1, J.field_of_lookup l2, J.field_of_lookup l3, ok_bind, J.asArr,
    txIn_render u.txId u.index hw.1, bfAmount_render u hw, bfDatumHash_render aux u hw hd l4 l5,
    bfDatum_render u hw hd l5, bfScriptRef_render aux side _ l6 hl hs ha]
  rfl

/-! ### Kupo -/

/-- what the Kupo path returns for `u`: an inline datum keeps the hash under which Kupo lists it -/
def kupoImage (aux : Aux) (u : UTxOModel) : UTxOModel := { u with datumHash := shownHash aux u }

theorem kupoScript_render (side : Side) (s : Option ScriptM)
    (hl : ∀ x, s = some x → J.lookup side.scripts (hexStr aux.scriptHash) = some (kupoScriptInfo x))
    (hs : scriptOK [1, 2, 3] s = true) (ha : aux.scriptHash.length = 28) :
    kupoScript side (scriptHashJ aux s) = .ok s := by
  cases s with
  | none => simp [kupoScript, scriptHashJ, J.truthy]
  | some s =>
    obtain ⟨hm, b, hb⟩ := scriptOK_plutus hs (by decide)
    have h0 : s.lang ≠ 0 := by simp at hm; omega
    obtain ⟨_, hv⟩ := plutusVersion_plutusLang s.lang hm
    have f1 : (kupoScriptInfo s).field "language" = .ok (.str (plutusLang s.lang)) := by
      simp [kupoScriptInfo, J.field, J.lookup, h0]
    have f2 : (kupoScriptInfo s).field "script" = .ok (.str (hexStr b)) := by
      rw [hb]; simp [kupoScriptInfo, J.field, J.lookup, payloadJ]
    simp only [kupoScript, scriptHashJ, J.truthy, bne_iff_ne, ne_eq, hexStr_ne_empty aux.scriptHash (by omega),
      not_false_eq_true, if_true, J.asStr, ok_bind, hl s rfl, pure_eq, f1, f2, hv, fromHex_hexStr]
    rw [hb]
    exact fromVersion_ok s.lang hm fun n => some (ScriptM.mk n (.bytes b))

theorem hexStr_inj (a b : Bytes) (h : hexStr a = hexStr b) : a = b := by
  simpa [fromHex_hexStr] using congrArg fromHex h

theorem kupoDatums_render (hw : WellFormed u) (hb : bytesPayload u.datum = true)
    (ha : u.datum.isSome → aux.inlineHash.length = 32) (hne : u.datum ≠ some (.bytes aux.inlineHash)) :
    kupoDatums (kupoSide aux u) (optStr (shownHash aux u)) (kupoDatumTypeJ aux u) = .ok (shownHash aux u, u.datum) := by
  have hh : ∀ x : Bytes, x.length = 32 → hashIfTruthy (.str (hexStr x)) = .ok (some x) := fun x hx =>
    hashIfTruthy_optStr (some x) (by simpa using hx)
  rcases hw.datum_cases hb with ⟨e1, e2⟩ | ⟨x, hx, e1, e2⟩ | ⟨b, _, e1, e2⟩
  · simp [kupoDatums, shownHash, e1, e2, optStr, hashIfTruthy, J.truthy]
  · simp [kupoDatums, shownHash, e1, e2, hh x hx, kupoDatumTypeJ, J.truthy, kupoDatum, optStr, J.asStr, kupoSide,
      J.lookup]
  · have hdiff : hexStr b ≠ hexStr aux.inlineHash := fun he => hne (by rw [e2, hexStr_inj _ _ he])
    simp [kupoDatums, shownHash, e1, e2, hh _ (ha (by simp [e2])), kupoDatumTypeJ, J.truthy, kupoDatum, optStr,
      J.asStr, kupoSide, J.lookup, J.field, J.eqPrim, hdiff, fromHex_hexStr]

theorem parse_kupo_members (hw : WellFormed u) (hd : bytesPayload u.datum = true)
    (hs : scriptOK [1, 2, 3] u.script = true)
    (ha : aux.scriptHash.length = 28) (hi : u.datum.isSome → aux.inlineHash.length = 32)
    (hne : u.datum ≠ some (.bytes aux.inlineHash))
    (l1 : J.lookup kvs "transaction_id" = some (.str (hexStr u.txId)))
    (l2 : J.lookup kvs "output_index" = some (.num u.index)) (l3 : J.lookup kvs "spent_at" = some .null)
    (l4 : J.lookup kvs "value" = some (dotValue u))
    (l5 : J.lookup kvs "script_hash" = some (scriptHashJ aux u.script))
    (l6 : J.lookup kvs "datum_hash" = some (optStr (shownHash aux u)))
    (l7 : J.lookup kvs "datum_type" = some (kupoDatumTypeJ aux u)) :
    parse_kupo u.address (kupoSide aux u) (.obj kvs) = .ok (some (kupoImage aux u)) := by
  have hl : ∀ x, u.script = some x →
      J.lookup (kupoSide aux u).scripts (hexStr aux.scriptHash) = some (kupoScriptInfo x) := by
    intro x hx; simp [kupoSide, hx, J.lookup]
  simp only [parse_kupo, J.field_of_lookup l1, J.field_of_lookup l2, J.field_of_lookup l3, J.field_of_lookup l4,
    J.getN_of_lookup l5, J.field_of_lookup l6, J.getD_of_lookup l7, dotValue_coins, ok_bind, J.isNull, if_true,
    txIn_render u.txId u.index hw.1, kupoScript_render aux _ _ hl hs ha, kupoDatums_render aux u hw hd hi hne,
    dotParseValue_render u hw]
  rfl

end

theorem parseList_map' {α β : Type} (f : J → Res α) (r : β → J) (g : β → α) (xs : List β)
    (h : ∀ x ∈ xs, f (r x) = .ok (g x)) : parseList f (xs.map r) = .ok (xs.map g) := by
  induction xs with
  | nil => simp [parseList]
  | cons x rest ih =>
    simp [parseList, h x (by simp), ih (fun y hy => h y (by simp [hy]))]

theorem parseList_map {α : Type} (f : J → Res α) (r : α → J) (us : List α) (h : ∀ u ∈ us, f (r u) = .ok u) :
    parseList f (us.map r) = .ok us := by
  simpa using parseList_map' f r id us h

/-! ### entries in any order -/

theorem qty_put (ma : MultiAsset) (p n : Bytes) (q : Int) (p' n' : Bytes) :
    MultiAsset.qty (put ma p n q) p' n' = if p = p' ∧ n = n' then q else MultiAsset.qty ma p' n' := by
  unfold MultiAsset.qty put Asset.qty
  rw [getD_set]
  by_cases hp : p = p'
  · subst hp
    rw [if_pos rfl, getD_set]
    by_cases hn : n = n' <;> simp [hn]
  · simp [hp]

def entryKey (e : Bytes × Bytes × Int) : Bytes × Bytes := (e.1, e.2.1)

theorem qty_putAll_absent (es : List (Bytes × Bytes × Int)) (ma : MultiAsset) (p n : Bytes)
    (h : (p, n) ∉ es.map entryKey) : MultiAsset.qty (putAll es ma) p n = MultiAsset.qty ma p n := by
  induction es generalizing ma with
  | nil => simp [putAll]
  | cons e r ih =>
    simp only [List.map_cons, List.mem_cons, not_or] at h
    simp only [putAll, List.foldl_cons] at ih ⊢
    rw [ih _ h.2, qty_put]
    have : ¬ (e.1 = p ∧ e.2.1 = n) := by
      rintro ⟨rfl, rfl⟩; exact h.1 rfl
    simp [this]

theorem qty_putAll_mem (es : List (Bytes × Bytes × Int)) (ma : MultiAsset) (p n : Bytes) (q : Int)
    (hd : (es.map entryKey).Nodup) (hm : (p, n, q) ∈ es) : MultiAsset.qty (putAll es ma) p n = q := by
  induction es generalizing ma with
  | nil => simp at hm
  | cons e r ih =>
    simp only [List.map_cons, List.nodup_cons] at hd
    simp only [putAll, List.foldl_cons] at ih ⊢
    rcases List.mem_cons.1 hm with rfl | hr
    · have := qty_putAll_absent r (put ma p n q) p n hd.1
      simp only [putAll] at this
      rw [this, qty_put]; simp
    · exact ih _ hd.2 hr

end Pyc.Backends
