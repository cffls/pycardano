import Pyc.Proofs.Basic

/-! `isort` is a permutation, sorted for a total transitive order, commutes with key-preserving maps, and the sorted
arrangement of a collection is unique. -/

namespace Pyc
variable {α β : Type}

theorem insertBy_perm (le : α → α → Bool) (a : α) (l : List α) : (insertBy le a l).Perm (a :: l) := by
  induction l with
  | nil => simp [insertBy]
  | cons b r ih =>
    simp only [insertBy]
    split
    · exact List.Perm.refl _
    · exact (List.Perm.cons b ih).trans (List.Perm.swap a b r)

theorem isort_perm (le : α → α → Bool) (l : List α) : (isort le l).Perm l := by
  induction l with
  | nil => simp [isort]
  | cons a r ih => exact (insertBy_perm le a _).trans (List.Perm.cons a ih)

theorem insertBy_pairwise (le : α → α → Bool) (trans : ∀ a b c, le a b → le b c → le a c)
    (total : ∀ a b, le a b || le b a) (a : α) (l : List α) (h : l.Pairwise (fun x y => le x y = true)) :
    (insertBy le a l).Pairwise (fun x y => le x y = true) := by
  induction l with
  | nil => simp [insertBy]
  | cons b r ih =>
    simp only [insertBy]
    rw [List.pairwise_cons] at h
    split
    · rename_i hab
      rw [List.pairwise_cons]
      refine ⟨?_, List.pairwise_cons.2 h⟩
      intro x hx
      simp only [List.mem_cons] at hx
      rcases hx with rfl | hx
      · exact hab
      · exact trans _ _ _ hab (h.1 x hx)
    · rename_i hab
      have hba : le b a = true := by
        have := total a b
        simp only [Bool.or_eq_true] at this
        rcases this with h1 | h1
        · exact absurd h1 hab
        · exact h1
      rw [List.pairwise_cons]
      refine ⟨?_, ih h.2⟩
      intro x hx
      have := (insertBy_perm le a r).subset hx
      simp only [List.mem_cons] at this
      rcases this with rfl | hx'
      · exact hba
      · exact h.1 x hx'

theorem isort_pairwise (le : α → α → Bool) (trans : ∀ a b c, le a b → le b c → le a c)
    (total : ∀ a b, le a b || le b a) (l : List α) : (isort le l).Pairwise (fun x y => le x y = true) := by
  induction l with
  | nil => simp [isort]
  | cons a r ih => exact insertBy_pairwise le trans total a _ ih

theorem map_insertBy (r : α → α → Bool) (s : β → β → Bool) (f : α → β) (h : ∀ a b, r a b = s (f a) (f b))
    (a : α) (l : List α) : (insertBy r a l).map f = insertBy s (f a) (l.map f) := by
  induction l with
  | nil => simp [insertBy]
  | cons b t ih =>
    simp only [insertBy, List.map_cons, ← h a b]
    split
    · simp
    · simp [ih]

theorem map_isort (r : α → α → Bool) (s : β → β → Bool) (f : α → β) (h : ∀ a b, r a b = s (f a) (f b))
    (l : List α) : (isort r l).map f = isort s (l.map f) := by
  induction l with
  | nil => simp [isort]
  | cons a t ih => simp only [isort, List.map_cons]; rw [map_insertBy r s f h, ih]

theorem mem_isort (le : α → α → Bool) (a : α) (l : List α) : a ∈ isort le l ↔ a ∈ l :=
  (isort_perm le l).mem_iff

theorem length_isort (le : α → α → Bool) (l : List α) : (isort le l).length = l.length :=
  (isort_perm le l).length_eq

/-- a sorted list is its own sorted arrangement -/
theorem isort_of_sorted (le : α → α → Bool) (l : List α) (h : l.Pairwise (fun x y => le x y = true)) : isort le l = l := by
  induction l with
  | nil => rfl
  | cons a l ih =>
    rw [List.pairwise_cons] at h
    rw [isort, ih h.2]
    cases l with
    | nil => rfl
    | cons b l => simp [insertBy, h.1 b (by simp)]

/-- the sorted arrangement of a collection is unique when `le` is antisymmetric on its members -/
theorem isort_eq_of_sorted_perm (le : α → α → Bool) (tot : ∀ a b, (le a b || le b a) = true)
    (tr : ∀ a b c, le a b = true → le b c = true → le a c = true) (l s : List α)
    (anti : ∀ a ∈ l, ∀ b ∈ l, le a b = true → le b a = true → a = b)
    (hs : s.Pairwise (fun a b => le a b = true)) (hp : s.Perm l) : isort le l = s := by
  apply List.Perm.eq_of_pairwise (le := fun a b => le a b = true) _
    (isort_pairwise le (fun a b c h1 h2 => tr a b c h1 h2) (fun a b => tot a b) l) hs
    ((isort_perm le l).trans hp.symm)
  intro a b ha hb h1 h2
  exact anti a ((isort_perm le l).subset ha) b (hp.subset hb) h1 h2

/-- … so permutations have the same sorted arrangement -/
theorem isort_congr_perm (le : α → α → Bool) (tot : ∀ a b, (le a b || le b a) = true)
    (tr : ∀ a b c, le a b = true → le b c = true → le a c = true) {l₁ l₂ : List α}
    (anti : ∀ a ∈ l₁, ∀ b ∈ l₁, le a b = true → le b a = true → a = b) (hp : l₁.Perm l₂) :
    isort le l₁ = isort le l₂ :=
  isort_eq_of_sorted_perm le tot tr l₁ _ anti (isort_pairwise le tr tot l₂) ((isort_perm le l₂).trans hp.symm)

/-- in an association list with distinct keys an entry is determined by its key -/
theorem eq_of_fst_eq_of_nodup {κ ν : Type} (m : List (κ × ν)) (hn : (m.map (·.1)).Nodup) (a b : κ × ν) (ha : a ∈ m)
    (hb : b ∈ m) (e : a.1 = b.1) : a = b := eq_of_map_eq_of_nodup hn ha hb e

/-- sorting an association list with distinct keys by an order on the keys: a permutation has the same sorted
arrangement, provided the order is antisymmetric on the keys present -/
theorem isort_fst_congr_perm {κ ν : Type} (le : κ → κ → Bool) (tot : ∀ a b, (le a b || le b a) = true)
    (tr : ∀ a b c, le a b = true → le b c = true → le a c = true) {m₁ m₂ : List (κ × ν)}
    (hn : (m₁.map (·.1)).Nodup)
    (anti : ∀ a ∈ m₁, ∀ b ∈ m₁, le a.1 b.1 = true → le b.1 a.1 = true → a.1 = b.1) (hp : m₁.Perm m₂) :
    isort (fun a b => le a.1 b.1) m₁ = isort (fun a b => le a.1 b.1) m₂ :=
  isort_congr_perm (fun a b => le a.1 b.1) (fun _ _ => tot _ _) (fun _ _ _ => tr _ _ _)
    (fun a ha b hb h1 h2 => eq_of_fst_eq_of_nodup m₁ hn a b ha hb (anti a ha b hb h1 h2)) hp

theorem isort_eq_foldr {α : Type} (le : α → α → Bool) (l : List α) : isort le l = l.foldr (insertBy le) [] := by
  induction l with
  | nil => rfl
  | cons a l ih => rw [isort, ih, List.foldr_cons]

end Pyc
