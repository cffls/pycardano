import Mathlib.Data.Rat.Floor
import Mathlib.Algebra.BigOperators.Group.Finset.Basic
import Pyc.Model.Output

/-! The fee functions of utils.py equal the ledger formula in exact rational arithmetic; the fee as a function of the
size. -/

namespace Pyc
open Finset

def Rat'.toRat (r : Rat') : ℚ := (r.num : ℚ) / (r.den : ℚ)

namespace Rat'

theorem toRat_int (a : ℤ) : toRat ⟨a, 1⟩ = a := by simp [toRat]

theorem toRat_nonneg (r : Rat') (h : 0 ≤ r.num) : 0 ≤ r.toRat :=
  div_nonneg (Int.cast_nonneg h) (Nat.cast_nonneg _)

/-- the price of the next tier -/
theorem toRat_mul (b m : Rat') : toRat ⟨b.num * m.num, b.den * m.den⟩ = b.toRat * m.toRat := by
  simp only [toRat, Int.cast_mul, Nat.cast_mul, mul_div_mul_comm]

/-- one step of the accumulation `total + b·x`, on numerators and denominators -/
theorem toRat_acc (t b : Rat') (x : ℤ) (ht : 0 < t.den) (hb : 0 < b.den) :
    toRat ⟨t.num * b.den + b.num * x * t.den, t.den * b.den⟩ = t.toRat + b.toRat * x := by
  have ht' : (t.den : ℚ) ≠ 0 := Nat.cast_ne_zero.2 ht.ne'
  have hb' : (b.den : ℚ) ≠ 0 := Nat.cast_ne_zero.2 hb.ne'
  simp only [toRat, Int.cast_add, Int.cast_mul, Int.cast_natCast, Nat.cast_mul]
  rw [add_div, mul_div_mul_right _ _ hb', mul_comm (t.den : ℚ), mul_div_mul_right _ _ ht', mul_div_right_comm]

end Rat'

theorem ceilMul_eq (n : ℤ) (r : Rat') : ceilMul n r = ⌈(n : ℚ) * r.toRat⌉ := by
  unfold ceilMul Rat'.toRat
  rw [← Rat.ceil_intCast_div_natCast]
  congr 1
  push_cast
  ring

theorem ceil_intCast_mul (k a : ℤ) : ⌈(k : ℚ) * (a : ℚ)⌉ = a * k := by
  rw [← Int.cast_mul, Int.ceil_intCast, mul_comm]

theorem ceilMul_int (k a : ℤ) : ceilMul k ⟨a, 1⟩ = a * k := by
  rw [ceilMul_eq, Rat'.toRat_int, ceil_intCast_mul]

theorem ceilMul_mono (l₁ l₂ : ℤ) (r : Rat') (hr : 0 ≤ r.num) (h : l₁ ≤ l₂) : ceilMul l₁ r ≤ ceilMul l₂ r := by
  rw [ceilMul_eq, ceilMul_eq]
  exact Int.ceil_le_ceil (mul_le_mul_of_nonneg_right (Int.cast_le.2 h) (r.toRat_nonneg hr))

theorem ceilMul_add_le (l k : ℤ) (r : Rat') : ceilMul (l + k) r ≤ ceilMul l r + ceilMul k r := by
  rw [ceilMul_eq, ceilMul_eq, ceilMul_eq, Int.cast_add, add_mul]
  exact Int.ceil_add_le _ _

/-! ## the fee as a function of the size -/

/-- only the reference-script tier can refuse; everything else is a sum -/
theorem fee_eq_some_iff (p : FeeParams) (l steps mem ref e : ℤ) :
    fee p l steps mem ref = some e ↔ ∃ t, tierFee p ref = some t ∧
      e = ceilMul l p.a + ceilMul 1 p.b + ceilMul steps p.priceStep + ceilMul mem p.priceMem + t := by
  unfold fee
  cases tierFee p ref with
  | none => simp
  | some t => simp [eq_comm]

theorem fee_some_of_some (p : FeeParams) (l₁ l₂ steps mem ref e₁ : ℤ) (h : fee p l₁ steps mem ref = some e₁) :
    ∃ e₂, fee p l₂ steps mem ref = some e₂ := by
  obtain ⟨t, ht, _⟩ := (fee_eq_some_iff ..).1 h
  exact ⟨_, (fee_eq_some_iff ..).2 ⟨t, ht, rfl⟩⟩

theorem fee_sub (p : FeeParams) (l₁ l₂ steps mem ref e₁ e₂ : ℤ) (h1 : fee p l₁ steps mem ref = some e₁)
    (h2 : fee p l₂ steps mem ref = some e₂) : e₂ - e₁ = ceilMul l₂ p.a - ceilMul l₁ p.a := by
  obtain ⟨t, ht, rfl⟩ := (fee_eq_some_iff ..).1 h1
  obtain ⟨t', ht', rfl⟩ := (fee_eq_some_iff ..).1 h2
  cases ht.symm.trans ht'
  omega

/-- the tiered reference-script price: full tiers of `r` bytes at `b, b·m, b·m², …` and the rest at the next price -/
def tierClosed (b m : ℚ) (r : ℕ) (size : ℤ) (k : ℕ) : ℚ :=
  (∑ i ∈ range k, b * m ^ i * r) + b * m ^ k * ((size : ℚ) - k * r)

theorem tierClosed_zero (b m : ℚ) (r : ℕ) (size : ℤ) : tierClosed b m r size 0 = b * size := by
  simp [tierClosed]

theorem tierClosed_succ (b m : ℚ) (r : ℕ) (size : ℤ) (k : ℕ) :
    b * r + tierClosed (b * m) m r (size - r) k = tierClosed b m r size (k + 1) := by
  unfold tierClosed
  rw [sum_range_succ']
  have : ∑ i ∈ range k, b * m * m ^ i * (r : ℚ) = ∑ i ∈ range k, b * m ^ (i + 1) * (r : ℚ) :=
    sum_congr rfl fun i _ => by ring
  rw [this]
  push_cast
  ring

/-- invariant of the `while scripts_size > r` loop -/
theorem tierLoop_spec (fuel : ℕ) (size : ℤ) (r : ℕ) (b m total : Rat') (k : ℕ)
    (hb : 0 < b.den) (hm : 0 < m.den) (ht : 0 < total.den)
    (hk1 : (k : ℤ) * r < size) (hk2 : size ≤ ((k : ℤ) + 1) * r) (hf : k < fuel) :
    (tierLoop fuel size r b m total).toRat = total.toRat + tierClosed b.toRat m.toRat r size k
    ∧ 0 < (tierLoop fuel size r b m total).den := by
  induction fuel generalizing size b total k with
  | zero => exact absurd hf (Nat.not_lt_zero k)
  | succ fuel ih =>
    rw [tierLoop]
    cases k with
    | zero =>
      -- no full tier: the loop ends
      rw [Nat.cast_zero, zero_add, one_mul] at hk2
      rw [if_neg (not_lt.2 hk2), Rat'.toRat_acc _ _ _ ht hb, tierClosed_zero]
      exact ⟨rfl, Nat.mul_pos ht hb⟩
    | succ k =>
      rw [Nat.cast_succ, add_mul, one_mul] at hk1 hk2
      have hr : (0 : ℤ) ≤ (k : ℤ) * r := Int.mul_nonneg (Int.natCast_nonneg k) (Int.natCast_nonneg r)
      have := ih (size - r) ⟨b.num * m.num, b.den * m.den⟩ ⟨total.num * b.den + b.num * r * total.den, total.den * b.den⟩ k
        (Nat.mul_pos hb hm) (Nat.mul_pos ht hb) (by omega) (by omega) (Nat.lt_of_succ_lt_succ hf)
      rw [if_pos (by omega)]
      refine ⟨?_, this.2⟩
      rw [this.1, ← tierClosed_succ, Rat'.toRat_mul, Rat'.toRat_acc _ _ _ ht hb, Int.cast_natCast, add_assoc]

end Pyc
