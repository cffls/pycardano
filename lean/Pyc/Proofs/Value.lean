import Pyc.Proofs.Dict

/-! Refinement of the Python-faithful `Asset` / `MultiAsset` / `Value` operations to functions
`name → Int`, `policy → name → Int`. -/

namespace Pyc

theorem subset_of_nodup_length {α} [DecidableEq α] {l₁ l₂ : List α}
    (h₁ : l₁.Nodup) (hsub : l₁ ⊆ l₂) (hlen : l₂.length ≤ l₁.length) : l₂ ⊆ l₁ := by
  induction l₁ generalizing l₂ with
  | nil =>
    have : l₂ = [] := List.eq_nil_of_length_eq_zero (by simpa using hlen)
    simp [this]
  | cons a t ih =>
    rw [List.nodup_cons] at h₁
    have ha : a ∈ l₂ := hsub List.mem_cons_self
    have htsub : t ⊆ l₂.erase a := by
      intro x hx
      have hxa : x ≠ a := fun h => h₁.1 (h ▸ hx)
      exact (List.mem_erase_of_ne hxa).2 (hsub (List.mem_cons_of_mem _ hx))
    have hlen' : (l₂.erase a).length ≤ t.length := by
      rw [List.length_erase]; simp [ha]; simp at hlen; omega
    have := ih h₁.2 htsub hlen'
    intro x hx
    by_cases hxa : x = a
    · simp [hxa]
    · exact List.mem_cons_of_mem _ (this ((List.mem_erase_of_ne hxa).2 hx))

namespace Asset
open Dict

/-- no zero quantity is stored -/
def Normal (a : Asset) : Prop := ∀ p ∈ a, p.2 ≠ 0

theorem normal_normalize (a : Asset) : Normal (normalize a) := by
  intro p hp; simp [normalize] at hp; exact hp.2

theorem wf_normalize (a : Asset) (h : WF a) : WF (normalize a) := wf_filter _ _ h

theorem qty_normalize (a : Asset) (n : Bytes) (h : WF a) : qty (normalize a) n = qty a n := by
  unfold qty normalize
  rw [getD_filter _ _ _ _ h]
  cases hh : has a n with
  | false => simp [has_false_getD _ _ _ hh]
  | true =>
    by_cases hz : getD a n 0 = 0
    · simp [hz]
    · simp [hz]

theorem has_normalize (a : Asset) (n : Bytes) (h : WF a) : has (normalize a) n = (has a n && qty a n != 0) := by
  unfold normalize qty
  rw [has_filter _ _ _ 0 h]

theorem normalize_of_normal (a : Asset) (h : Normal a) : normalize a = a := by
  unfold normalize
  rw [List.filter_eq_self]
  intro p hp; simpa using h p hp

/-- the shared loop of `__add__` / `__sub__`, then `normalize()`: the operation is applied per name, an absent name
counting as 0 -/
theorem qty_merge (op : Int → Int → Int) (hop : ∀ x, op x 0 = x) (a b : Asset) (n : Bytes) (ha : WF a) (hb : WF b) :
    qty (normalize (merge op 0 a b)) n = op (qty a n) (qty b n) := by
  rw [qty_normalize _ _ (wf_merge _ _ _ _ ha)]
  unfold qty
  rw [getD_merge _ _ _ _ _ hb]
  cases hh : has b n with
  | false => rw [if_neg Bool.false_ne_true, has_false_getD _ _ _ hh, hop]
  | true => rfl

theorem qty_add (a b : Asset) (n : Bytes) (ha : WF a) (hb : WF b) : qty (add a b) n = qty a n + qty b n :=
  qty_merge (· + ·) Int.add_zero a b n ha hb

theorem qty_sub (a b : Asset) (n : Bytes) (ha : WF a) (hb : WF b) : qty (sub a b) n = qty a n - qty b n :=
  qty_merge (· - ·) Int.sub_zero a b n ha hb

theorem wf_add (a b : Asset) (ha : WF a) : WF (add a b) := wf_normalize _ (wf_merge _ _ _ _ ha)
theorem wf_sub (a b : Asset) (ha : WF a) : WF (sub a b) := wf_normalize _ (wf_merge _ _ _ _ ha)
theorem normal_add (a b : Asset) : Normal (add a b) := normal_normalize _
theorem normal_sub (a b : Asset) : Normal (sub a b) := normal_normalize _

theorem has_of_qty_ne (a : Asset) (n : Bytes) (h : qty a n ≠ 0) : has a n = true := by
  cases hh : has a n with
  | true => rfl
  | false => exact absurd (has_false_getD _ _ _ hh) h

theorem qty_ne_of_has (a : Asset) (n : Bytes) (hw : WF a) (hn : Normal a) (h : has a n = true) : qty a n ≠ 0 :=
  hn (n, getD a n 0) ((mem_iff_getD a n _ 0 hw).2 ⟨h, rfl⟩)

theorem has_iff_qty (a : Asset) (n : Bytes) (hw : WF a) (hn : Normal a) : has a n = true ↔ qty a n ≠ 0 :=
  ⟨qty_ne_of_has a n hw hn, has_of_qty_ne a n⟩

/-- `__eq__` is component-wise equality (absent = 0) — for all association lists, repeated keys, stored zeros and
negative quantities included -/
theorem eq_iff (a b : Asset) : eq a b = true ↔ ∀ n, qty a n = qty b n := by
  unfold eq qty
  rw [all_keys_iff (· == ·) 0 rfl]
  simp only [beq_iff_eq]

/-- the enumeration of `set(self) | set(other)` is irrelevant for `==` as well -/
theorem eq_enumeration (a b : Asset) (ks : List Bytes) (h : ∀ k, k ∈ ks ↔ k ∈ keys a ∨ k ∈ keys b) :
    ks.all (fun n => getD a n 0 == getD b n 0) = eq a b :=
  all_enumeration _ a b ks h

/-- `__le__` is the component-wise order (absent = 0) — for all association lists, repeated keys, stored zeros
and negative quantities included -/
theorem le_iff (a b : Asset) : le a b = true ↔ ∀ n, qty a n ≤ qty b n := by
  unfold le qty
  rw [all_keys_iff (fun x y => !decide (x > y)) 0 rfl]
  simp only [Bool.not_eq_eq_eq_not, Bool.not_true, decide_eq_false_iff_not, Int.not_lt, gt_iff_lt]

/-- the order (and multiplicity) in which the union of the key sets is enumerated is irrelevant: what Python's
`set(self) | set(other)` iterates over, in whatever order, gives the answer of the model -/
theorem le_enumeration (a b : Asset) (ks : List Bytes) (h : ∀ k, k ∈ ks ↔ k ∈ keys a ∨ k ∈ keys b) :
    ks.all (fun n => !decide (getD a n 0 > getD b n 0)) = le a b :=
  all_enumeration _ a b ks h

end Asset

namespace MultiAsset
open Dict

/-- representation invariant: unique policies, each inner dict with unique names -/
def WF (m : MultiAsset) : Prop := Dict.WF m ∧ ∀ p ∈ m, Dict.WF p.2

/-- no empty policy and no zero quantity is stored -/
def Normal (m : MultiAsset) : Prop := ∀ p ∈ m, p.2 ≠ [] ∧ Asset.Normal p.2

instance (m : List (Bytes × Int)) : Decidable (Dict.WF m) := by unfold Dict.WF; infer_instance
instance (m : MultiAsset) : Decidable (WF m) := by unfold WF Dict.WF; infer_instance

theorem wf_nil : WF [] := ⟨Dict.wf_nil, by simp⟩

theorem wf_getD (m : MultiAsset) (p : Bytes) (h : WF m) : Dict.WF (getD m p []) := by
  cases hh : has m p with
  | false => rw [has_false_getD _ _ _ hh]; exact Dict.wf_nil
  | true => exact h.2 (p, getD m p []) (getD_mem m p [] hh)

theorem normal_normalize (m : MultiAsset) : Normal (normalize m) := by
  intro p hp
  obtain ⟨hm, hne⟩ := List.mem_filter.1 hp
  obtain ⟨q, _, rfl⟩ := List.mem_map.1 hm
  exact ⟨fun h => by simp at hne; exact hne h, Asset.normal_normalize _⟩

theorem wf_normalize (m : MultiAsset) (h : WF m) : WF (normalize m) := by
  constructor
  · exact wf_filter _ _ (wf_map m Asset.normalize h.1)
  · intro p hp
    obtain ⟨q, hq, rfl⟩ := List.mem_map.1 (List.mem_filter.1 hp).1
    exact Asset.wf_normalize _ (h.2 _ hq)

theorem qty_normalize (m : MultiAsset) (p n : Bytes) (h : WF m) : qty (normalize m) p n = qty m p n := by
  unfold qty normalize
  have hw := wf_map m Asset.normalize h.1
  rw [getD_filter _ _ _ _ hw]
  have hg : getD (m.map fun p => (p.1, Asset.normalize p.2)) p [] = Asset.normalize (getD m p []) := by
    have := getD_map m Asset.normalize p []
    simpa [Asset.normalize] using this
  rw [hg, has_map]
  cases hh : has m p with
  | false => simp [has_false_getD _ _ _ hh, Asset.normalize]
  | true =>
    by_cases he : (Asset.normalize (getD m p [])).isEmpty = true
    · simp only [he, Bool.not_true, Bool.and_false, Bool.false_eq_true, if_false]
      have e1 : Asset.normalize (getD m p []) = [] := by simpa using he
      have := Asset.qty_normalize (getD m p []) n (wf_getD m p h)
      rw [e1] at this
      exact this
    · simp only [he, Bool.not_false, Bool.and_true, if_true]
      exact Asset.qty_normalize _ _ (wf_getD m p h)

theorem wf_set_policy (m : MultiAsset) (p : Bytes) (x : Asset) (h : WF m) (hx : Dict.WF x) : WF (set m p x) := by
  have hw := Dict.wf_set m p x h.1
  refine ⟨hw, ?_⟩
  rintro ⟨k, v⟩ hq
  have := (mem_iff_getD _ k v [] hw).1 hq
  rw [getD_set, has_set] at this
  by_cases hk : p = k
  · rw [if_pos hk] at this; exact this.2 ▸ hx
  · rw [if_neg hk, decide_eq_false hk, Bool.false_or] at this
    exact h.2 (k, v) ((mem_iff_getD m k v [] h.1).2 this)

theorem wf_merge' (op : Asset → Asset → Asset) (hop : ∀ x y, Dict.WF x → Dict.WF (op x y))
    (a b : MultiAsset) (ha : WF a) : WF (merge op [] a b) := by
  unfold merge
  induction b generalizing a with
  | nil => exact ha
  | cons p r ih => exact ih _ (wf_set_policy _ _ _ ha (hop _ _ (wf_getD a p.1 ha)))

theorem wf_add (a b : MultiAsset) (ha : WF a) : WF (add a b) :=
  wf_normalize _ (wf_merge' _ Asset.wf_add a b ha)
theorem wf_sub (a b : MultiAsset) (ha : WF a) : WF (sub a b) :=
  wf_normalize _ (wf_merge' _ Asset.wf_sub a b ha)
theorem normal_add (a b : MultiAsset) : Normal (add a b) := normal_normalize _
theorem normal_sub (a b : MultiAsset) : Normal (sub a b) := normal_normalize _

/-- the shared loop of `__add__` / `__sub__` with `op` on the inner dicts, then `normalize()`: when `op` acts per name
as `f`, the result holds `f` of the two quantities at every `(policy, name)` -/
theorem qty_merge (op : Asset → Asset → Asset) (f : Int → Int → Int) (hf : ∀ x, f x 0 = x)
    (hwf : ∀ x y, Dict.WF x → Dict.WF (op x y))
    (hop : ∀ x y n, Dict.WF x → Dict.WF y → Asset.qty (op x y) n = f (Asset.qty x n) (Asset.qty y n))
    (a b : MultiAsset) (p n : Bytes) (ha : WF a) (hb : WF b) :
    qty (normalize (merge op [] a b)) p n = f (qty a p n) (qty b p n) := by
  rw [qty_normalize _ _ _ (wf_merge' op hwf a b ha)]
  unfold qty
  rw [getD_merge _ _ _ _ _ hb.1]
  cases hh : has b p with
  | false => rw [if_neg Bool.false_ne_true, has_false_getD _ _ _ hh]; exact (hf _).symm
  | true => exact hop _ _ n (wf_getD a p ha) (wf_getD b p hb)

theorem qty_add (a b : MultiAsset) (p n : Bytes) (ha : WF a) (hb : WF b) :
    qty (add a b) p n = qty a p n + qty b p n :=
  qty_merge Asset.add (· + ·) Int.add_zero Asset.wf_add Asset.qty_add a b p n ha hb

theorem qty_sub (a b : MultiAsset) (p n : Bytes) (ha : WF a) (hb : WF b) :
    qty (sub a b) p n = qty a p n - qty b p n :=
  qty_merge Asset.sub (· - ·) Int.sub_zero Asset.wf_sub Asset.qty_sub a b p n ha hb

theorem mem_getD (m : MultiAsset) (p : Bytes) (hw : WF m) (hh : has m p = true) : (p, getD m p []) ∈ m :=
  (mem_iff_getD m p _ [] hw.1).2 ⟨hh, rfl⟩

theorem getD_of_mem (m : MultiAsset) (p : Bytes) (x : Asset) (hw : WF m) (h : (p, x) ∈ m) :
    has m p = true ∧ getD m p [] = x := (mem_iff_getD m p x [] hw.1).1 h

theorem qty_of_not_has (m : MultiAsset) (p n : Bytes) (hh : has m p = false) : qty m p n = 0 := by
  simp [qty, has_false_getD _ _ _ hh, Asset.qty, getD]

theorem has_iff_qty (m : MultiAsset) (p : Bytes) (hw : WF m) (hn : Normal m) :
    has m p = true ↔ ∃ n, qty m p n ≠ 0 := by
  constructor
  · intro hh
    have hm := mem_getD m p hw hh
    have := hn _ hm
    obtain ⟨hne, hnorm⟩ := this
    simp only at hne hnorm
    cases hx : getD m p [] with
    | nil => exact absurd hx hne
    | cons q r =>
      refine ⟨q.1, ?_⟩
      have : qty m p q.1 = q.2 := by simp [qty, hx, Asset.qty, getD]
      rw [this]
      exact hnorm q (by rw [hx]; simp)
  · rintro ⟨n, hn'⟩
    cases hh : has m p with
    | true => rfl
    | false => exact absurd (qty_of_not_has m p n hh) hn'

/-- `__le__` is the component-wise order (absent = 0) — for all association lists, repeated keys, empty policies,
stored zeros and negative quantities included -/
theorem le_iff (a b : MultiAsset) : le a b = true ↔ ∀ p n, qty a p n ≤ qty b p n := by
  unfold le
  rw [all_keys_iff Asset.le [] rfl]
  simp only [Asset.le_iff]
  rfl

/-- the enumeration of the union of the policy sets is irrelevant (see `Asset.le_enumeration`) -/
theorem le_enumeration (a b : MultiAsset) (ks : List Bytes) (h : ∀ k, k ∈ ks ↔ k ∈ keys a ∨ k ∈ keys b) :
    ks.all (fun p => Asset.le (getD a p []) (getD b p [])) = le a b :=
  all_enumeration _ a b ks h

/-- `__eq__` is component-wise equality (absent = 0) — for all association lists, repeated keys, empty policies,
stored zeros and negative quantities included -/
theorem eq_iff (a b : MultiAsset) : eq a b = true ↔ ∀ p n, qty a p n = qty b p n := by
  unfold eq
  rw [all_keys_iff Asset.eq [] rfl]
  simp only [Asset.eq_iff]
  rfl

theorem eq_enumeration (a b : MultiAsset) (ks : List Bytes) (h : ∀ k, k ∈ ks ↔ k ∈ keys a ∨ k ∈ keys b) :
    ks.all (fun p => Asset.eq (getD a p []) (getD b p [])) = eq a b :=
  all_enumeration _ a b ks h

end MultiAsset

namespace Value

def WF (v : Value) : Prop := MultiAsset.WF v.ma
def Normal (v : Value) : Prop := MultiAsset.Normal v.ma
instance (v : Value) : Decidable (WF v) := by unfold WF; infer_instance
/-- the abstraction of a value: its ADA and the quantity of every asset -/
def qty (v : Value) (p n : Bytes) : Int := MultiAsset.qty v.ma p n

/-- component-wise equality of contents -/
def Same (a b : Value) : Prop := a.coin = b.coin ∧ ∀ p n, qty a p n = qty b p n

theorem eq_iff (a b : Value) : eq a b = true ↔ Same a b := by
  unfold eq Same qty
  simp only [Bool.and_eq_true, beq_iff_eq]
  rw [MultiAsset.eq_iff]

theorem le_iff (a b : Value) : le a b = true ↔ a.coin ≤ b.coin ∧ ∀ p n, qty a p n ≤ qty b p n := by
  unfold le qty
  simp only [Bool.and_eq_true, decide_eq_true_eq]
  rw [MultiAsset.le_iff]

/-- `<` is `<=` and not `==`, for all operands (`Value.__lt__` is that composition) -/
theorem lt_iff_le_ne (a b : Value) :
    lt a b = true ↔ (a.coin ≤ b.coin ∧ ∀ p n, qty a p n ≤ qty b p n) ∧ eq a b = false := by
  unfold lt
  simp only [Bool.and_eq_true, Bool.not_eq_true']
  rw [le_iff]

theorem lt_iff (a b : Value) :
    lt a b = true ↔ (a.coin ≤ b.coin ∧ ∀ p n, qty a p n ≤ qty b p n) ∧ ¬ Same a b := by
  rw [lt_iff_le_ne, ← eq_iff a b]
  simp

end Value

namespace MultiAsset
open Dict

/-- `m[p][n] = v` (creating the policy when absent) overwrites exactly one cell -/
theorem qty_set_inner (m : MultiAsset) (p k : Bytes) (v : Int) (p' n' : Bytes) :
    qty (set m p (set (getD m p []) k v)) p' n' = if p = p' ∧ k = n' then v else qty m p' n' := by
  unfold qty Asset.qty
  rw [getD_set]
  by_cases hp : p = p'
  · subst hp
    simp only [if_true, true_and]
    rw [getD_set]
  · simp [hp]

theorem wf_set_inner (m : MultiAsset) (p k : Bytes) (v : Int) (h : WF m) :
    WF (set m p (set (getD m p []) k v)) :=
  wf_set_policy _ _ _ h (Dict.wf_set _ _ _ (wf_getD m p h))

theorem filterInner_spec (c : Bytes → Bytes → Int → Bool) (p : Bytes) (a : Asset) (acc : MultiAsset)
    (ha : Dict.WF a) (p' n' : Bytes) :
    qty (filterInner c p a acc) p' n'
      = if p = p' ∧ has a n' = true ∧ c p n' (Asset.qty a n') = true then Asset.qty a n' else qty acc p' n' := by
  unfold filterInner
  induction a generalizing acc with
  | nil => simp [has]
  | cons kv r ih =>
    obtain ⟨k, v⟩ := kv
    obtain ⟨hh, hr⟩ := (wf_cons_iff _ _).1 ha
    simp only [List.foldl_cons]
    rw [ih _ hr]
    by_cases hk : k = n'
    · subst hk
      have q1 : Asset.qty ((k, v) :: r) k = v := by simp [Asset.qty, getD]
      simp only [hh, has, q1, Bool.false_eq_true, false_and, and_false, if_false, Bool.true_or,
        true_and, decide_true]
      by_cases hc : c p k v = true
      · simp only [hc, if_true, and_true]
        rw [qty_set_inner]
        simp
      · simp [hc]
    · have q1 : Asset.qty ((k, v) :: r) n' = Asset.qty r n' := by simp [Asset.qty, getD, hk]
      have h1 : has ((k, v) :: r) n' = has r n' := by simp [has, hk]
      rw [q1, h1]
      by_cases hc : c p k v = true
      · simp only [hc, if_true]
        rw [qty_set_inner]
        simp [hk]
      · simp [hc]

theorem filterInner_wf (c : Bytes → Bytes → Int → Bool) (p : Bytes) (a : Asset) (acc : MultiAsset) (h : WF acc) :
    WF (filterInner c p a acc) := by
  unfold filterInner
  induction a generalizing acc with
  | nil => simpa
  | cons kv r ih =>
    simp only [List.foldl_cons]
    apply ih
    split
    · exact wf_set_inner _ _ _ _ h
    · exact h

theorem filter_spec_aux (c : Bytes → Bytes → Int → Bool) (m acc : MultiAsset) (hm : WF m) (p' n' : Bytes) :
    qty (m.foldl (fun acc p => filterInner c p.1 p.2 acc) acc) p' n'
      = if has m p' = true ∧ has (getD m p' []) n' = true ∧ c p' n' (qty m p' n') = true then qty m p' n'
        else qty acc p' n' := by
  induction m generalizing acc with
  | nil => simp [has]
  | cons pa r ih =>
    obtain ⟨pol, a⟩ := pa
    obtain ⟨hh, hr1⟩ := (wf_cons_iff _ _).1 hm.1
    have hr : WF r := ⟨hr1, fun q hq => hm.2 q (List.mem_cons_of_mem _ hq)⟩
    have ha : Dict.WF a := hm.2 (pol, a) List.mem_cons_self
    simp only [List.foldl_cons]
    rw [ih _ hr, filterInner_spec c pol a acc ha]
    by_cases hp : pol = p'
    · subst hp
      have q1 : qty ((pol, a) :: r) pol n' = Asset.qty a n' := by simp [qty, getD]
      have g1 : getD ((pol, a) :: r) pol [] = a := by simp [getD]
      simp only [hh, has, q1, g1, Bool.false_eq_true, false_and, if_false, Bool.true_or, true_and,
        decide_true]
    · have q1 : qty ((pol, a) :: r) p' n' = qty r p' n' := by simp [qty, getD, hp]
      have g1 : getD ((pol, a) :: r) p' [] = getD r p' [] := by simp [getD, hp]
      have h1 : has ((pol, a) :: r) p' = has r p' := by simp [has, hp]
      rw [q1, g1, h1]
      simp [hp]

theorem filter_spec (c : Bytes → Bytes → Int → Bool) (m : MultiAsset) (hm : WF m) (p n : Bytes) :
    qty (filter m c) p n
      = if has m p = true ∧ has (getD m p []) n = true ∧ c p n (qty m p n) = true then qty m p n else 0 := by
  unfold filter
  rw [filter_spec_aux c m [] hm]
  have : qty [] p n = 0 := by simp [qty, getD, Asset.qty]
  rw [this]

theorem filter_wf (c : Bytes → Bytes → Int → Bool) (m : MultiAsset) : WF (filter m c) := by
  unfold filter
  suffices ∀ acc, WF acc → WF (m.foldl (fun acc p => filterInner c p.1 p.2 acc) acc) from this [] wf_nil
  induction m with
  | nil => intro acc h; simpa
  | cons pa r ih => intro acc h; simp only [List.foldl_cons]; exact ih _ (filterInner_wf c _ _ _ h)

theorem foldl_count {α : Type} (g : α → Bool) (l : List α) (c : Nat) :
    l.foldl (fun c x => if g x then c + 1 else c) c = c + l.countP g := by
  induction l generalizing c with
  | nil => rfl
  | cons x r ih =>
    rw [List.foldl_cons, List.countP_cons, ih]
    by_cases hx : g x = true
    · rw [if_pos hx, if_pos hx]; omega
    · rw [if_neg hx, if_neg hx]; rfl

theorem count_eq (m : MultiAsset) (crit : Bytes → Bytes → Int → Bool) :
    count m crit = (m.map (fun p => p.2.countP (fun q => crit p.1 q.1 q.2))).sum := by
  unfold count
  suffices ∀ c, m.foldl (fun c p => p.2.foldl (fun c q => if crit p.1 q.1 q.2 then c + 1 else c) c) c
      = c + (m.map (fun p => p.2.countP (fun q => crit p.1 q.1 q.2))).sum from (this 0).trans (Nat.zero_add _)
  induction m with
  | nil => exact fun c => rfl
  | cons pa r ih =>
    intro c
    rw [List.foldl_cons, foldl_count (fun q : Bytes × Int => crit pa.1 q.1 q.2), ih, List.map_cons, List.sum_cons, Nat.add_assoc]

/-- the filter used throughout the builder: keep strictly positive quantities -/
theorem filter_pos_spec (m : MultiAsset) (hm : WF m) (p n : Bytes) :
    qty (filter m (fun _ _ v => decide (v > 0))) p n = if qty m p n > 0 then qty m p n else 0 := by
  rw [filter_spec _ m hm]
  by_cases hq : qty m p n > 0
  · have h1 : has m p = true := by
      cases hh : has m p with
      | true => rfl
      | false => rw [qty_of_not_has _ _ _ hh] at hq; omega
    have h2 : has (getD m p []) n = true := by
      cases hh : has (getD m p []) n with
      | true => rfl
      | false =>
        have : qty m p n = 0 := by simp [qty, Asset.qty, has_false_getD _ _ _ hh]
        omega
    simp [h1, h2, hq]
  · simp [hq]

end MultiAsset

/-! ## the repair of KF-C05-le-negative changes no answer on the operands pycardano produces

`leOld` is `__le__` as it was before the repair (keys of the left operand only; a key missing on the right is
"not <=").  On well-formed operands of which the left stores only positive quantities (and no empty policy) and the
right only non-negative ones — every value of the ledger, every request and selected amount of the selectors on valid
inputs — the repaired `le` returns exactly what `leOld` returned. -/

namespace Asset
open Dict

/-- `Asset.__le__` before the repair -/
def leOld (a b : Asset) : Bool := a.all (fun p => has b p.1 && decide (p.2 ≤ getD b p.1 0))

/-- the key-directed `__le__` was the component-wise order when the left operand stores only positive and the right
only non-negative quantities (the region in which pycardano uses it) -/
theorem leOld_iff (a b : Asset) (ha : WF a) (pa : ∀ p ∈ a, 0 < p.2) (pb : ∀ p ∈ b, 0 ≤ p.2) :
    leOld a b = true ↔ ∀ n, qty a n ≤ qty b n := by
  unfold leOld
  simp only [List.all_eq_true, Bool.and_eq_true, decide_eq_true_eq]
  have nonneg_b : ∀ n, 0 ≤ qty b n := by
    intro n
    cases hh : has b n with
    | false => simp [qty, has_false_getD _ _ _ hh]
    | true => exact pb (n, getD b n 0) (getD_mem b n 0 hh)
  constructor
  · intro hall n
    cases hh : has a n with
    | true => exact (hall _ (getD_mem a n 0 hh)).2
    | false =>
      simp only [qty, has_false_getD _ _ _ hh]
      exact nonneg_b n
  · intro h p hp
    obtain ⟨k, v⟩ := p
    have hq : qty a k = v := ((mem_iff_getD a k v 0 ha).1 hp).2
    have hv : 0 < v := pa _ hp
    have hk := h k
    rw [hq] at hk
    refine ⟨has_of_qty_ne b k (by omega), ?_⟩
    simpa [qty] using hk

end Asset

namespace MultiAsset
open Dict

/-- `MultiAsset.__le__` before the repair -/
def leOld (a b : MultiAsset) : Bool := a.all (fun p => has b p.1 && Asset.leOld p.2 (getD b p.1 []))

/-- all stored quantities positive, no empty policy -/
def Pos (m : MultiAsset) : Prop := ∀ p ∈ m, p.2 ≠ [] ∧ ∀ q ∈ p.2, 0 < q.2

/-- all stored quantities non-negative -/
def NonNeg (m : MultiAsset) : Prop := ∀ p ∈ m, ∀ q ∈ p.2, 0 ≤ q.2

theorem nonneg_content (b : MultiAsset) (pb : NonNeg b) (p n : Bytes) : 0 ≤ qty b p n := by
  cases hh : has b p with
  | false => rw [qty_of_not_has _ _ _ hh]; exact Int.le_refl 0
  | true =>
    cases hn : has (getD b p []) n with
    | false => exact Int.le_of_eq (has_false_getD _ _ _ hn).symm
    | true => exact pb _ (getD_mem b p [] hh) (n, getD (getD b p []) n 0) (getD_mem _ n 0 hn)

theorem leOld_iff (a b : MultiAsset) (ha : WF a) (hb : WF b) (pa : Pos a) (pb : NonNeg b) :
    leOld a b = true ↔ ∀ p n, qty a p n ≤ qty b p n := by
  unfold leOld
  simp only [List.all_eq_true, Bool.and_eq_true]
  have nonneg_b := nonneg_content b pb
  constructor
  · intro hall p n
    cases hh : has a p with
    | true =>
      have hm := mem_getD a p ha hh
      have h2 := hall _ hm
      have hbm := mem_getD b p hb h2.1
      exact (Asset.leOld_iff _ _ (ha.2 _ hm) (pa _ hm).2 (pb _ hbm)).1 h2.2 n
    | false =>
      rw [qty_of_not_has _ _ _ hh]; exact nonneg_b p n
  · intro h q hq
    obtain ⟨k, x⟩ := q
    have hk := getD_of_mem a k x ha hq
    have hpos := pa _ hq
    simp only at hpos
    have hbk : has b k = true := by
      cases hx : x with
      | nil => exact absurd hx hpos.1
      | cons q0 r =>
        have h1 : qty a k q0.1 = q0.2 := by simp [qty, hk.2, hx, Asset.qty, getD]
        have h2 : 0 < q0.2 := hpos.2 q0 (by rw [hx]; simp)
        have h3 := h k q0.1
        cases hf : has b k with
        | true => rfl
        | false => rw [qty_of_not_has _ _ _ hf] at h3; omega
    refine ⟨hbk, ?_⟩
    have hbm := mem_getD b k hb hbk
    apply (Asset.leOld_iff _ _ (ha.2 _ hq) hpos.2 (pb _ hbm)).2
    intro n
    have := h k n
    simp only [qty, hk.2] at this
    exact this

end MultiAsset

namespace Value

/-- `Value.__le__` before the repair -/
def leOld (a b : Value) : Bool := decide (a.coin ≤ b.coin) && MultiAsset.leOld a.ma b.ma

theorem le_eq_leOld (a b : Value) (ha : WF a) (hb : WF b) (pa : MultiAsset.Pos a.ma) (pb : MultiAsset.NonNeg b.ma) :
    le a b = leOld a b := by
  rw [Bool.eq_iff_iff, le_iff]
  unfold leOld qty
  simp only [Bool.and_eq_true, decide_eq_true_eq]
  rw [MultiAsset.leOld_iff _ _ ha hb pa pb]

section
variable {α : Type} (f : α → Value)

theorem qty_coinOnly (c : Int) (p n : Bytes) : qty ⟨c, []⟩ p n = 0 := rfl

theorem foldl_add_coin (l : List α) (acc : Value) :
    (l.foldl (fun a x => add a (f x)) acc).coin = acc.coin + (l.map fun x => (f x).coin).sum := by
  induction l generalizing acc with
  | nil => simp
  | cons x r ih =>
    rw [List.foldl_cons, ih, List.map_cons, List.sum_cons]
    simp only [add]
    omega

theorem foldl_add_qty (l : List α) (acc : Value) (hacc : WF acc) (hl : ∀ x ∈ l, WF (f x)) :
    WF (l.foldl (fun a x => add a (f x)) acc) ∧
    ∀ p n, qty (l.foldl (fun a x => add a (f x)) acc) p n = qty acc p n + (l.map fun x => qty (f x) p n).sum := by
  induction l generalizing acc with
  | nil => exact ⟨hacc, fun p n => by simp⟩
  | cons x r ih =>
    obtain ⟨h1, h2⟩ := ih (add acc (f x)) (MultiAsset.wf_add _ _ hacc) (fun y hy => hl y (List.mem_cons_of_mem _ hy))
    refine ⟨h1, fun p n => ?_⟩
    have : qty (add acc (f x)) p n = qty acc p n + qty (f x) p n :=
      MultiAsset.qty_add _ _ p n hacc (hl x List.mem_cons_self)
    rw [List.foldl_cons, h2, List.map_cons, List.sum_cons, this]
    omega

end

end Value
end Pyc
