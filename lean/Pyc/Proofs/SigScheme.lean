import Mathlib.Algebra.Group.Basic
import Pyc.Model.Basic

/-! # The Ed25519 signature algebra over an abstract group

RFC 8032 5.1.6 / 5.1.7 and the BIP32-Ed25519 signing of pycardano/crypto/bip32.py
(`BIP32ED25519PrivateKey.sign`), stated over an arbitrary commutative group `G` with a base point `B` of order
dividing `L`, an abstract hash-to-scalar `Hs`, point encoding `enc` and scalar encoding `encS`.  Group, hash and
encodings are *variables*; nothing is assumed about edwards25519 or SHA-512 (no axioms).  That edwards25519 with
RFC 8032's `B`, `L` is such a group is **not** proved here (trusted, see DESIGN 2.6). -/

namespace Pyc.Sig

/-- an abstract signature scheme with the correctness law as a field -/
structure SigScheme where
  SK : Type
  /-- 32-byte public key -/
  pk : SK → Bytes
  sign : SK → Bytes → Bytes
  /-- `verify pk msg sig` -/
  verify : Bytes → Bytes → Bytes → Prop
  correct : ∀ sk m, verify (pk sk) m (sign sk m)

section
variable {G : Type} [AddCommGroup G] (B : G) (L : ℕ) (Hs : Bytes → ℕ) (enc : G → Bytes) (encS : ℕ → Bytes)

theorem mod_nsmul (hL : L • B = 0) (n : ℕ) : (n % L) • B = n • B := by
  have h : n • B = (L * (n / L) + n % L) • B := by rw [Nat.div_add_mod]
  rw [h, add_nsmul, mul_nsmul, hL, nsmul_zero, zero_add]

/-- RFC 8032 5.1.7 verification equation (cofactorless form used by libsodium): `[S]B = R + [h]A`,
`h = H(enc R ‖ enc A ‖ m)` -/
def VerifyEq (R A : G) (S : ℕ) (m : Bytes) : Prop := S • B = R + (Hs (enc R ++ enc A ++ m)) • A

/-- verification on bytes: the signature is `enc R ‖ encS S`, the key `enc A`, and the equation holds -/
def verifyBytes (pk m sig : Bytes) : Prop :=
  ∃ (R A : G) (S : ℕ), sig = enc R ++ encS S ∧ pk = enc A ∧ VerifyEq B Hs enc R A S m

/-- expanded secret of RFC 8032 5.1.5: scalar `a` and `prefix` (for a pycardano `SigningKey` both come from
SHA-512 of the 32-byte seed; for an `ExtendedSigningKey` they are `kL`, `kR` of the payload) -/
structure Expanded where
  a : ℕ
  pre : Bytes

/-- `A = [a]B` -/
def pubPoint (sk : Expanded) : G := sk.a • B
/-- `r = H(prefix ‖ m)` -/
def nonce (sk : Expanded) (m : Bytes) : ℕ := Hs (sk.pre ++ m)
/-- `R = [r]B` -/
def commit (sk : Expanded) (m : Bytes) : G := (nonce Hs sk m) • B
/-- RFC 8032 5.1.6 step 5: `S = (r + h·a) mod L` -/
def stdS (sk : Expanded) (m : Bytes) : ℕ :=
  (nonce Hs sk m + Hs (enc (commit B Hs sk m) ++ enc (pubPoint B sk) ++ m) * sk.a) % L
/-- bip32.py: `S = scalar_add(scalar_mul(hram, kL), r)` = `(h·kL + r) mod L`, with `r`, `h` reduced mod `L`
first (`crypto_core_ed25519_scalar_reduce`) -/
def extS (sk : Expanded) (m : Bytes) : ℕ :=
  ((Hs (enc (commit B Hs sk m) ++ enc (pubPoint B sk) ++ m) % L) * (sk.a % L) % L + (nonce Hs sk m) % L) % L

/-- the verification equation holds for every standard signature, every key and every message -/
theorem std_sign_correct (hL : L • B = 0) (sk : Expanded) (m : Bytes) :
    VerifyEq B Hs enc (commit B Hs sk m) (pubPoint B sk) (stdS B L Hs enc sk m) m := by
  unfold VerifyEq stdS
  rw [mod_nsmul B L hL, add_nsmul, mul_nsmul']
  rfl

/-- `R` of the extended signing is `[r mod L]B` (`scalarmult_base_noclamp` of the reduced nonce) -/
def extCommit (sk : Expanded) (m : Bytes) : G := ((nonce Hs sk m) % L) • B

theorem extCommit_eq (hL : L • B = 0) (sk : Expanded) (m : Bytes) :
    extCommit B L Hs sk m = commit B Hs sk m := mod_nsmul B L hL _

/-- the verification equation holds for every BIP32-Ed25519 signature as bip32.py computes it -/
theorem ext_sign_correct (hL : L • B = 0) (sk : Expanded) (m : Bytes) :
    VerifyEq B Hs enc (commit B Hs sk m) (pubPoint B sk) (extS B L Hs enc sk m) m := by
  unfold VerifyEq extS
  generalize Hs (enc (commit B Hs sk m) ++ enc (pubPoint B sk) ++ m) = h
  unfold pubPoint commit
  generalize nonce Hs sk m = r
  -- the order of a • B divides L as well
  have hA : L • (sk.a • B) = 0 := by rw [← mul_nsmul, Nat.mul_comm, mul_nsmul, hL, nsmul_zero]
  have h1 : ((h % L) * (sk.a % L)) • B = h • (sk.a • B) := by
    rw [mul_nsmul', mod_nsmul B L hL, mod_nsmul (sk.a • B) L hA]
  rw [mod_nsmul B L hL, add_nsmul, mod_nsmul B L hL, mod_nsmul B L hL, h1, add_comm]

/-- standard Ed25519 as a `SigScheme` -/
def stdScheme (hL : L • B = 0) : SigScheme where
  SK := Expanded
  pk sk := enc (pubPoint B sk)
  sign sk m := enc (commit B Hs sk m) ++ encS (stdS B L Hs enc sk m)
  verify := verifyBytes B Hs enc encS
  correct sk m := ⟨_, _, _, rfl, rfl, std_sign_correct B L Hs enc hL sk m⟩

/-- BIP32-Ed25519 signing as a `SigScheme` (same verifier) -/
def extScheme (hL : L • B = 0) : SigScheme where
  SK := Expanded
  pk sk := enc (pubPoint B sk)
  sign sk m := enc (extCommit B L Hs sk m) ++ encS (extS B L Hs enc sk m)
  verify := verifyBytes B Hs enc encS
  correct sk m := ⟨_, _, _, rfl, rfl, by
    rw [extCommit_eq B L Hs hL]; exact ext_sign_correct B L Hs enc hL sk m⟩

/-- a key set mixing ordinary (`inl`) and extended (`inr`) keys, one verifier -/
def mixedScheme (hL : L • B = 0) : SigScheme where
  SK := Expanded ⊕ Expanded
  pk sk := match sk with
    | .inl s => (stdScheme B L Hs enc encS hL).pk s
    | .inr s => (extScheme B L Hs enc encS hL).pk s
  sign sk m := match sk with
    | .inl s => (stdScheme B L Hs enc encS hL).sign s m
    | .inr s => (extScheme B L Hs enc encS hL).sign s m
  verify := verifyBytes B Hs enc encS
  correct sk m := by
    cases sk with
    | inl s => exact (stdScheme B L Hs enc encS hL).correct s m
    | inr s => exact (extScheme B L Hs enc encS hL).correct s m

end

end Pyc.Sig
