import Pyc.Model.CustomCodec
import Pyc.Proofs.Canonical
import Pyc.Proofs.Codec

/-! Round-trip theorems for the hand-written codecs modelled in `Model/CustomCodec.lean`. -/

namespace Pyc.Custom
open Pyc.Cbor Pyc.Codec Pyc.Schema

/-! ## sequencing of decoders -/

@[simp] theorem bind_ok {α β : Type} (a : α) (f : α → Res β) : Res.bind (.ok a) f = f a := rfl

theorem bind_eq_ok {α β : Type} {r : Res α} {f : α → Res β} {b : β} :
    Res.bind r f = .ok b ↔ ∃ a, r = .ok a ∧ f a = .ok b := by
  cases r <;> simp [Res.bind]

theorem bind_congr {α β : Type} (r : Res α) (f g : α → Res β) (h : ∀ a, r = .ok a → f a = g a) :
    Res.bind r f = Res.bind r g := by
  cases r with
  | ok a => exact h a rfl
  | deser => rfl
  | crash => rfl

/-! ## the array form of a dataclass, field by field -/

theorem arrFields_cons (S : List ClassDef) (f : FieldDef) (fs : List FieldDef) (v : Val) (vs : List Val) :
    arrFields S (f :: fs) (v :: vs) = if skip f v then arrFields S fs vs else toPrim S v :: arrFields S fs vs := by
  unfold skip
  split
  · next ho => rw [arrFields, if_pos rfl]; exact ho
  · next hn => rw [arrFields, if_neg Bool.false_ne_true] <;> exact hn

/-! ## integers of any size (cbor2 writes bignum tags 2 / 3 beyond 64 bits and reads them back) -/

/-- **every Python int survives cbor2**: major types 0 / 1 below 2^64 in magnitude, bignum tags 2 / 3 beyond -/
theorem itemInt_ofInt_all (i : Int) : itemInt? (ofInt i) = some i := by
  unfold ofInt
  by_cases h0 : 0 ≤ i
  · simp only [h0, if_true]
    split
    · simp only [itemInt?]; congr 1; omega
    · simp only [itemInt?, fromBE_natBytes]; congr 1; omega
  · simp only [h0, if_false]
    split
    · simp only [itemInt?]; congr 1; omega
    · simp only [itemInt?, fromBE_natBytes]; congr 1; omega

/-! ## `Asset` / `MultiAsset` / `Value` -/

/-- an asset dict as a Python object can hold it: distinct names of at most 32 bytes (quantities: any integer) -/
def AssetOk (a : Asset) : Prop := Dict.WF a ∧ ∀ q ∈ a, q.1.length ≤ 32

def MaOk (m : MultiAsset) : Prop := Dict.WF m ∧ ∀ p ∈ m, p.1.length = 28 ∧ AssetOk p.2

/-- **well-formed value**: policy ids of 28 bytes, asset names of at most 32 bytes, distinct keys at both levels (what a
Python `Value` can hold).  Coin and quantities are arbitrary integers, of either sign and any size. -/
structure ValueOk (v : Value) : Prop where
  ma : MaOk v.ma

def nodupKeysB {ν : Type} : List (Bytes × ν) → Bool
  | [] => true
  | p :: r => !Dict.has r p.1 && nodupKeysB r

theorem nodupKeysB_sound {ν : Type} (m : List (Bytes × ν)) (h : nodupKeysB m = true) : Dict.WF m := by
  induction m with
  | nil => exact Dict.wf_nil
  | cons p r ih =>
    simp only [nodupKeysB, Bool.and_eq_true, Bool.not_eq_true'] at h
    exact (Dict.wf_cons_iff p r).2 ⟨h.1, ih h.2⟩

def assetOkB (a : Asset) : Bool := nodupKeysB a && a.all (fun q => decide (q.1.length ≤ 32))

theorem assetOkB_sound (a : Asset) (h : assetOkB a = true) : AssetOk a := by
  unfold assetOkB at h
  simp only [Bool.and_eq_true, List.all_eq_true, decide_eq_true_eq] at h
  exact ⟨nodupKeysB_sound a h.1, fun q hq => h.2 q hq⟩

def maOkB (m : MultiAsset) : Bool := nodupKeysB m && m.all (fun p => decide (p.1.length = 28) && assetOkB p.2)

theorem maOkB_sound (m : MultiAsset) (h : maOkB m = true) : MaOk m := by
  unfold maOkB at h
  simp only [Bool.and_eq_true, List.all_eq_true, decide_eq_true_eq] at h
  exact ⟨nodupKeysB_sound m h.1, fun p hp => ⟨(h.2 p hp).1, assetOkB_sound _ (h.2 p hp).2⟩⟩

/-- executable form of `ValueOk` (run by the driver on the harness's values; used by `decide` on concrete instances) -/
def valueOkB (v : Value) : Bool := maOkB v.ma

theorem valueOkB_sound (v : Value) (h : valueOkB v = true) : ValueOk v := ⟨maOkB_sound _ h⟩

theorem decAssetLoop_items (acc a : Asset) (hw : (Dict.keys (acc ++ a)).Nodup)
    (hk : ∀ q ∈ a, q.1.length ≤ 32) :
    decAssetLoop acc (a.map (fun q => (Item.bytes q.1, ofInt q.2))) = .ok (acc ++ a) := by
  induction a generalizing acc with
  | nil => simp [decAssetLoop]
  | cons q r ih =>
    have hq := hk q (by simp)
    have hnh := Dict.has_of_wf_append acc r q.1 q.2 hw
    simp only [List.map_cons, decAssetLoop, decCBytes, Nat.zero_le, hq, and_self, if_true,
      itemInt_ofInt_all, Dict.set_of_not_has acc q.1 q.2 hnh]
    rw [ih (acc ++ [q]) (by simpa using hw) (fun x hx => hk x (by simp [hx]))]
    simp

theorem decAsset_item (a : Asset) (h : AssetOk a) : decAsset (itemAsset a) = .ok (Asset.normalize a) := by
  simp only [decAsset, itemAsset, decAssetLoop_items [] a h.1 h.2, List.nil_append]

theorem decMultiAssetLoop_items (acc m : MultiAsset) (hw : (Dict.keys (acc ++ m)).Nodup)
    (hk : ∀ p ∈ m, p.1.length = 28 ∧ AssetOk p.2) :
    decMultiAssetLoop acc (m.map (fun p => (Item.bytes p.1, itemAsset p.2))) =
      .ok (acc ++ m.map (fun p => (p.1, Asset.normalize p.2))) := by
  induction m generalizing acc with
  | nil => simp [decMultiAssetLoop]
  | cons p r ih =>
    have hp := hk p (by simp)
    have hnh := Dict.has_of_wf_append acc r p.1 p.2 hw
    simp only [List.map_cons, decMultiAssetLoop, decCBytes, hp.1, Nat.le_refl, and_self, if_true,
      decAsset_item p.2 hp.2, Dict.set_of_not_has acc p.1 _ hnh]
    rw [ih (acc ++ [(p.1, Asset.normalize p.2)]) (by simpa [Dict.keys] using hw) (fun x hx => hk x (by simp [hx]))]
    simp

theorem decMultiAsset_item (m : MultiAsset) (h : MaOk m) :
    decMultiAsset (itemMultiAsset m) = .ok (MultiAsset.normalize m) := by
  simp only [decMultiAsset, itemMultiAsset, decMultiAssetLoop_items [] m h.1 h.2, List.nil_append, MultiAsset.normalize]

/-! ### the canonical form of a well-formed bundle is well-formed -/

theorem primAsset_ok (a : Asset) (h : AssetOk a) : AssetOk (primAsset a) := by
  refine ⟨Dict.wf_of_perm (canonSort_perm _) (Asset.wf_normalize a h.1), ?_⟩
  intro q hq
  exact h.2 q ((mem_primAsset a q).1 hq).1

theorem maOk_wf (m : MultiAsset) (h : MaOk m) : MultiAsset.WF m := ⟨h.1, fun p hp => (h.2 p hp).2.1⟩

theorem primMultiAsset_ok (m : MultiAsset) (h : MaOk m) : MaOk (primMultiAsset m) := by
  refine ⟨?_, ?_⟩
  · unfold Dict.WF
    exact (keys_primMultiAsset_perm m).nodup_iff.2 (MultiAsset.wf_normalize m (maOk_wf m h)).1
  · intro x hx
    obtain ⟨p, hp, rfl⟩ := (mem_primMultiAsset m x).1 hx
    obtain ⟨⟨p0, h0, rfl⟩, _⟩ := (mem_normalize_ma m p).1 hp
    have h00 := h.2 p0 h0
    exact ⟨h00.1, primAsset_ok _ ⟨Asset.wf_normalize _ h00.2.1, fun q hq => h00.2.2 q (List.mem_filter.1 hq).1⟩⟩

/-! ### round trip of `Value` -/

theorem decValue_array2 (c m : Item) : decValue (.array [c, m]) = (match itemInt? c with
    | Option.none => .deser
    | some coin => (match decMultiAsset m with
        | .ok ma => .ok ⟨coin, ma⟩
        | .deser => .deser
        | .crash => .crash)) := rfl

/-- **decode ∘ encode on values** (item level): the coin, and the bundle normalised in canonical order -/
theorem decValue_itemValue (v : Value) (h : ValueOk v) : decValue (itemValue v) = .ok (normValue v) := by
  unfold itemValue normValue
  cases he : (MultiAsset.normalize v.ma).isEmpty with
  | true =>
    have hp : primMultiAsset v.ma = [] := List.isEmpty_iff.1 ((primMultiAsset_isEmpty v.ma).trans he)
    simp only [if_true, decValue, itemInt_ofInt_all, hp]
  | false =>
    simp only [Bool.false_eq_true, if_false]
    rw [decValue_array2]
    simp only [itemInt_ofInt_all, decMultiAsset_item _ (primMultiAsset_ok v.ma h.ma),
      normalize_of_normal_ma _ (primMultiAsset_normal v.ma)]

/-- **re-encoding the decoded value gives the same primitive** — for every value, no hypothesis -/
theorem itemValue_normValue (v : Value) : itemValue (normValue v) = itemValue v := by
  simp only [itemValue, normValue, primMultiAsset_idem, normalize_of_normal_ma _ (primMultiAsset_normal v.ma),
    primMultiAsset_isEmpty]

theorem normValue_idem (v : Value) : normValue (normValue v) = normValue v := by
  simp [normValue, primMultiAsset_idem]

theorem decValueBytes_enc (v : Value) (h : ValueOk v) (hw : Cbor.WF (itemValue v)) :
    decValueBytes (encValueBytes v) = .ok (normValue v) := by
  unfold decValueBytes encValueBytes
  rw [decodeAll_encode _ hw]
  exact decValue_itemValue v h

/-! ### Python `==` on the result

`Value.__eq__` / `MultiAsset.__eq__` / `Asset.__eq__` compare contents component-wise (an absent name counts as 0, an
absent policy as an empty `Asset`; `Value.eq_iff`, Proofs/Value.lean).  Normalising and sorting do not change the
content of a well-formed bundle, so the decoded value is `==` to the original — stored zeros and empty policies
included. -/

theorem qty_primAsset (a : Asset) (hw : Dict.WF a) (n : Bytes) : Asset.qty (primAsset a) n = Asset.qty a n := by
  unfold primAsset Asset.qty
  rw [Dict.getD_perm _ _ (canonSort_perm _) (Dict.wf_of_perm (canonSort_perm _) (Asset.wf_normalize a hw))]
  exact Asset.qty_normalize a n hw

theorem qty_primMultiAsset (m : MultiAsset) (hw : MultiAsset.WF m) (p n : Bytes) :
    MultiAsset.qty (primMultiAsset m) p n = MultiAsset.qty m p n := by
  have hwn := MultiAsset.wf_normalize m hw
  rw [← MultiAsset.qty_normalize m p n hw, primMultiAsset_eq]
  unfold MultiAsset.qty
  rw [Dict.getD_perm _ _ (canonSort_perm _) (Dict.wf_of_perm (canonSort_perm _) (MultiAsset.wf_canonInner _ hwn.1))]
  have hg : Dict.getD ((MultiAsset.normalize m).map MultiAsset.canonInner) p [] =
      primAsset (Dict.getD (MultiAsset.normalize m) p []) := Dict.getD_map (MultiAsset.normalize m) primAsset p []
  rw [hg]
  exact qty_primAsset _ (MultiAsset.wf_getD _ p hwn) n

/-- **the decoded value is `==` to the original**, whatever zeros and empty policies the original stores -/
theorem value_eq_original (v : Value) (hw : MultiAsset.WF v.ma) : Value.eq (normValue v) v = true := by
  rw [Value.eq_iff]
  exact ⟨rfl, fun p n => qty_primMultiAsset v.ma hw p n⟩

/-! ## `TransactionOutput` -/

variable {A D N : Type}

/-- the assumption about the three leaf classes (address, inline datum, native script): each restores what it wrote -/
structure Leaves.Lawful (L : Leaves A D N) : Prop where
  addr : L.addr.Lawful
  datum : L.datum.Lawful
  native : L.native.Lawful

/-- a script a Python object can hold (Plutus versions 1, 2, 3) whose primitive is CBOR-representable -/
def ScriptOk (L : Leaf N) : Script N → Prop
  | .native n => Cbor.WF (L.enc n)
  | .plutus v b => (v = 1 ∨ v = 2 ∨ v = 3) ∧ b.length < 2^64

/-- **well-formed output**: a well-formed amount, a 32-byte datum hash, and embedded datum / script primitives that are
CBOR-representable (they are written as `#6.24(bytes)` and parsed back from those bytes) -/
structure OutputOk (L : Leaves A D N) (o : Output A D N) : Prop where
  amount : ValueOk o.amount
  hash : ∀ h, o.datumHash = some h → h.length = 32
  datum : ∀ d, o.datum = some d → Cbor.WF (L.datum.enc d)
  script : ∀ s, o.script = some s → ScriptOk L.native s

theorem itemInt_uint (n : Nat) : itemInt? (.uint n) = some (n : Int) := rfl

theorem decScriptRef_item (L : Leaf N) (hL : L.Lawful) (s : Script N) (hs : ScriptOk L s) :
    decScriptRef L (itemScriptRef L s) = .ok s := by
  cases s with
  | native n =>
    have hw : Cbor.WF (itemScript L (.native n)) := wf_array2 (by decide : (0 : Nat) < 2 ^ 64) hs
    simp only [decScriptRef, itemScriptRef, decodeAll_encode _ hw]
    simp [decScript, itemScript, listElems?, itemInt_uint, hL.rt]
  | plutus v b =>
    obtain ⟨hv, hb⟩ := hs
    have hw : Cbor.WF (itemScript L (.plutus v b)) := wf_array2 (by omega : v < 2 ^ 64) hb
    simp only [decScriptRef, itemScriptRef, decodeAll_encode _ hw]
    rcases hv with rfl | rfl | rfl <;> simp [decScript, itemScript, listElems?, itemInt_uint]

theorem decDatumOption_hash (L : Leaf D) (h : Bytes) (h32 : h.length = 32) :
    decDatumOption L (itemDatumOption L (.inl h)) = .ok (.inl h) := by
  simp only [decDatumOption, itemDatumOption, listElems?, itemInt_uint, h32, if_true, Int.ofNat_zero]

theorem decDatumOption_datum (L : Leaf D) (hL : L.Lawful) (d : D) (hw : Cbor.WF (L.enc d)) :
    decDatumOption L (itemDatumOption L (.inr d)) = .ok (.inr d) := by
  simp [decDatumOption, itemDatumOption, listElems?, itemInt_uint, decodeAll_encode _ hw, hL.rt]

theorem decDatumOption_datumOptionOf (L : Leaves A D N) (hL : L.Lawful) (o : Output A D N) (h : OutputOk L o)
    (x : Bytes ⊕ D) (hx : datumOptionOf o = some x) : decDatumOption L.datum (itemDatumOption L.datum x) = .ok x := by
  unfold datumOptionOf at hx
  split at hx <;> cases hx
  · next he => exact decDatumOption_hash _ _ (h.hash _ he)
  · next hd => exact decDatumOption_datum _ hL.datum _ (h.datum _ hd)

/-- the map form splits the datum option it received back into the two fields -/
theorem finishMap_datumOptionOf (o : Output A D N) (v : Value) :
    finishMap ⟨some o.address, some v, datumOptionOf o, o.script⟩ =
      .ok ⟨o.address, v, o.datumHash, if o.datumHash.isSome then Option.none else o.datum, o.script, true⟩ := by
  obtain ⟨addr, amt, dh, dat, scr, pa⟩ := o
  cases dh <;> cases dat <;> rfl

theorem mapForm_eq_false (o : Output A D N) (h : mapForm o = false) :
    o.datum = Option.none ∧ o.script = Option.none ∧ o.postAlonzo = false := by
  simp only [mapForm, Bool.or_eq_false_iff, Option.isSome_eq_false_iff, Option.isNone_iff_eq_none] at h
  exact ⟨h.1.1, h.1.2, h.2⟩

section
variable (L : Leaves A D N) (a : Option A) (v : Option Value) (d : Option (Bytes ⊕ D)) (s : Option (Script N))
  (x : Item) (r : List (Item × Item))

theorem decOutputMapLoop_nil : decOutputMapLoop L ⟨a, v, d, s⟩ [] = .ok ⟨a, v, d, s⟩ := rfl

theorem decOutputMapLoop_key0 : decOutputMapLoop L ⟨a, v, d, s⟩ ((.uint 0, x) :: r) =
    Res.bind (L.addr.dec x) fun a' => decOutputMapLoop L ⟨some a', v, d, s⟩ r := rfl

theorem decOutputMapLoop_key1 : decOutputMapLoop L ⟨a, v, d, s⟩ ((.uint 1, x) :: r) =
    Res.bind (decAmount x) fun v' => decOutputMapLoop L ⟨a, some v', d, s⟩ r := rfl

theorem decOutputMapLoop_key2 : decOutputMapLoop L ⟨a, v, d, s⟩ ((.uint 2, x) :: r) =
    Res.bind (decDatumOption L.datum x) fun d' => decOutputMapLoop L ⟨a, v, some d', s⟩ r := rfl

theorem decOutputMapLoop_key3 : decOutputMapLoop L ⟨a, v, d, s⟩ ((.uint 3, x) :: r) =
    Res.bind (decScriptRef L.native x) fun s' => decOutputMapLoop L ⟨a, v, d, some s'⟩ r := rfl

end

/-- the map form: the loop collects address, amount, datum option and script in wire order, then the datum option is
split back into the two fields -/
theorem decOutput_itemOutputMap (L : Leaves A D N) (hL : L.Lawful) (o : Output A D N) (h : OutputOk L o) :
    decOutput L (itemOutputMap L o) = .ok ⟨o.address, normValue o.amount, o.datumHash,
      if o.datumHash.isSome then Option.none else o.datum, o.script, true⟩ := by
  have hd := decDatumOption_datumOptionOf L hL o h
  have hs := fun s e => decScriptRef_item L.native hL.native s (h.script s e)
  rw [← finishMap_datumOptionOf, itemOutputMap, decOutput]
  generalize datumOptionOf o = x? at hd ⊢
  generalize o.script = s? at hs ⊢
  cases x? <;> cases s? <;>
    simp only [List.cons_append, List.nil_append, decOutputMapLoop_key0, decOutputMapLoop_key1, decOutputMapLoop_key2,
      decOutputMapLoop_key3, decOutputMapLoop_nil, hL.addr.rt, decAmount, decValue_itemValue _ h.amount, hd, hs, bind_ok]

/-- the legacy form, written when there is neither inline datum nor script nor flag -/
theorem decOutput_itemOutputLegacy (L : Leaves A D N) (hL : L.Lawful) (o : Output A D N) (h : OutputOk L o) :
    decOutput L (itemOutputLegacy L o) =
      .ok ⟨o.address, normValue o.amount, o.datumHash, Option.none, Option.none, false⟩ := by
  have hh : ∀ h0, o.datumHash = some h0 → decOptHash (.bytes h0) = .ok (some h0) := fun h0 e => by
    simp only [decOptHash, decCBytes, h.hash h0 e, Nat.le_refl, and_self, if_true]
  rw [itemOutputLegacy, decOutput]
  generalize o.datumHash = dh at hh ⊢
  cases dh <;>
    simp only [List.cons_append, List.nil_append, decOutputLegacy, hL.addr.rt, decAmount, decValue_itemValue _ h.amount,
      bind_ok, hh]

/-- **decode ∘ encode on outputs**, for every well-formed output (both forms, every datum / script combination,
including an output that carries a datum hash AND an inline datum): the result is `decodedOutput o` -/
theorem decOutput_itemOutput (L : Leaves A D N) (hL : L.Lawful) (o : Output A D N) (h : OutputOk L o) :
    decOutput L (itemOutput L o) = .ok (decodedOutput o) := by
  unfold itemOutput
  cases hm : mapForm o with
  | true => rw [if_pos rfl, decOutput_itemOutputMap L hL o h, decodedOutput, hm]
  | false =>
    obtain ⟨hdat, hscr, _⟩ := mapForm_eq_false o hm
    rw [if_neg Bool.false_ne_true, decOutput_itemOutputLegacy L hL o h, decodedOutput, hm, hdat, hscr, ite_self]

/-- an output as the ledger's `datum_option` can express it: not a datum hash AND an inline datum -/
def NotBoth (o : Output A D N) : Prop := ¬ (o.datumHash.isSome = true ∧ o.datum.isSome = true)

instance (o : Output A D N) : Decidable (NotBoth o) := by unfold NotBoth; infer_instance

theorem mapForm_normOutput (o : Output A D N) : mapForm (normOutput o) = mapForm o := by
  show (o.datum.isSome || o.script.isSome || mapForm o) = mapForm o
  unfold mapForm
  cases o.datum.isSome <;> cases o.script.isSome <;> rfl

theorem normOutput_idem (o : Output A D N) : normOutput (normOutput o) = normOutput o := by
  conv => lhs; rw [normOutput, mapForm_normOutput]
  rfl

/-- a constructed output: its flag is set whenever it carries an inline datum or a script -/
def Constructed (o : Output A D N) : Prop := normOutput o = o

theorem constructed_normOutput (o : Output A D N) : Constructed (normOutput o) := normOutput_idem o

theorem constructed_flag (o : Output A D N) (h : Constructed o) : mapForm o = o.postAlonzo :=
  congrArg Output.postAlonzo h

theorem decodedOutput_constructed (o : Output A D N) (hc : Constructed o) (hnb : NotBoth o) :
    decodedOutput o = { o with amount := normValue o.amount } := by
  have hd : (if o.datumHash.isSome then Option.none else o.datum) = o.datum := by
    split
    · next h =>
      cases hx : o.datum with
      | none => rfl
      | some d => exact absurd ⟨h, by rw [hx]; rfl⟩ hnb
    · rfl
  rw [decodedOutput, constructed_flag o hc, hd]

/-- outside `NotBoth`: the hash wins, the inline datum is not written and therefore not restored -/
theorem decodedOutput_both (o : Output A D N) (h : o.datumHash.isSome = true) : (decodedOutput o).datum = Option.none := by
  simp [decodedOutput, h]

theorem datumOptionOf_decodedOutput (o : Output A D N) : datumOptionOf (decodedOutput o) = datumOptionOf o := by
  obtain ⟨addr, amt, dh, dat, scr, pa⟩ := o
  cases dh <;> rfl

theorem mapForm_decodedOutput (o : Output A D N) : mapForm (decodedOutput o) = mapForm o := by
  obtain ⟨addr, amt, dh, dat, scr, pa⟩ := o
  cases dh <;> cases dat <;> cases scr <;> rfl

/-- **re-encoding the decoded output gives the same primitive** — for EVERY output (either form, any combination of
datum hash / inline datum / script / flag), no hypothesis -/
theorem itemOutput_decodedOutput (L : Leaves A D N) (o : Output A D N) :
    itemOutput L (decodedOutput o) = itemOutput L o := by
  simp only [itemOutput, itemOutputMap, itemOutputLegacy, mapForm_decodedOutput, datumOptionOf_decodedOutput]
  simp only [decodedOutput, itemValue_normValue]

theorem decodedOutput_idem (o : Output A D N) : decodedOutput (decodedOutput o) = decodedOutput o := by
  rw [decodedOutput, mapForm_decodedOutput]
  simp only [decodedOutput, normValue_idem]
  split <;> rfl

theorem outputOk_normOutput (L : Leaves A D N) (o : Output A D N) (h : OutputOk L o) : OutputOk L (normOutput o) :=
  ⟨h.amount, h.hash, h.datum, h.script⟩

theorem notBoth_normOutput (o : Output A D N) (h : NotBoth o) : NotBoth (normOutput o) := h

/-! ## `TransactionBody`: decode-time normalisation -/

theorem normField_cases (f : FieldDef) (v : Val) :
    normField f v = v ∨ ∃ xs, v = .oset false xs ∧ normField f v = .list xs := by
  unfold normField
  split
  · exact Or.inr ⟨_, rfl, rfl⟩
  · exact Or.inl rfl

theorem normField_list (f : FieldDef) (xs : List Val) : normField f (.list xs) = .list xs := by
  rcases normField_cases f (.list xs) with h | ⟨ys, h, _⟩
  · exact h
  · cases h

theorem normField_idem (f : FieldDef) (v : Val) : normField f (normField f v) = normField f v := by
  rcases normField_cases f v with h | ⟨xs, rfl, h⟩
  · rw [h, h]
  · rw [h, normField_list]

theorem toPrim_normField (S : List ClassDef) (f : FieldDef) (v : Val) : toPrim S (normField f v) = toPrim S v := by
  rcases normField_cases f v with h | ⟨xs, rfl, h⟩
  · rw [h]
  · rw [h]; simp [toPrim]

theorem skip_normField (f g : FieldDef) (v : Val) : skip g (normField f v) = skip g v := by
  rcases normField_cases f v with h | ⟨xs, rfl, h⟩
  · rw [h]
  · rw [h]; cases ho : g.optional <;> simp [skip, ho]

theorem normFields_idem (fs : List FieldDef) (vs : List Val) :
    normFields fs (normFields fs vs) = normFields fs vs := by
  induction fs generalizing vs with
  | nil => rfl
  | cons f fs ih =>
    cases vs with
    | nil => rfl
    | cons v vs => simp only [normFields, normField_idem, ih]

theorem mapFields_normFields (S : List ClassDef) (gs fs : List FieldDef) (vs : List Val) :
    mapFields S gs (normFields fs vs) = mapFields S gs vs := by
  induction fs generalizing gs vs with
  | nil => rfl
  | cons f fs ih =>
    cases vs with
    | nil => rfl
    | cons v vs =>
      cases gs with
      | nil => rfl
      | cons g gs => simp only [normFields, mapFields_cons, skip_normField, toPrim_normField, ih]

theorem arrFields_normFields (S : List ClassDef) (gs fs : List FieldDef) (vs : List Val) :
    arrFields S gs (normFields fs vs) = arrFields S gs vs := by
  induction fs generalizing gs vs with
  | nil => rfl
  | cons f fs ih =>
    cases vs with
    | nil => rfl
    | cons v vs =>
      cases gs with
      | nil => rfl
      | cons g gs => simp only [normFields, arrFields_cons, skip_normField, toPrim_normField, ih]

theorem bodyNorm_idem (S : List ClassDef) (v : Val) : bodyNorm S (bodyNorm S v) = bodyNorm S v := by
  cases v with
  | obj n fs =>
    simp only [bodyNorm]
    cases hl : lookup S n with
    | none => simp [hl]
    | some cd => simp [hl, normFields_idem]
  | _ => rfl

/-- the normalisation is invisible on the wire: a value and its normal form have the same primitive, hence the same bytes -/
theorem toPrim_bodyNorm (S : List ClassDef) (v : Val) : toPrim S (bodyNorm S v) = toPrim S v := by
  cases v with
  | obj n fs =>
    simp only [bodyNorm]
    cases hl : lookup S n with
    | none => rfl
    | some cd =>
      simp only [toPrim, hl]
      cases cd.kind <;> simp [mapFields_normFields, arrFields_normFields]
  | _ => rfl

/-- **decode ∘ encode on a dataclass value returns its normal form**, whenever the normal form is typed (for
`TransactionBody`: set-valued fields hold a list or a tagged / untagged ordered set; the untagged set of a
`Union[List[T], OrderedSet[T]]` field comes back as the list) -/
theorem decode_encode_bodyNorm (S : List ClassDef) (n : String) (v : Val) (h : HasType S (.cls n) (bodyNorm S v)) :
    Ev (fun fuel => fromPrim S fuel (.cls n) (toPrim S v) = .ok (bodyNorm S v)) := by
  rw [← toPrim_bodyNorm]
  exact rt_all h

end Pyc.Custom
