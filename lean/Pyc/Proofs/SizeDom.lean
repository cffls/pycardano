import Pyc.Model.SizeDom
import Pyc.Proofs.Cbor

/-! Helper lemmas for `Props/C07_SizeDom.lean`: structural dominance bounds the encoded size (functional induction
over `domB` / `domList` / `domPairs`), reflexivity, and what the greedy matching of lists and maps accepts. Core Lean
only. -/

namespace Pyc.SizeDom
open Pyc.Cbor

theorem headDom_iff (major a b : Nat) : headDom major a b = true ↔ (head major b).length ≤ (head major a).length :=
  decide_eq_true_iff

theorem headDom_of_le (major a b : Nat) (h : b ≤ a) : headDom major a b = true :=
  (headDom_iff ..).2 (head_length_mono major h)

theorem encodeChunks_length (cs : List Bytes) : (encodeChunks cs).length = chunksLen cs := by
  induction cs with
  | nil => rfl
  | cons c cs ih => simp only [encodeChunks, chunksLen, List.length_append, ih]

theorem dom_size_all :
    (∀ f r, domB f r = true → (encode r).length ≤ (encode f).length) ∧
    (∀ fs rs, domPairs fs rs = true → rs.length ≤ fs.length ∧ (encodePairs rs).length ≤ (encodePairs fs).length) ∧
    (∀ fs rs, domList fs rs = true → rs.length ≤ fs.length ∧ (encodeList rs).length ≤ (encodeList fs).length) := by
  apply domB.mutual_induct
  -- cases in the order of the equations of `domB` (1–11), `domList` (12–15) and `domPairs` (16–19); the hypothesis
  -- `h` is the right-hand side of the matching equation, up to unfolding
  case case1 | case2 | case10 => intro a b h; exact (headDom_iff ..).1 h
  case case3 | case5 =>
    intro a b h
    have hl : b.length ≤ a.length := of_decide_eq_true h
    have := head_length_mono 2 hl
    have := head_length_mono 3 hl
    simp only [encode, List.length_append]; omega
  case case4 =>
    intro a b h
    have : chunksLen b ≤ chunksLen a := of_decide_eq_true h
    simp only [encode, List.length_cons, List.length_append, encodeChunks_length]; omega
  case case6 =>
    intro fs rs ih h
    have := ih h
    have := head_length_mono 4 this.1
    simp only [encode, List.length_append]; omega
  case case7 =>
    intro fs rs ih h
    have := ih h
    simp only [encode, List.length_cons, List.length_append]; omega
  case case8 =>
    intro fs rs ih h
    have := ih h
    have := head_length_mono 5 this.1
    simp only [encode, List.length_append]; omega
  case case9 =>
    intro t x u y ih h
    obtain ⟨htu, hxy⟩ := Bool.and_eq_true_iff.1 h
    have := ih hxy
    simp only [encode, List.length_append, eq_of_beq htu]; omega
  case case11 => intro f r _ _ _ _ _ _ _ _ _ _ h; simp [domB] at h
  case case12 | case16 => intro t _; exact ⟨Nat.zero_le _, Nat.zero_le _⟩
  case case13 | case17 => intro _ _ h; cases h
  case case14 =>
    intro f fs r rs hd ih ihs h
    rw [domList, if_pos hd] at h
    have := ih hd
    have := ihs h
    simp only [encodeList, List.length_append, List.length_cons]; omega
  case case15 =>
    intro f fs r rs hd _ ihs h
    rw [domList, if_neg hd] at h
    have := ihs h
    simp only [encodeList, List.length_append, List.length_cons] at this ⊢; omega
  case case18 =>
    intro kf vf fs kr vr rs hd ih ihs h
    rw [domPairs, if_pos hd] at h
    obtain ⟨hk, hv⟩ := Bool.and_eq_true_iff.1 hd
    have := ih hv
    have := ihs h
    simp only [encodePairs, List.length_append, List.length_cons, eq_of_beq hk]; omega
  case case19 =>
    intro kf vf fs kr vr rs hd _ ihs h
    rw [domPairs, if_neg hd] at h
    have := ihs h
    simp only [encodePairs, List.length_append, List.length_cons] at this ⊢; omega

mutual
theorem domB_refl (x : Item) : domB x x = true := by
  cases x with
  | uint a | nint a | simple a => exact headDom_of_le _ a a (Nat.le_refl a)
  | bytes a | text a | bytesChunked a => exact decide_eq_true (Nat.le_refl _)
  | tag t x => simp only [domB, beq_self_eq_true, domB_refl x, Bool.and_self]
  | array xs | arrayIndef xs => exact domList_refl xs
  | map kvs => exact domPairs_refl kvs
theorem domList_refl (xs : List Item) : domList xs xs = true := by
  cases xs with
  | nil => rfl
  | cons x xs => simp only [domList, domB_refl x, domList_refl xs, if_true]
theorem domPairs_refl (kvs : List (Item × Item)) : domPairs kvs kvs = true := by
  cases kvs with
  | nil => rfl
  | cons p kvs =>
    obtain ⟨k, v⟩ := p
    simp only [domPairs, beq_self_eq_true, domB_refl v, domPairs_refl kvs, Bool.and_self, if_true]
end

/-! ## the greedy matching

`domList` and `domPairs` match the real elements, in order, each with the first fake element not yet passed that
dominates it. What such a matching accepts does not depend on the relation between single elements. -/

section embeds
variable {α : Type} (d : α → α → Bool)

def embeds : List α → List α → Bool
  | _, [] => true
  | [], _ :: _ => false
  | f :: fs, r :: rs => if d f r then embeds fs rs else embeds fs (r :: rs)

theorem embeds_weaken (fs : List α) :
    (∀ f rs, embeds d fs rs = true → embeds d (f :: fs) rs = true) ∧
    (∀ r rs, embeds d fs (r :: rs) = true → embeds d fs rs = true) := by
  induction fs with
  | nil =>
    refine ⟨fun f rs h => ?_, fun r rs h => nomatch h⟩
    cases rs with
    | nil => rfl
    | cons r rs' => nomatch h
  | cons f' fs' ih =>
    have hB : ∀ r rs, embeds d (f' :: fs') (r :: rs) = true → embeds d (f' :: fs') rs = true := by
      intro r rs h
      rw [embeds] at h
      split at h
      · exact ih.1 f' rs h
      · exact ih.1 f' rs (ih.2 r rs h)
    refine ⟨fun f rs h => ?_, hB⟩
    cases rs with
    | nil => rfl
    | cons r rs' =>
      rw [embeds]
      split
      · exact hB r rs' h
      · exact h

theorem embeds_of_sublist (hd : ∀ a, d a a = true) {fs rs : List α} (h : rs.Sublist fs) : embeds d fs rs = true := by
  induction h with
  | slnil => rfl
  | cons a _ ih => exact (embeds_weaken d _).1 a _ ih
  | cons_cons a _ ih => rw [embeds, if_pos (hd a)]; exact ih

theorem embeds_of_pointwise (fs rs : List α) (hl : rs.length ≤ fs.length)
    (h : ∀ i (hi : i < rs.length), d (fs[i]'(by omega)) (rs[i]) = true) : embeds d fs rs = true := by
  induction fs generalizing rs with
  | nil =>
    cases rs with
    | nil => rfl
    | cons r rs => simp at hl
  | cons f fs ih =>
    cases rs with
    | nil => rfl
    | cons r rs =>
      rw [embeds, if_pos (show d f r = true from h 0 (Nat.zero_lt_succ _))]
      exact ih rs (Nat.le_of_succ_le_succ hl) fun i hi => h (i + 1) (Nat.succ_lt_succ hi)

end embeds

theorem domList_eq_embeds (fs rs : List Item) : domList fs rs = embeds domB fs rs := by
  fun_induction embeds domB fs rs <;> simp only [domList, *, Bool.false_eq_true, if_true, if_false]

theorem domPairs_eq_embeds (fs rs : List (Item × Item)) :
    domPairs fs rs = embeds (fun f r => encode f.1 == encode r.1 && domB f.2 r.2) fs rs := by
  fun_induction embeds (fun f r : Item × Item => encode f.1 == encode r.1 && domB f.2 r.2) fs rs <;>
    simp only [domPairs, *, Bool.false_eq_true, if_true, if_false]

theorem domList_of_sublist (fs rs : List Item) (h : rs.Sublist fs) : domList fs rs = true :=
  domList_eq_embeds .. ▸ embeds_of_sublist _ domB_refl h

theorem domList_of_pointwise (fs rs : List Item) (hl : rs.length ≤ fs.length)
    (h : ∀ i (hi : i < rs.length), domB (fs[i]'(by omega)) (rs[i]) = true) : domList fs rs = true :=
  domList_eq_embeds .. ▸ embeds_of_pointwise _ fs rs hl h

theorem domPairs_of_sublist (fs rs : List (Item × Item)) (h : rs.Sublist fs) : domPairs fs rs = true :=
  domPairs_eq_embeds .. ▸
    embeds_of_sublist _ (fun a => by simp only [beq_self_eq_true, domB_refl, Bool.and_self]) h

end Pyc.SizeDom
