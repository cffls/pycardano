import Pyc.Model.BodyAsm
import Pyc.Proofs.Redeemers

/-! Helper lemmas for `Pyc/Props/C06_BodyAsm.lean`: `oset` (the `OrderedSet` constructor) keeps exactly the elements of
its argument, once each, in order of first occurrence; what the `X if X else None` guards keep; which keys the body writes;
`finalizeState` field by field; the pieces of the ledger / state bridge. -/

namespace Pyc.BodyAsm
open Pyc.Builder

section oset
variable {α : Type} [DecidableEq α]

theorem foldl_addIfAbsent_eq (l acc : List α) :
    l.foldl Rd.addIfAbsent acc = acc ++ (oset l).filter (fun y => decide (y ∉ acc)) := by
  induction l generalizing acc with
  | nil => simp [oset]
  | cons a l ih =>
    have hc : oset (a :: l) = [a] ++ (oset l).filter (fun y => decide (y ∉ [a])) := ih [a]
    rw [List.foldl_cons, ih, hc, List.filter_append, List.filter_filter, Rd.addIfAbsent]
    by_cases ha : a ∈ acc
    · rw [if_pos ha, List.filter_cons, List.filter_nil, if_neg (by simpa using ha), List.nil_append]
      refine congrArg (acc ++ ·) (List.filter_congr fun y _ => ?_)
      by_cases hy : y ∈ acc
      · simp [hy]
      · simp [hy, show y ≠ a from fun h => hy (h ▸ ha)]
    · rw [if_neg ha, List.filter_cons, List.filter_nil, if_pos (by simpa using ha), List.append_assoc]
      exact congrArg (fun t => acc ++ ([a] ++ t)) (List.filter_congr fun y _ => by simp)

theorem oset_cons (a : α) (l : List α) : oset (a :: l) = a :: (oset l).filter (· != a) := by
  rw [show oset (a :: l) = l.foldl Rd.addIfAbsent [a] from rfl, foldl_addIfAbsent_eq]
  exact congrArg (a :: ·) (List.filter_congr fun y _ => by rw [Bool.eq_iff_iff]; simp)

theorem mem_oset (l : List α) (x : α) : x ∈ oset l ↔ x ∈ l := by
  unfold oset; rw [mem_foldl_addIfAbsent]; simp

theorem nodup_oset (l : List α) : (oset l).Nodup := nodup_foldl_addIfAbsent l [] List.nodup_nil

theorem oset_sublist (l : List α) : (oset l).Sublist l := by
  induction l with
  | nil => exact List.Sublist.refl _
  | cons a l ih => rw [oset_cons]; exact (List.filter_sublist.trans ih).cons_cons a

theorem oset_of_nodup (l : List α) (h : l.Nodup) : oset l = l := by
  induction l with
  | nil => rfl
  | cons a l ih =>
    obtain ⟨ha, hl⟩ := List.nodup_cons.1 h
    rw [oset_cons, ih hl, List.filter_eq_self.2 fun y hy => bne_iff_ne.2 fun e : y = a => ha (e ▸ hy)]

theorem oset_idem (l : List α) : oset (oset l) = oset l := oset_of_nodup _ (nodup_oset l)

theorem oset_eq_nil (l : List α) : oset l = [] ↔ l = [] := by
  cases l with
  | nil => exact iff_of_true rfl rfl
  | cons a l => rw [oset_cons]; exact iff_of_false (List.cons_ne_nil _ _) (List.cons_ne_nil _ _)

end oset

/-- `oset` on transaction inputs is the de-duplication `Rd.bodyInputs` that C11 states its rank theorems about -/
theorem oset_eq_bodyInputs (l : List Rd.TxIn) : oset l = Rd.bodyInputs l := by
  induction l with
  | nil => rfl
  | cons a l ih => rw [oset_cons, Rd.bodyInputs, ih]

/-! ## the truthiness helpers: `x if x else None` is `Option.filter` -/

theorem truthyInt_eq_filter (o : Option Int) : truthyInt o = o.filter (fun n => decide (n ≠ 0)) := by
  cases o with
  | none => rfl
  | some n => by_cases h : n = 0 <;> simp [truthyInt, Option.filter, h]

theorem truthyList_eq_filter {α : Type} (o : Option (List α)) : truthyList o = o.filter (fun l => !l.isEmpty) := by
  cases o with
  | none => rfl
  | some l => cases l <;> rfl

theorem truthyInt_eq_some (o : Option Int) (d : Int) : truthyInt o = some d ↔ o = some d ∧ d ≠ 0 := by
  simp [truthyInt_eq_filter, Option.filter_eq_some_iff]

theorem truthyList_eq_some {α : Type} (o : Option (List α)) (l : List α) :
    truthyList o = some l ↔ o = some l ∧ l ≠ [] := by
  simp [truthyList_eq_filter, Option.filter_eq_some_iff]

theorem truthyInt_eq_none (o : Option Int) : truthyInt o = none ↔ o.getD 0 = 0 := by
  cases o <;> simp [truthyInt_eq_filter]

theorem truthyList_eq_none {α : Type} (o : Option (List α)) : truthyList o = none ↔ o.getD [] = [] := by
  cases o <;> simp [truthyList_eq_filter]

theorem truthyInt_getD (o : Option Int) : (truthyInt o).getD 0 = o.getD 0 := by
  cases h : truthyInt o with
  | none => exact ((truthyInt_eq_none o).1 h).symm
  | some d => rw [((truthyInt_eq_some o d).1 h).1]

theorem truthyList_getD {α : Type} (o : Option (List α)) : (truthyList o).getD [] = o.getD [] := by
  cases h : truthyList o with
  | none => exact ((truthyList_eq_none o).1 h).symm
  | some d => rw [((truthyList_eq_some o d).1 h).1]

theorem eq_none_iff_getD_nil {α : Type} {o : Option (List α)} (h : o ≠ some []) : o = none ↔ o.getD [] = [] := by
  cases o with
  | none => exact iff_of_true rfl rfl
  | some l => exact iff_of_false nofun fun e => h (congrArg some e)

theorem whenNonEmpty_eq_none {α β : Type} (l : List α) (f : List α → β) : whenNonEmpty l f = none ↔ l = [] := by
  cases l <;> simp [whenNonEmpty]

theorem whenNonEmpty_getD {α β : Type} (l : List α) (f : List α → List β) (h : f [] = []) :
    (whenNonEmpty l f).getD [] = f l := by
  cases l with
  | nil => simp [whenNonEmpty, h]
  | cons a l => simp [whenNonEmpty]

theorem isSome_truthyInt (o : Option Int) : (truthyInt o).isSome = true ↔ o.getD 0 ≠ 0 := by
  rw [Option.isSome_iff_ne_none, Ne, truthyInt_eq_none]

theorem isSome_truthyList {α : Type} (o : Option (List α)) : (truthyList o).isSome = true ↔ o.getD [] ≠ [] := by
  rw [Option.isSome_iff_ne_none, Ne, truthyList_eq_none]

theorem isSome_whenNonEmpty {α β : Type} (l : List α) (f : List α → β) : (whenNonEmpty l f).isSome = true ↔ l ≠ [] := by
  rw [Option.isSome_iff_ne_none, Ne, whenNonEmpty_eq_none]

theorem sdhPre_eq_none (i : SdhIn) : sdhPre i = none ↔ i.datums = [] ∧ i.redeemers = [] := by
  unfold sdhPre
  split
  · next h =>
    rw [Bool.and_eq_true, List.isEmpty_iff, List.isEmpty_iff] at h
    exact iff_of_true rfl h
  · next h =>
    rw [Bool.and_eq_true, List.isEmpty_iff, List.isEmpty_iff] at h
    exact iff_of_false (Option.some_ne_none _) h

theorem mem_ite_singleton {c : Prop} [Decidable c] {k j : Nat} : k ∈ (if c then [j] else []) ↔ c ∧ k = j := by
  split <;> simp [*]

theorem mem_keys (b : Body) (k : Nat) : k ∈ b.keys ↔
    (k ∈ [0, 1, 2] ∨ (b.ttl.isSome ∧ k = 3) ∨ (b.certificates.isSome ∧ k = 4) ∨ (b.withdrawals.isSome ∧ k = 5)
      ∨ (b.update.isSome ∧ k = 6) ∨ (b.auxHashPre.isSome ∧ k = 7) ∨ (b.validityStart.isSome ∧ k = 8) ∨ (b.mint.isSome ∧ k = 9)
      ∨ (b.scriptDataPre.isSome ∧ k = 11) ∨ (b.collateral.isSome ∧ k = 13) ∨ (b.requiredSigners.isSome ∧ k = 14)
      ∨ (b.networkId.isSome ∧ k = 15) ∨ (b.collateralReturn.isSome ∧ k = 16) ∨ (b.totalCollateral.isSome ∧ k = 17)
      ∨ (b.referenceInputs.isSome ∧ k = 18) ∨ (b.voting.isSome ∧ k = 19) ∨ (b.proposals.isSome ∧ k = 20)
      ∨ (b.treasury.isSome ∧ k = 21) ∨ (b.donation.isSome ∧ k = 22)) := by
  simp only [Body.keys, List.mem_append, mem_ite_singleton, or_assoc]

theorem body_inputs (s : BState) : (buildBody s).inputs = oset (s.inputs.map (·.ref)) := rfl
theorem body_collateral (s : BState) :
    (buildBody s).collateral = whenNonEmpty s.collaterals (fun l => oset (l.map (·.ref))) := rfl
theorem body_referenceInputs (s : BState) :
    (buildBody s).referenceInputs = whenNonEmpty s.referenceInputs (fun l => oset (l.map RefEntry.ref)) := rfl

theorem body_referenceInputs_getD (s : BState) :
    (buildBody s).referenceInputs.getD [] = oset (s.referenceInputs.map RefEntry.ref) := by
  rw [body_referenceInputs]; exact whenNonEmpty_getD _ _ rfl

/-- which keys `to_cbor()` writes of the body `_build_tx_body` returns, in terms of the builder's state: 0, 1, 2 always; 6 and
15 never; a passed-through field when it is not `None`; a guarded field when the state holds content for it -/
theorem mem_keys_buildBody (s : BState) (k : Nat) : k ∈ (buildBody s).keys ↔
    (k ∈ [0, 1, 2] ∨ (s.ttl.isSome ∧ k = 3) ∨ (s.certificates.isSome ∧ k = 4) ∨ (s.withdrawals.isSome ∧ k = 5)
      ∨ (s.auxData.isSome ∧ k = 7) ∨ (s.validityStart.isSome ∧ k = 8) ∨ (s.mint.isSome ∧ k = 9)
      ∨ ((sdhPre s.sdh).isSome ∧ k = 11) ∨ (s.collaterals ≠ [] ∧ k = 13) ∨ (s.requiredSigners.getD [] ≠ [] ∧ k = 14)
      ∨ (s.collateralReturn.isSome ∧ k = 16) ∨ (s.totalCollateral.isSome ∧ k = 17) ∨ (s.referenceInputs ≠ [] ∧ k = 18)
      ∨ (s.voting.getD [] ≠ [] ∧ k = 19) ∨ (s.proposals.getD [] ≠ [] ∧ k = 20)
      ∨ (s.treasury.getD 0 ≠ 0 ∧ k = 21) ∨ (s.donation.getD 0 ≠ 0 ∧ k = 22)) := by
  rw [mem_keys]
  dsimp only [buildBody]
  simp only [Option.isSome_map, isSome_truthyInt, isSome_truthyList, isSome_whenNonEmpty, Option.isSome_none,
    Bool.false_eq_true, false_and, false_or]

/-! ## the tail of `build()` -/

theorem finalizeState_eq (o : BuildOpts) (sel : List UTxO) (s : BState) :
    finalizeState o sel s =
      { withInterval o sel s with
        requiredSigners :=
          if autoSignersApply o (withInterval o sel s) then some (inputVkeyHashes (withInterval o sel s))
          else s.requiredSigners } := by
  unfold finalizeState; split <;> rfl

theorem finalizeState_ttl (o : BuildOpts) (sel : List UTxO) (s : BState) :
    (finalizeState o sel s).ttl =
      if (o.isSmart || o.offTtl.isSome) && s.ttl.isNone then some (max 0 (o.slot + o.offTtl.getD 10000)) else s.ttl := by
  rw [finalizeState_eq]; rfl

theorem finalizeState_validityStart (o : BuildOpts) (sel : List UTxO) (s : BState) :
    (finalizeState o sel s).validityStart =
      if (o.isSmart || o.offStart.isSome) && s.validityStart.isNone then some (max 0 (o.slot + o.offStart.getD (-1000)))
      else s.validityStart := by
  rw [finalizeState_eq]; rfl

theorem finalizeState_requiredSigners (o : BuildOpts) (sel : List UTxO) (s : BState) :
    (finalizeState o sel s).requiredSigners =
      if (o.isSmart && o.autoSigners != some false) && s.requiredSigners.isNone then
        some (inputVkeyHashes (withInterval o sel s))
      else s.requiredSigners := by
  rw [finalizeState_eq]; rfl

/-! ## the ledger's reading of a body -/

theorem certDeposit_sub_refund (P : Params) (ip : Bool) (c : CertD) :
    Ledger.certDeposit P ip c - Ledger.certRefund P c =
      (match c with
       | .stakeReg _ => P.keyDeposit
       | .stakeDereg => -P.keyDeposit
       | .explicitDeposit k => k
       | .explicitRefund k => -k
       | .poolReg _ => if ip then P.poolDeposit else 0
       | .other => 0) := by
  cases c <;> simp [Ledger.certDeposit, Ledger.certRefund]

theorem Ledger.sum_map_resolve (utxo : Ref → Option Value) (f : Value → Int) (l : List UTxO)
    (h : ∀ u ∈ l, utxo u.ref = some u.amount) :
    ((l.map (·.ref)).map fun r => f (Ledger.resolve utxo r)).sum = (l.map fun u => f u.amount).sum := by
  rw [List.map_map]
  exact congrArg List.sum (List.map_congr_left fun u hu => by rw [Function.comp, Ledger.resolve, h u hu]; rfl)

theorem Ledger.posPart_sub_negPart (q : Int) : Ledger.posPart q - Ledger.negPart q = q := by
  unfold Ledger.posPart Ledger.negPart
  split <;> split <;> omega

end Pyc.BodyAsm
