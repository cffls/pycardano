import Pyc.Proofs.Value
import Pyc.Proofs.Basic
import Pyc.Model.Builder

/-! The builder's accounting core (`Model/Builder.lean`): token packing (`packAsset`, `packPolicies`, `packTokens`) keeps every
quantity and the invariant `PackWF`; `_calc_change` and its loop through their inversions (`changeLoop_cons_ok`, `calcChange_ok`),
with `changeValue` the change before packing; merging into an existing output and the final output list (`finalOutputs_ok`). -/

namespace Pyc

theorem ite_add_ite (c d : Prop) [Decidable c] [Decidable d] (x y : Int) :
    (if c then x + (if d then y else 0) else 0) = (if c then x else 0) + (if c ∧ d then y else 0) := by
  by_cases hc : c <;> simp [hc]

end Pyc

namespace Pyc.Builder
open Pyc.Dict

/-! ## contents of small bundles, `flush` -/

/-- total quantity of asset `(p, n)` over a list of bundles -/
def sumQty (ms : List MultiAsset) (p n : Bytes) : Int := (ms.map (fun m => MultiAsset.qty m p n)).sum

theorem sumQty_append (a b : List MultiAsset) (p n : Bytes) : sumQty (a ++ b) p n = sumQty a p n + sumQty b p n := by
  simp only [sumQty, List.map_append, List.sum_append]

theorem sumQty_cons (m : MultiAsset) (ms : List MultiAsset) (p n : Bytes) :
    sumQty (m :: ms) p n = MultiAsset.qty m p n + sumQty ms p n := rfl

theorem qty_nil (p n : Bytes) : MultiAsset.qty [] p n = 0 := rfl

theorem asset_qty_nil (n : Bytes) : Asset.qty [] n = 0 := rfl

theorem asset_qty_cons (k : Bytes) (v : Int) (r : Asset) (n : Bytes) :
    Asset.qty ((k, v) :: r) n = if k = n then v else Asset.qty r n := rfl

theorem qty_cons (pol : Bytes) (t : Asset) (r : MultiAsset) (p n : Bytes) :
    MultiAsset.qty ((pol, t) :: r) p n = if pol = p then Asset.qty t n else MultiAsset.qty r p n := by
  unfold MultiAsset.qty
  rw [getD_cons, apply_ite (Asset.qty · n)]

theorem qty_single (pol : Bytes) (t : Asset) (p n : Bytes) :
    MultiAsset.qty [(pol, t)] p n = if pol = p then Asset.qty t n else 0 := qty_cons pol t [] p n

theorem wf_single (pol : Bytes) (t : Asset) (h : Dict.WF t) : MultiAsset.WF [(pol, t)] :=
  ⟨(wf_cons_iff _ _).2 ⟨rfl, Dict.wf_nil⟩, fun _ hq => List.mem_singleton.1 hq ▸ h⟩

theorem asset_qty_single (n : Bytes) (q : Int) (n' : Bytes) : Asset.qty [(n, q)] n' = if n = n' then q else 0 :=
  asset_qty_cons n q [] n'

theorem asset_wf_single (n : Bytes) (q : Int) : Dict.WF [(n, q)] := (wf_cons_iff _ _).2 ⟨rfl, Dict.wf_nil⟩

theorem asset_qty_add_single (t : Asset) (ht : Dict.WF t) (a : Bytes × Int) (n : Bytes) :
    Asset.qty (Asset.add t [a]) n = Asset.qty t n + if a.1 = n then a.2 else 0 := by
  rw [Asset.qty_add _ _ _ ht (asset_wf_single a.1 a.2), asset_qty_single]

theorem qty_flush (out : Value) (pol : Bytes) (t : Asset) (ho : MultiAsset.WF out.ma) (ht : Dict.WF t) (p n : Bytes) :
    MultiAsset.qty (flush out pol t).ma p n = MultiAsset.qty out.ma p n + (if pol = p then Asset.qty t n else 0) := by
  show MultiAsset.qty (MultiAsset.add out.ma (MultiAsset.add [] [(pol, t)])) p n = _
  rw [MultiAsset.qty_add _ _ _ _ ho (MultiAsset.wf_add _ _ MultiAsset.wf_nil),
    MultiAsset.qty_add _ _ _ _ MultiAsset.wf_nil (wf_single pol t ht), qty_nil, qty_single, Int.zero_add]

theorem wf_flush (out : Value) (pol : Bytes) (t : Asset) (ho : MultiAsset.WF out.ma) :
    MultiAsset.WF (flush out pol t).ma := MultiAsset.wf_add _ _ ho

theorem flush_coin (out : Value) (pol : Bytes) (t : Asset) : (flush out pol t).coin = out.coin :=
  Int.add_zero _

/-! ## `_pack_tokens_for_change` -/

/-- the output a chunk is closed with: the buffer is flushed into it, unless the buffer is empty -/
def closeChunk (out : Value) (pol : Bytes) (temp : Asset) : Value :=
  if temp.isEmpty then out else flush out pol temp

theorem wf_closeChunk (out : Value) (pol : Bytes) (t : Asset) (ho : MultiAsset.WF out.ma) :
    MultiAsset.WF (closeChunk out pol t).ma := by
  unfold closeChunk
  split
  · exact ho
  · exact wf_flush _ _ _ ho

theorem qty_closeChunk (out : Value) (pol : Bytes) (t : Asset) (ho : MultiAsset.WF out.ma) (ht : Dict.WF t)
    (p n : Bytes) :
    MultiAsset.qty (closeChunk out pol t).ma p n = MultiAsset.qty out.ma p n + (if pol = p then Asset.qty t n else 0) := by
  unfold closeChunk
  split
  · rename_i h
    rw [List.isEmpty_iff.1 h, asset_qty_nil, ite_self, Int.add_zero]
  · exact qty_flush _ _ _ ho ht p n

variable {P : Params} {addr : Bytes} {c0 : Int} {pol : Bytes}

theorem packAsset_overflow {s : PackState} {a : Bytes × Int} (h : overflow P addr s.out s.temp pol a.1 a.2 = true) :
    packAsset P addr c0 pol s a =
      { arr := s.arr ++ [(closeChunk s.out pol s.temp).ma], out := ⟨c0, []⟩, temp := Asset.add [] [a],
        old := ⟨c0, []⟩ } := by
  simp only [packAsset, closeChunk, h, if_true]

theorem packAsset_fit {s : PackState} {a : Bytes × Int} (h : overflow P addr s.out s.temp pol a.1 a.2 = false) :
    packAsset P addr c0 pol s a = { s with temp := Asset.add s.temp [a] } := by
  simp only [packAsset, h, Bool.false_eq_true, if_false]

structure PackWF (s : PackState) : Prop where
  out : MultiAsset.WF s.out.ma
  temp : Dict.WF s.temp
  old : MultiAsset.WF s.old.ma
  arr : ∀ m ∈ s.arr, MultiAsset.WF m

theorem packAsset_wf (s : PackState) (a : Bytes × Int) (h : PackWF s) : PackWF (packAsset P addr c0 pol s a) := by
  cases ho : overflow P addr s.out s.temp pol a.1 a.2 with
  | false => rw [packAsset_fit ho]; exact ⟨h.out, Asset.wf_add _ _ h.temp, h.old, h.arr⟩
  | true =>
    rw [packAsset_overflow ho]
    refine ⟨MultiAsset.wf_nil, Asset.wf_add _ _ Dict.wf_nil, MultiAsset.wf_nil, fun m hm => ?_⟩
    rcases List.mem_append.1 hm with hm | hm
    · exact h.arr m hm
    · exact List.mem_singleton.1 hm ▸ wf_closeChunk _ _ _ h.out

/-- accounting invariant of the packing loops: everything seen so far is in `arr`, `out` or the buffer -/
def total (s : PackState) (pol : Bytes) (p n : Bytes) : Int :=
  sumQty s.arr p n + MultiAsset.qty s.out.ma p n + (if pol = p then Asset.qty s.temp n else 0)

theorem packAsset_total (s : PackState) (a : Bytes × Int) (h : PackWF s) (p n : Bytes) :
    total (packAsset P addr c0 pol s a) pol p n = total s pol p n + (if pol = p ∧ a.1 = n then a.2 else 0) := by
  unfold total
  cases ho : overflow P addr s.out s.temp pol a.1 a.2 with
  | false =>
    rw [packAsset_fit ho]
    simp only
    rw [asset_qty_add_single _ h.temp, ite_add_ite]
    omega
  | true =>
    rw [packAsset_overflow ho]
    simp only
    rw [sumQty_append, sumQty_cons, qty_closeChunk _ _ _ h.out h.temp, qty_nil, asset_qty_add_single _ Dict.wf_nil,
      asset_qty_nil, ite_add_ite, ite_self]
    simp only [sumQty, List.map_nil, List.sum_nil]
    omega

/-- the state after the inner loop of one policy -/
def afterPolicy (P : Params) (addr : Bytes) (c0 : Int) (pol : Bytes) (assets : Asset) (s : PackState) : PackState :=
  assets.foldl (packAsset P addr c0 pol) { s with temp := [], old := s.out }

theorem afterPolicy_wf (assets : Asset) (s : PackState) (h : PackWF s) : PackWF (afterPolicy P addr c0 pol assets s) :=
  foldl_invariant (fun _ t => PackWF t) _ assets _ ⟨h.out, Dict.wf_nil, h.out, h.arr⟩
    (fun _ a t _ ht => packAsset_wf t a ht)

theorem sum_match (assets : Asset) (hw : Dict.WF assets) (pol p n : Bytes) :
    (assets.map (fun a => if pol = p ∧ a.1 = n then a.2 else 0)).sum = if pol = p then Asset.qty assets n else 0 := by
  induction assets with
  | nil => rw [asset_qty_nil, ite_self]; rfl
  | cons a r ih =>
    obtain ⟨k, v⟩ := a
    obtain ⟨hh, hr⟩ := (wf_cons_iff _ _).1 hw
    rw [List.map_cons, List.sum_cons, ih hr, asset_qty_cons]
    by_cases hk : k = n
    · subst hk
      have : Asset.qty r k = 0 := has_false_getD _ _ _ hh
      simp only [this, and_true, if_true, ite_self, Int.add_zero]
    · simp only [hk, and_false, if_false, Int.zero_add]

theorem afterPolicy_total (assets : Asset) (s : PackState) (h : PackWF s) (hw : Dict.WF assets) (p n : Bytes) :
    total (afterPolicy P addr c0 pol assets s) pol p n
      = sumQty s.arr p n + MultiAsset.qty s.out.ma p n + (if pol = p then Asset.qty assets n else 0) := by
  have := foldl_invariant
    (fun pre t => PackWF t ∧ total t pol p n = sumQty s.arr p n + MultiAsset.qty s.out.ma p n
      + (pre.map (fun a => if pol = p ∧ a.1 = n then a.2 else 0)).sum)
    (packAsset P addr c0 pol) assets { s with temp := [], old := s.out }
    ⟨⟨h.out, Dict.wf_nil, h.out, h.arr⟩, by simp only [total, asset_qty_nil, ite_self, List.map_nil, List.sum_nil]⟩
    (fun pre a t _ ht => ⟨packAsset_wf t a ht.1, by
      rw [packAsset_total t a ht.1, ht.2, List.map_append, List.sum_append]
      simp only [List.map_cons, List.map_nil, List.sum_cons, List.sum_nil]
      omega⟩)
  rw [← sum_match assets hw]
  exact this.2

theorem packPolicies_cons (pol : Bytes) (assets : Asset) (rest : List (Bytes × Asset)) (s : PackState) :
    packPolicies P addr c0 ((pol, assets) :: rest) s =
      (let s1 := afterPolicy P addr c0 pol assets s
       let out2 := flush s1.out pol s1.temp
       if (encValue ⟨max (minAda P addr out2) out2.coin, out2.ma⟩).length > P.maxValSize then
         ({ s1 with out := s1.old, temp := [] }, true)
       else packPolicies P addr c0 rest { s1 with out := out2, temp := [] }) := rfl

theorem packPolicies_wf (pols : List (Bytes × Asset)) (s : PackState) (h : PackWF s) :
    PackWF (packPolicies P addr c0 pols s).1 := by
  induction pols generalizing s with
  | nil => exact h
  | cons pa rest ih =>
    obtain ⟨pol, assets⟩ := pa
    have h1 := afterPolicy_wf (P := P) (addr := addr) (c0 := c0) (pol := pol) assets s h
    rw [packPolicies_cons]
    dsimp only
    split
    · exact ⟨h1.old, Dict.wf_nil, h1.old, h1.arr⟩
    · exact ih _ ⟨wf_flush _ _ _ h1.out, Dict.wf_nil, h1.old, h1.arr⟩

theorem packPolicies_total (pols : List (Bytes × Asset)) (s : PackState) (hs : PackWF s) (hp : MultiAsset.WF pols)
    (hnb : (packPolicies P addr c0 pols s).2 = false) (p n : Bytes) :
    sumQty (packPolicies P addr c0 pols s).1.arr p n + MultiAsset.qty (packPolicies P addr c0 pols s).1.out.ma p n
      = sumQty s.arr p n + MultiAsset.qty s.out.ma p n + MultiAsset.qty pols p n := by
  induction pols generalizing s with
  | nil => rw [qty_nil, Int.add_zero]; rfl
  | cons pa rest ih =>
    obtain ⟨pol, assets⟩ := pa
    obtain ⟨hhead, hrest1⟩ := (wf_cons_iff _ _).1 hp.1
    have hrest : MultiAsset.WF rest := ⟨hrest1, fun q hq => hp.2 q (List.mem_cons_of_mem _ hq)⟩
    have h1 := afterPolicy_wf (P := P) (addr := addr) (c0 := c0) (pol := pol) assets s hs
    have ht := afterPolicy_total (P := P) (addr := addr) (c0 := c0) (pol := pol) assets s hs
      (hp.2 _ List.mem_cons_self) p n
    rw [packPolicies_cons] at hnb ⊢
    generalize afterPolicy P addr c0 pol assets s = s1 at h1 ht hnb ⊢
    dsimp only at hnb ⊢
    split at hnb
    · cases hnb
    · rename_i hsize
      rw [if_neg hsize, ih { s1 with out := flush s1.out pol s1.temp, temp := [] }
        ⟨wf_flush _ _ _ h1.out, Dict.wf_nil, h1.old, h1.arr⟩ hrest hnb]
      simp only
      rw [qty_flush _ _ _ h1.out h1.temp, qty_cons]
      unfold total at ht
      by_cases hpp : pol = p
      · have : MultiAsset.qty rest p n = 0 := hpp ▸ MultiAsset.qty_of_not_has rest pol n hhead
        simp only [hpp, if_true] at ht ⊢
        omega
      · simp only [hpp, if_false] at ht ⊢
        omega

theorem packTokens_eq (ch : Value) :
    packTokens P addr ch =
      ((packPolicies P addr ch.coin ch.ma ⟨[], ⟨ch.coin, []⟩, [], ⟨ch.coin, []⟩⟩).1.arr
        ++ [(packPolicies P addr ch.coin ch.ma ⟨[], ⟨ch.coin, []⟩, [], ⟨ch.coin, []⟩⟩).1.out.ma],
       (packPolicies P addr ch.coin ch.ma ⟨[], ⟨ch.coin, []⟩, [], ⟨ch.coin, []⟩⟩).2) := rfl

theorem packWF_init (c : Int) : PackWF ⟨[], ⟨c, []⟩, [], ⟨c, []⟩⟩ :=
  ⟨MultiAsset.wf_nil, Dict.wf_nil, MultiAsset.wf_nil, fun _ hm => nomatch hm⟩

/-- the bundles returned by `_pack_tokens_for_change` add up to the change's assets -/
theorem packTokens_preserves (P : Params) (addr : Bytes) (ch : Value) (hw : MultiAsset.WF ch.ma)
    (hnb : (packTokens P addr ch).2 = false) (p n : Bytes) :
    sumQty (packTokens P addr ch).1 p n = MultiAsset.qty ch.ma p n := by
  rw [packTokens_eq] at hnb ⊢
  have := packPolicies_total ch.ma _ (packWF_init ch.coin) hw hnb p n
  rw [sumQty_append, sumQty_cons]
  simp only [sumQty, List.map_nil, List.sum_nil, qty_nil] at this ⊢
  omega

theorem packTokens_wf (P : Params) (addr : Bytes) (ch : Value) :
    ∀ m ∈ (packTokens P addr ch).1, MultiAsset.WF m := by
  have := packPolicies_wf (P := P) (addr := addr) (c0 := ch.coin) ch.ma _ (packWF_init ch.coin)
  intro m hm
  rw [packTokens_eq] at hm
  rcases List.mem_append.1 hm with hm | hm
  · exact this.arr m hm
  · exact List.mem_singleton.1 hm ▸ this.out

theorem packTokens_ne_nil (P : Params) (addr : Bytes) (ch : Value) : (packTokens P addr ch).1 ≠ [] :=
  List.append_ne_nil_of_right_ne_nil _ (List.cons_ne_nil _ _)

/-! ## `_calc_change` -/

def sumCoin (os : List Output) : Int := (os.map (fun o => o.amount.coin)).sum
def sumAsset (os : List Output) (p n : Bytes) : Int := (os.map (fun o => MultiAsset.qty o.amount.ma p n)).sum

/-- the amount the loop gives the output for bundle `m`: what is left of the ADA when `m` is the last bundle, the minimum
ADA of `m` otherwise -/
def changeOut (P : Params) (addr : Bytes) (m : MultiAsset) (last : Bool) (ch : Value) : Value :=
  if last then ⟨ch.coin, m⟩ else ⟨minAda P addr ⟨0, m⟩, m⟩

def changeRest (ch cv : Value) : Value := ⟨(Value.sub ch cv).coin, posFilter (Value.sub ch cv).ma⟩

theorem changeOut_ma (m : MultiAsset) (last : Bool) (ch : Value) : (changeOut P addr m last ch).ma = m := by
  unfold changeOut; split <;> rfl

theorem changeLoop_cons_ok {r : Bool} {m : MultiAsset} {rest : List MultiAsset} {ch : Value} {outs : List Output} :
    changeLoop P addr r (m :: rest) ch = .ok outs ↔
      ¬ (r = true ∧ ch.coin < minAda P addr ⟨0, m⟩) ∧
      ∃ outs', changeLoop P addr r rest (changeRest ch (changeOut P addr m rest.isEmpty ch)) = .ok outs' ∧
        outs = { addr := addr, amount := changeOut P addr m rest.isEmpty ch } :: outs' := by
  have e : (r = true ∧ ch.coin < minAda P addr ⟨0, m⟩) ↔ (r && decide (ch.coin < minAda P addr ⟨0, m⟩)) = true := by
    rw [Bool.and_eq_true, decide_eq_true_iff]
  rw [changeLoop, e]
  split
  · rename_i hc
    simp only [hc, not_true_eq_false, false_and, reduceCtorEq]
  · rename_i hc
    refine Iff.trans ?_ (and_iff_right hc).symm
    show (match changeLoop P addr r rest (changeRest ch (changeOut P addr m rest.isEmpty ch)) with
      | Except.error e => Except.error e | Except.ok outs => Except.ok (_ :: outs)) = _ ↔ _
    cases changeLoop P addr r rest (changeRest ch (changeOut P addr m rest.isEmpty ch)) with
    | error e => simp only [reduceCtorEq, false_and, exists_false]
    | ok outs' =>
      exact ⟨fun h => ⟨outs', rfl, (Except.ok.inj h).symm⟩, fun ⟨_, h1, h2⟩ => by cases h1; rw [h2]; rfl⟩

theorem changeLoop_nil_ok {r : Bool} {ch : Value} {outs : List Output} (h : changeLoop P addr r [] ch = .ok outs) :
    outs = [] := (Except.ok.inj h).symm

theorem changeLoop_ne_invalidTx (r : Bool) (ms : List MultiAsset) (ch : Value) :
    changeLoop P addr r ms ch ≠ .error .invalidTx := by
  induction ms generalizing ch with
  | nil => exact fun h => nomatch h
  | cons m rest ih =>
    rw [changeLoop]
    split
    · exact fun h => nomatch h
    · intro h
      dsimp only at h
      split at h
      · rename_i e he; exact ih _ (Except.error.inj h ▸ he)
      · cases h

theorem changeLoop_mas (r : Bool) (ms : List MultiAsset) (ch : Value) (outs : List Output)
    (h : changeLoop P addr r ms ch = .ok outs) : outs.map (fun o => o.amount.ma) = ms := by
  induction ms generalizing ch outs with
  | nil => rw [changeLoop_nil_ok h]; rfl
  | cons m rest ih =>
    obtain ⟨-, outs', hloop, rfl⟩ := changeLoop_cons_ok.1 h
    rw [List.map_cons, ih _ _ hloop]
    exact congrArg (· :: rest) (changeOut_ma m _ ch)

theorem changeLoop_sum (r : Bool) (ms : List MultiAsset) (ch : Value) (outs : List Output)
    (h : changeLoop P addr r ms ch = .ok outs) (hne : ms ≠ []) :
    sumCoin outs = ch.coin ∧ ∀ p n, sumAsset outs p n = sumQty ms p n := by
  refine ⟨?_, fun p n => ?_⟩
  · induction ms generalizing ch outs with
    | nil => exact absurd rfl hne
    | cons m rest ih =>
      obtain ⟨-, outs', hloop, rfl⟩ := changeLoop_cons_ok.1 h
      cases rest with
      | nil => rw [changeLoop_nil_ok hloop]; exact Int.add_zero _
      | cons m2 rest2 =>
        have := ih _ _ hloop (List.cons_ne_nil _ _)
        simp only [sumCoin, List.map_cons, List.sum_cons] at this ⊢
        rw [this]
        show minAda P addr ⟨0, m⟩ + (ch.coin - minAda P addr ⟨0, m⟩) = ch.coin
        omega
  · rw [← changeLoop_mas r ms ch outs h, sumQty, List.map_map]; rfl

/-- operands of the accounting are legal dicts -/
def ArgsWF (a : ChangeArgs) : Prop :=
  (∀ v ∈ a.inputs, MultiAsset.WF v.ma) ∧ (∀ v ∈ a.outputs, MultiAsset.WF v.ma) ∧ MultiAsset.WF a.mint

theorem provided_wf (a : ChangeArgs) (h : ArgsWF a) : MultiAsset.WF (provided a).ma := by
  have h0 : MultiAsset.WF (sumValues a.inputs ⟨0, []⟩).ma :=
    (Value.foldl_add_qty id a.inputs ⟨0, []⟩ MultiAsset.wf_nil h.1).1
  unfold provided
  dsimp only
  split
  · exact h0
  · exact MultiAsset.wf_add _ _ h0

theorem requested_wf (a : ChangeArgs) (h : ArgsWF a) : MultiAsset.WF (requested a).ma :=
  (Value.foldl_add_qty id a.outputs ⟨a.fee, []⟩ MultiAsset.wf_nil h.2.1).1

theorem provided_coin (a : ChangeArgs) :
    (provided a).coin = (a.inputs.map (·.coin)).sum + a.withdrawals.sum - a.deposits := by
  have : (provided a).coin = (sumValues a.inputs ⟨0, []⟩).coin + a.withdrawals.sum - a.deposits := by
    unfold provided; dsimp only; split <;> rfl
  rw [this, show (sumValues a.inputs ⟨0, []⟩).coin = _ from Value.foldl_add_coin id a.inputs ⟨0, []⟩, Int.zero_add]
  rfl

theorem provided_qty (a : ChangeArgs) (h : ArgsWF a) (p n : Bytes) :
    MultiAsset.qty (provided a).ma p n
      = (a.inputs.map (fun v => MultiAsset.qty v.ma p n)).sum + MultiAsset.qty a.mint p n := by
  have hf := Value.foldl_add_qty id a.inputs ⟨0, []⟩ MultiAsset.wf_nil h.1
  have h0 : MultiAsset.WF (sumValues a.inputs ⟨0, []⟩).ma := hf.1
  have hq : MultiAsset.qty (sumValues a.inputs ⟨0, []⟩).ma p n = 0 + (a.inputs.map (fun v => MultiAsset.qty v.ma p n)).sum :=
    hf.2 p n
  rw [Int.zero_add] at hq
  unfold provided
  dsimp only
  split
  · rename_i hm
    rw [List.isEmpty_iff.1 hm, qty_nil, Int.add_zero]; exact hq
  · show MultiAsset.qty (MultiAsset.add _ a.mint) p n = _
    rw [MultiAsset.qty_add _ _ _ _ h0 h.2.2, hq]

theorem requested_coin (a : ChangeArgs) : (requested a).coin = a.fee + (a.outputs.map (·.coin)).sum :=
  Value.foldl_add_coin id a.outputs ⟨a.fee, []⟩

theorem requested_qty (a : ChangeArgs) (h : ArgsWF a) (p n : Bytes) :
    MultiAsset.qty (requested a).ma p n = (a.outputs.map (fun v => MultiAsset.qty v.ma p n)).sum :=
  ((Value.foldl_add_qty id a.outputs ⟨a.fee, []⟩ MultiAsset.wf_nil h.2.1).2 p n).trans (Int.zero_add _)

/-- the change value `_calc_change` distributes: `provided − requested` with non-positive asset entries dropped -/
def changeValue (a : ChangeArgs) : Value :=
  if (Value.sub (provided a) (requested a)).ma.isEmpty = true then Value.sub (provided a) (requested a)
  else ⟨(Value.sub (provided a) (requested a)).coin, posFilter (Value.sub (provided a) (requested a)).ma⟩

theorem calcChange_eq (P : Params) (a : ChangeArgs) :
    calcChange P a =
      if !(Value.lt (requested a) (provided a)) then .error .invalidTx
      else if (changeValue a).ma.isEmpty then
        (if a.respect && decide ((changeValue a).coin < minAda P a.addr (changeValue a)) then .error .insufficient
         else .ok [{ addr := a.addr, amount := ⟨(changeValue a).coin, []⟩ }])
      else changeLoop P a.addr a.respect (packTokens P a.addr (changeValue a)).1 (changeValue a) := rfl

/-- a result of `_calc_change`: the guard `requested < provided` held, and the change is one ADA-only output that passed
the minimum-ADA check, or what the loop over the packed bundles returned -/
theorem calcChange_ok {P : Params} {a : ChangeArgs} {cs : List Output} (h : calcChange P a = .ok cs) :
    Value.lt (requested a) (provided a) = true ∧
    (((changeValue a).ma = [] ∧ ¬ (a.respect = true ∧ (changeValue a).coin < minAda P a.addr (changeValue a)) ∧
        cs = [{ addr := a.addr, amount := ⟨(changeValue a).coin, []⟩ }]) ∨
     ((changeValue a).ma ≠ [] ∧
        changeLoop P a.addr a.respect (packTokens P a.addr (changeValue a)).1 (changeValue a) = .ok cs)) := by
  rw [calcChange_eq] at h
  split at h
  · cases h
  · rename_i hlt
    refine ⟨by simpa using hlt, ?_⟩
    split at h
    · rename_i he
      split at h
      · cases h
      · rename_i hc
        rw [Bool.and_eq_true, decide_eq_true_iff] at hc
        exact Or.inl ⟨List.isEmpty_iff.1 he, hc, (Except.ok.inj h).symm⟩
    · rename_i he
      exact Or.inr ⟨fun h0 => he (List.isEmpty_iff.2 h0), h⟩

theorem calcChange_invalidTx_iff (P : Params) (a : ChangeArgs) :
    calcChange P a = .error .invalidTx ↔ Value.lt (requested a) (provided a) = false := by
  rw [calcChange_eq]
  cases Value.lt (requested a) (provided a) with
  | false => exact ⟨fun _ => rfl, fun _ => rfl⟩
  | true =>
    refine ⟨fun h => ?_, fun h => nomatch h⟩
    rw [Bool.not_true, if_neg Bool.false_ne_true] at h
    split at h
    · split at h <;> cases h
    · exact absurd h (changeLoop_ne_invalidTx _ _ _)

/-- a result of `_calc_change` passed the guard `requested < provided`; `<` is `<=` and `!=`, and `<=` is the
component-wise order for all operands (`Value.le_iff`): what is requested is covered in ADA and in every asset -/
theorem calcChange_covered (P : Params) (a : ChangeArgs) (cs : List Output) (h : calcChange P a = .ok cs) :
    (requested a).coin ≤ (provided a).coin ∧
    ∀ p n, MultiAsset.qty (requested a).ma p n ≤ MultiAsset.qty (provided a).ma p n :=
  ((Value.lt_iff_le_ne _ _).1 (calcChange_ok h).1).1

theorem changeValue_coin (a : ChangeArgs) : (changeValue a).coin = (provided a).coin - (requested a).coin := by
  unfold changeValue; split <;> rfl

theorem changeValue_wf (a : ChangeArgs) (hw : ArgsWF a) : MultiAsset.WF (changeValue a).ma := by
  unfold changeValue
  split
  · exact MultiAsset.wf_sub _ _ (provided_wf a hw)
  · exact MultiAsset.filter_wf _ _

theorem changeValue_qty (a : ChangeArgs) (hw : ArgsWF a)
    (hc : ∀ p n, MultiAsset.qty (requested a).ma p n ≤ MultiAsset.qty (provided a).ma p n) (p n : Bytes) :
    MultiAsset.qty (changeValue a).ma p n
      = MultiAsset.qty (provided a).ma p n - MultiAsset.qty (requested a).ma p n := by
  have wp := provided_wf a hw
  have hq : MultiAsset.qty (Value.sub (provided a) (requested a)).ma p n = _ :=
    MultiAsset.qty_sub _ _ p n wp (requested_wf a hw)
  unfold changeValue
  split
  · exact hq
  · show MultiAsset.qty (MultiAsset.filter _ _) p n = _
    have wch : MultiAsset.WF (Value.sub (provided a) (requested a)).ma := MultiAsset.wf_sub _ _ wp
    rw [MultiAsset.filter_pos_spec _ wch, hq]
    have := hc p n
    split <;> omega

/-- the change outputs hold exactly `provided − requested`, for ADA and for every asset -/
theorem calcChange_sum (P : Params) (a : ChangeArgs) (cs : List Output) (h : calcChange P a = .ok cs) (hw : ArgsWF a)
    (hnb : (packTokens P a.addr (changeValue a)).2 = false) :
    sumCoin cs = (provided a).coin - (requested a).coin ∧
    ∀ p n, sumAsset cs p n = MultiAsset.qty (provided a).ma p n - MultiAsset.qty (requested a).ma p n := by
  have hq := changeValue_qty a hw (calcChange_covered P a cs h).2
  rw [← changeValue_coin]
  rcases (calcChange_ok h).2 with ⟨he, -, rfl⟩ | ⟨-, hloop⟩
  · refine ⟨Int.add_zero _, fun p n => ?_⟩
    rw [← hq, he]; rfl
  · have := changeLoop_sum _ _ _ cs hloop (packTokens_ne_nil P a.addr _)
    refine ⟨this.1, fun p n => ?_⟩
    rw [this.2 p n, packTokens_preserves P a.addr _ (changeValue_wf a hw) hnb p n, hq]

theorem calcChange_wf (P : Params) (a : ChangeArgs) (cs : List Output) (h : calcChange P a = .ok cs) :
    ∀ o ∈ cs, MultiAsset.WF o.amount.ma := by
  rcases (calcChange_ok h).2 with ⟨-, -, rfl⟩ | ⟨-, hloop⟩
  · exact fun o ho => List.mem_singleton.1 ho ▸ MultiAsset.wf_nil
  · exact fun o ho => packTokens_wf P a.addr _ _
      (changeLoop_mas _ _ _ cs hloop ▸ List.mem_map_of_mem (f := fun (o : Output) => o.amount.ma) ho)

/-! ## merging -/

theorem addAt_sum (c : Value) (i : Nat) (outs : List Output) (hi : i < outs.length) (hc : MultiAsset.WF c.ma)
    (ho : ∀ o ∈ outs, MultiAsset.WF o.amount.ma) :
    sumCoin (addAt c i outs) = sumCoin outs + c.coin ∧
    ∀ p n, sumAsset (addAt c i outs) p n = sumAsset outs p n + MultiAsset.qty c.ma p n := by
  induction outs generalizing i with
  | nil => exact absurd hi (Nat.not_lt_zero _)
  | cons o r ih =>
    cases i with
    | zero =>
      simp only [addAt, sumCoin, sumAsset, List.map_cons, List.sum_cons]
      refine ⟨?_, fun p n => ?_⟩
      · show c.coin + o.amount.coin + _ = _
        omega
      · show MultiAsset.qty (MultiAsset.add c.ma o.amount.ma) p n + _ = _
        rw [MultiAsset.qty_add _ _ _ _ hc (ho o List.mem_cons_self)]
        omega
    | succ j =>
      have := ih j (Nat.lt_of_succ_lt_succ hi) (fun x hx => ho x (List.mem_cons_of_mem _ hx))
      simp only [addAt, sumCoin, sumAsset, List.map_cons, List.sum_cons] at this ⊢
      refine ⟨by rw [this.1]; omega, fun p n => ?_⟩
      rw [this.2 p n]; omega

theorem changeIndex_go_lt (addr : Bytes) (outs : List Output) (i : Nat) (cur : Option Nat) (k : Nat)
    (hcur : ∀ c, cur = some c → c < i) (h : changeIndex.go addr i cur outs = some k) : k < i + outs.length := by
  induction outs generalizing i cur with
  | nil => exact hcur k h
  | cons o r ih =>
    rw [changeIndex.go] at h
    rw [List.length_cons]
    split at h
    · have := ih (i + 1) (some i) (fun c hc => Option.some.inj hc ▸ Nat.lt_succ_self i) h
      omega
    · have := ih (i + 1) cur (fun c hc => Nat.lt_succ_of_lt (hcur c hc)) h
      omega

theorem mergeIndex_lt (outs : List Output) (a : ChangeArgs) (mc : Bool) (i : Nat)
    (h : mergeIndex outs a mc = some i) : i < outs.length := by
  unfold mergeIndex at h
  split at h
  · simpa using changeIndex_go_lt a.addr outs 0 none i (fun c hc => nomatch hc) h
  · cases h

theorem mergeChanges_sum (outs : List Output) (idx : Option Nat) (cs : List Output)
    (hi : ∀ i, idx = some i → i < outs.length) (hc : ∀ o ∈ cs, MultiAsset.WF o.amount.ma)
    (ho : ∀ o ∈ outs, MultiAsset.WF o.amount.ma) :
    sumCoin (mergeChanges outs idx cs) = sumCoin outs + sumCoin cs ∧
    ∀ p n, sumAsset (mergeChanges outs idx cs) p n = sumAsset outs p n + sumAsset cs p n := by
  unfold mergeChanges
  split
  · rename_i i c
    have := addAt_sum c.amount i outs (hi i rfl) (hc c List.mem_cons_self) ho
    refine ⟨by rw [this.1]; simp [sumCoin], fun p n => ?_⟩
    rw [this.2 p n]; simp [sumAsset]
  · exact ⟨by simp only [sumCoin, List.map_append, List.sum_append],
      fun p n => by simp only [sumAsset, List.map_append, List.sum_append]⟩

/-- what `_calc_changes()` returns is a result of `_calc_change` on the final arguments, with the minimum-ADA flag `r`;
`r` is on whenever the change outputs end up as outputs of their own (no merge target, or a split change) -/
theorem finalChanges_calc (P : Params) (outs cs : List Output) (a : ChangeArgs) (mc : Bool)
    (h : finalChanges P outs a mc = .ok cs) :
    ∃ r : Bool, calcChange P (withRespect (finalArgs outs a mc) r) = .ok cs ∧
      (mergeIndex outs a mc = none → r = true) ∧ (cs.length ≠ 1 → r = true) := by
  unfold finalChanges at h
  split at h
  · cases h
  · rename_i cs0 h0
    split at h
    · exact ⟨true, h, fun _ => rfl, fun _ => rfl⟩
    · rename_i hc
      cases Except.ok.inj h
      simp only [Bool.and_eq_true, bne_iff_ne, ne_eq, not_and, Decidable.not_not] at hc
      refine ⟨(finalArgs outs a mc).respect, h0, fun hn => ?_, fun hl => ?_⟩
      · simp only [finalArgs, hn, Option.isNone_none]
      · cases hm : mergeIndex outs a mc with
        | none => simp only [finalArgs, hm, Option.isNone_none]
        | some i => exact absurd (hc (by rw [hm]; rfl)) hl

theorem finalOutputs_ok {P : Params} {outs fo : List Output} {a : ChangeArgs} {mc : Bool}
    (h : finalOutputs P outs a mc = .ok fo) :
    ∃ (cs : List Output) (r : Bool), calcChange P (withRespect (finalArgs outs a mc) r) = .ok cs ∧
      (mergeIndex outs a mc = none → r = true) ∧ (cs.length ≠ 1 → r = true) ∧
      fo = mergeChanges outs (mergeIndex outs a mc) cs := by
  unfold finalOutputs at h
  split at h
  · cases h
  · rename_i cs hfin
    obtain ⟨r, h1, h2, h3⟩ := finalChanges_calc P outs cs a mc hfin
    exact ⟨cs, r, h1, h2, h3, (Except.ok.inj h).symm⟩

end Pyc.Builder
