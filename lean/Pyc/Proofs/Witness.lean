import Pyc.Model.Witness

/-! Helper lemmas for C10: membership in `dedup`, in the key hashes a native script / a credential list / a certificate
contributes, and in the result of the signing loop (core Lean only). -/

namespace Pyc.Witness

theorem mem_dedup {α} [DecidableEq α] (a : α) (l : List α) : a ∈ dedup l ↔ a ∈ l := by
  induction l with
  | nil => simp [dedup]
  | cons x xs ih =>
    simp only [dedup]
    split
    · rename_i hx
      rw [ih, List.mem_cons]
      constructor
      · exact Or.inr
      · rintro (rfl | h)
        · exact ih.1 hx
        · exact h
    · simp [ih]

theorem nodup_dedup {α} [DecidableEq α] (l : List α) : (dedup l).Nodup := by
  induction l with
  | nil => simp [dedup]
  | cons x xs ih =>
    simp only [dedup]
    split
    · exact ih
    · rename_i hx
      exact List.nodup_cons.2 ⟨hx, ih⟩

theorem dedup_of_nodup {α} [DecidableEq α] (l : List α) (h : l.Nodup) : dedup l = l := by
  induction l with
  | nil => rfl
  | cons x xs ih =>
    have h' := List.nodup_cons.1 h
    simp only [dedup]
    rw [ih h'.2, if_neg h'.1]

theorem length_dedup_le {α} [DecidableEq α] (l : List α) : (dedup l).length ≤ l.length := by
  induction l with
  | nil => simp [dedup]
  | cons x xs ih =>
    simp only [dedup]
    split
    · simp; omega
    · simp; omega

theorem length_dedup_lt {α} [DecidableEq α] (l : List α) (h : ¬ l.Nodup) : (dedup l).length < l.length := by
  induction l with
  | nil => simp at h
  | cons x xs ih =>
    simp only [dedup]
    split
    · have := length_dedup_le xs; simp; omega
    · rename_i hx
      have hxs : ¬ xs.Nodup := by
        intro hn
        exact h (List.nodup_cons.2 ⟨fun hm => hx ((mem_dedup x xs).2 hm), hn⟩)
      have := ih hxs
      simp; omega

/-- `h` occurs as a `ScriptPubkey` leaf of the script, at any depth, below any combinator -/
inductive HasKey (h : Bytes) : NScript → Prop
  | pubkey : HasKey h (.pubkey h)
  | all {l s} : s ∈ l → HasKey h s → HasKey h (.all l)
  | any {l s} : s ∈ l → HasKey h s → HasKey h (.any l)
  | nofk {n l s} : s ∈ l → HasKey h s → HasKey h (.nofk n l)

theorem mem_keysList_of_mem (h : Bytes) (l : List NScript) (s : NScript) (hs : s ∈ l) (hk : h ∈ s.keys) :
    h ∈ NScript.keysList l := by
  induction l with
  | nil => simp at hs
  | cons x xs ih =>
    simp only [NScript.keysList, List.mem_append]
    rcases List.mem_cons.1 hs with rfl | h'
    · exact Or.inl hk
    · exact Or.inr (ih h')

theorem mem_keys_of_hasKey (h : Bytes) (s : NScript) (hk : HasKey h s) : h ∈ s.keys := by
  induction hk with
  | pubkey => simp [NScript.keys]
  | all hs _ ih => simp only [NScript.keys]; exact mem_keysList_of_mem h _ _ hs ih
  | any hs _ ih => simp only [NScript.keys]; exact mem_keysList_of_mem h _ _ hs ih
  | nofk hs _ ih => simp only [NScript.keys]; exact mem_keysList_of_mem h _ _ hs ih

mutual
theorem hasKey_of_mem_keys (h : Bytes) (s : NScript) (hm : h ∈ s.keys) : HasKey h s := by
  cases s with
  | pubkey k =>
    simp only [NScript.keys, List.mem_singleton] at hm
    subst hm; exact .pubkey
  | all l =>
    simp only [NScript.keys] at hm
    obtain ⟨s', hs', hk⟩ := hasKey_of_mem_keysList h l hm
    exact .all hs' hk
  | any l =>
    simp only [NScript.keys] at hm
    obtain ⟨s', hs', hk⟩ := hasKey_of_mem_keysList h l hm
    exact .any hs' hk
  | nofk n l =>
    simp only [NScript.keys] at hm
    obtain ⟨s', hs', hk⟩ := hasKey_of_mem_keysList h l hm
    exact .nofk hs' hk
  | before _ => simp [NScript.keys] at hm
  | after _ => simp [NScript.keys] at hm
theorem hasKey_of_mem_keysList (h : Bytes) (l : List NScript) (hm : h ∈ NScript.keysList l) :
    ∃ s, s ∈ l ∧ HasKey h s := by
  cases l with
  | nil => simp [NScript.keysList] at hm
  | cons x xs =>
    simp only [NScript.keysList, List.mem_append] at hm
    rcases hm with hm | hm
    · exact ⟨x, by simp, hasKey_of_mem_keys h x hm⟩
    · obtain ⟨s, hs, hk⟩ := hasKey_of_mem_keysList h xs hm
      exact ⟨s, by simp [hs], hk⟩
end

theorem mem_keys_iff (h : Bytes) (s : NScript) : h ∈ s.keys ↔ HasKey h s :=
  ⟨hasKey_of_mem_keys h s, mem_keys_of_hasKey h s⟩

theorem mem_keysList_iff (h : Bytes) (l : List NScript) : h ∈ NScript.keysList l ↔ ∃ s, s ∈ l ∧ HasKey h s :=
  ⟨hasKey_of_mem_keysList h l, fun ⟨s, hs, hk⟩ => mem_keysList_of_mem h l s hs (mem_keys_of_hasKey h s hk)⟩

theorem mem_keyCreds (h : Bytes) (l : List Cred) : h ∈ keyCreds l ↔ (⟨true, h⟩ : Cred) ∈ l := by
  simp only [keyCreds, List.mem_map, List.mem_filter]
  constructor
  · rintro ⟨c, ⟨hc, hk⟩, rfl⟩
    obtain ⟨k, x⟩ := c
    simp only at hk; subst hk; exact hc
  · intro hm; exact ⟨_, ⟨hm, rfl⟩, rfl⟩

theorem mem_rewardKeyHash (h b : Bytes) :
    h ∈ rewardKeyHash b ↔ ∃ hd, b = hd :: h ∧ hd.toNat / 16 = 14 := by
  cases b with
  | nil => simp [rewardKeyHash]
  | cons x p =>
    simp only [rewardKeyHash]
    split
    · rename_i hx
      simp only [List.mem_singleton]
      constructor
      · rintro rfl; exact ⟨x, rfl, hx⟩
      · rintro ⟨hd, he, _⟩; injection he with _ h2; exact h2.symm
    · rename_i hx
      simp only [List.not_mem_nil, false_iff]
      rintro ⟨hd, he, h14⟩; injection he with h1 _; subst h1; exact hx h14

theorem mem_credKey (h : Bytes) (c : Cred) : h ∈ credKey c ↔ h = c.hash ∧ c.isKey = true := by
  unfold credKey
  split
  · next hk => simp only [List.mem_singleton, hk, and_true]
  · next hk => exact ⟨nofun, fun h' => absurd h'.2 hk⟩

/-- the three `isinstance` tuples all end in `_check_and_add_vkey` of the certificate's credential: only the two pool
certificates are treated differently (one evaluation per certificate class) -/
theorem certVkeys_eq (c : Cert) :
    certVkeys c = if c.kind = .poolReg then c.cred.hash :: c.owners
      else if c.kind = .poolRetire then [c.cred.hash] else credKey c.cred := by
  obtain ⟨k, cr, ow⟩ := c
  cases k <;> rfl

/-- `certVkeys` collects the key credential of every certificate kind — the pool operator / retiring pool hash
unconditionally (always key hashes) — and the owners of a pool registration; nothing else -/
theorem mem_certVkeys (h : Bytes) (c : Cert) :
    h ∈ certVkeys c ↔ ((h = c.cred.hash ∧ (c.cred.isKey = true ∨ c.kind = .poolReg ∨ c.kind = .poolRetire))
      ∨ (c.kind = .poolReg ∧ h ∈ c.owners)) := by
  rw [certVkeys_eq]
  by_cases h1 : c.kind = .poolReg
  · simp only [h1, if_true, List.mem_cons, true_or, or_true, and_true, true_and]
  · by_cases h2 : c.kind = .poolRetire
    · simp only [h2, reduceCtorEq, if_false, if_true, List.mem_singleton, or_true, and_true, false_and, or_false]
    · simp only [h1, h2, if_false, mem_credKey, or_false, false_and]

/-- the code's collection contains everything the property text asks for -/
theorem certVkeysFull_subset (h : Bytes) (c : Cert) (hm : h ∈ certVkeysFull c) : h ∈ certVkeys c := by
  rw [mem_certVkeys]
  rw [certVkeysFull, List.mem_append, mem_credKey] at hm
  rcases hm with ⟨he, hk⟩ | hm
  · exact Or.inl ⟨he, Or.inl hk⟩
  · by_cases hp : c.kind = .poolReg
    · rw [if_pos hp] at hm; exact Or.inr ⟨hp, hm⟩
    · rw [if_neg hp] at hm; cases hm

theorem mem_allNativeScripts (s : NScript) (st : State) :
    s ∈ allNativeScripts st ↔ (s ∈ st.nativeScripts ∨ s ∈ st.inputScripts ∨ s ∈ st.mintScripts
      ∨ s ∈ st.withdrawalScripts ∨ s ∈ st.certScripts) := by
  simp [allNativeScripts]

theorem nodup_map_range {α} (f : Nat → α) (n : Nat) (hinj : ∀ i j, i < n → j < n → f i = f j → i = j) :
    ((List.range n).map f).Nodup := by
  rw [List.Nodup, List.pairwise_map]
  have hr : (List.range n).Pairwise (· < ·) := List.pairwise_lt_range
  have hm : ∀ a, a ∈ List.range n → a < n := fun a ha => List.mem_range.1 ha
  revert hr hm
  generalize List.range n = l
  intro hr hm
  induction hr with
  | nil => exact .nil
  | @cons a l' hlt _ ih =>
    refine .cons ?_ (ih fun b hb => hm b (by simp [hb]))
    intro b hb heq
    have := hinj a b (hm a (by simp)) (hm b (by simp [hb])) heq
    have := hlt b hb
    omega

theorem mem_signLoop {κ} [DecidableEq κ] (ops : KeyOps κ) (H28 : Bytes → Bytes) (force : Bool)
    (required : List Bytes) (msg : Bytes) (keys : List κ) (w : Witness) :
    w ∈ signLoop ops H28 force required msg keys ↔
      ∃ k, k ∈ keys ∧ signs ops H28 force required k = true ∧ w = ⟨vkey32 ops k, ops.sign k msg⟩ := by
  unfold signLoop
  rw [mem_dedup, List.mem_map]
  constructor
  · rintro ⟨k, hk, rfl⟩
    rw [List.mem_filter, mem_dedup] at hk
    exact ⟨k, hk.1, hk.2, rfl⟩
  · rintro ⟨k, hk, hs, rfl⟩
    exact ⟨k, by rw [List.mem_filter, mem_dedup]; exact ⟨hk, hs⟩, rfl⟩

end Pyc.Witness
