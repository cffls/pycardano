import Pyc.Proofs.Builder
import Pyc.Proofs.Canonical
import Pyc.Model.PackFit

/-! Helper lemmas for the size invariant of token packing (C08 extension `PackFit`).

The size of a serialized `Value` is `coin width + bundle size`; the bundle size is a function of the bundle's CONTENT
(insertion order, zero entries and empty policies do not matter) — without any key-length hypothesis, because only
lengths are compared; the coin width is monotone.  Then one invariant for each of the two packing loops, and what follows
from them for the outputs of `_calc_change`. -/

namespace Pyc.PackFit
open Pyc.Builder Pyc.Cbor Pyc.Dict

/-! ## sizes -/

theorem encodePairs_length (l : List (Item × Item)) :
    (encodePairs l).length = (l.map (fun kv => (encode kv.1).length + (encode kv.2).length)).sum := by
  induction l with
  | nil => simp [encodePairs]
  | cons kv r ih =>
    obtain ⟨k, v⟩ := kv
    simp only [encodePairs, List.length_append, List.map_cons, List.sum_cons, ih]

theorem head_length_eq (major a b : Nat) (h : a = b) : (head major a).length = (head major b).length := by rw [h]

theorem mapLen_perm (l₁ l₂ : List (Item × Item)) (h : l₁.Perm l₂) :
    (encode (.map l₁)).length = (encode (.map l₂)).length := by
  simp only [encode, List.length_append, encodePairs_length, h.length_eq]
  congr 1
  exact (h.map _).sum_nat

/-- size of `Asset.to_cbor()` -/
def aLen (a : Asset) : Nat := (encAsset a).length

theorem aLen_content (a b : Asset) (ha : Dict.WF a) (hb : Dict.WF b) (h : ∀ n, Asset.qty a n = Asset.qty b n) :
    aLen a = aLen b :=
  mapLen_perm _ _
    ((((canonSort_perm _).trans (Asset.normalize_perm a b ha hb h)).trans (canonSort_perm _).symm).map _)

/-- what one policy contributes to the size: its key and the size of its asset dict -/
def gPair (p : Bytes × Asset) : Bytes × Nat := (p.1, aLen p.2)
def gSize (x : Bytes × Nat) : Nat := (encode (.bytes x.1)).length + x.2

theorem bundleLen_eq (m : MultiAsset) :
    bundleLen m = (head 5 (MultiAsset.normalize m).length).length
      + (((MultiAsset.normalize m).map gPair).map gSize).sum := by
  unfold bundleLen encMultiAsset itemMultiAsset primMultiAsset
  simp only [encode, List.length_append, encodePairs_length, List.length_map, List.map_map]
  have hp := canonSort_perm (MultiAsset.normalize m)
  rw [hp.length_eq]
  congr 1
  have : ((fun kv : Item × Item => (encode kv.1).length + (encode kv.2).length) ∘
            (fun p : Bytes × List (Bytes × Int) => (Item.bytes p.1, itemAsset p.2)) ∘
            (fun p : Bytes × Asset => (p.1, primAsset p.2))) = (gSize ∘ gPair) := by
    funext p
    simp [gSize, gPair, aLen, encAsset]
  rw [this]
  exact (hp.map _).sum_nat

theorem keys_gPair (m : MultiAsset) : keys (m.map gPair) = keys m := by
  simp [keys, gPair, List.map_map, Function.comp_def]

theorem gPair_sub (N₁ N₂ : MultiAsset) (h1 : MultiAsset.WF N₁) (h2 : MultiAsset.WF N₂)
    (n1 : MultiAsset.Normal N₁) (n2 : MultiAsset.Normal N₂)
    (h : ∀ p n, MultiAsset.qty N₁ p n = MultiAsset.qty N₂ p n) :
    ∀ x, x ∈ N₁.map gPair → x ∈ N₂.map gPair := by
  intro x hx
  simp only [List.mem_map] at hx ⊢
  obtain ⟨⟨p, a₁⟩, hm, rfl⟩ := hx
  have hp := MultiAsset.getD_of_mem N₁ p a₁ h1 hm
  have hp2 : has N₂ p = true := by
    rw [MultiAsset.has_iff_qty N₂ p h2 n2]
    obtain ⟨n, hn⟩ := (MultiAsset.has_iff_qty N₁ p h1 n1).1 hp.1
    exact ⟨n, by rw [← h p n]; exact hn⟩
  have hm2 := MultiAsset.mem_getD N₂ p h2 hp2
  refine ⟨(p, getD N₂ p []), hm2, ?_⟩
  simp only [gPair]
  congr 1
  apply aLen_content _ _ (h2.2 _ hm2) (h1.2 _ hm)
  intro n
  have := h p n
  simp only [MultiAsset.qty, hp.2] at this
  exact this.symm

theorem gPair_perm (m₁ m₂ : MultiAsset) (h1 : MultiAsset.WF m₁) (h2 : MultiAsset.WF m₂)
    (h : ∀ p n, MultiAsset.qty m₁ p n = MultiAsset.qty m₂ p n) :
    ((MultiAsset.normalize m₁).map gPair).Perm ((MultiAsset.normalize m₂).map gPair) := by
  have w1 := MultiAsset.wf_normalize m₁ h1
  have w2 := MultiAsset.wf_normalize m₂ h2
  have hq : ∀ p n, MultiAsset.qty (MultiAsset.normalize m₁) p n = MultiAsset.qty (MultiAsset.normalize m₂) p n := by
    intro p n
    rw [MultiAsset.qty_normalize _ _ _ h1, MultiAsset.qty_normalize _ _ _ h2, h p n]
  have d1 : Dict.WF ((MultiAsset.normalize m₁).map gPair) := by unfold Dict.WF; rw [keys_gPair]; exact w1.1
  have d2 : Dict.WF ((MultiAsset.normalize m₂).map gPair) := by unfold Dict.WF; rw [keys_gPair]; exact w2.1
  apply (List.perm_ext_iff_of_nodup (Dict.nodup_of_wf _ d1) (Dict.nodup_of_wf _ d2)).2
  intro x
  exact ⟨gPair_sub _ _ w1 w2 (MultiAsset.normal_normalize _) (MultiAsset.normal_normalize _) hq x,
         gPair_sub _ _ w2 w1 (MultiAsset.normal_normalize _) (MultiAsset.normal_normalize _)
           (fun p n => (hq p n).symm) x⟩

/-- two bundles are indistinguishable for every size measure of the packing code -/
def SizeEq (m₁ m₂ : MultiAsset) : Prop :=
  (MultiAsset.normalize m₁).isEmpty = (MultiAsset.normalize m₂).isEmpty ∧ bundleLen m₁ = bundleLen m₂

theorem sizeEq_of_content (m₁ m₂ : MultiAsset) (h1 : MultiAsset.WF m₁) (h2 : MultiAsset.WF m₂)
    (h : ∀ p n, MultiAsset.qty m₁ p n = MultiAsset.qty m₂ p n) : SizeEq m₁ m₂ := by
  have hp := gPair_perm m₁ m₂ h1 h2 h
  have hl : (MultiAsset.normalize m₁).length = (MultiAsset.normalize m₂).length := by
    simpa using hp.length_eq
  constructor
  · cases e1 : MultiAsset.normalize m₁ <;> cases e2 : MultiAsset.normalize m₂ <;> simp [e1, e2] at hl ⊢
  · rw [bundleLen_eq, bundleLen_eq, hl]
    congr 1
    exact (hp.map _).sum_nat

/-- `len(Value(c, m).to_cbor())` = width of the coin, plus — when the bundle is not empty — the 1-byte head of the
2-element array and the size of the bundle -/
theorem vlen_split (c : Int) (m : MultiAsset) :
    vlen ⟨c, m⟩ = if (MultiAsset.normalize m).isEmpty then coinLen c else 1 + coinLen c + bundleLen m := by
  unfold vlen encValue itemValue coinLen bundleLen encMultiAsset
  simp only
  split
  · rfl
  · simp only [encode, encodeList, List.length_append, List.length_nil, head]
    simp
    omega

theorem vlen_sizeEq (c : Int) (m₁ m₂ : MultiAsset) (h : SizeEq m₁ m₂) : vlen ⟨c, m₁⟩ = vlen ⟨c, m₂⟩ := by
  rw [vlen_split, vlen_split, h.1, h.2]

theorem vlen_mono_coin (c c' : Int) (m : MultiAsset) (h : coinLen c ≤ coinLen c') : vlen ⟨c, m⟩ ≤ vlen ⟨c', m⟩ := by
  rw [vlen_split, vlen_split]
  split <;> omega

theorem vlen_shift (c c' : Int) (m : MultiAsset) : vlen ⟨c, m⟩ + coinLen c' = vlen ⟨c', m⟩ + coinLen c := by
  rw [vlen_split, vlen_split]
  split <;> omega

theorem minAda_vlen (p : Params) (addr : Bytes) (v : Value) :
    minAda p addr v = (160 + ((head 5 2).length + (encode (.uint 0)).length + (encode (.bytes addr)).length
      + (encode (.uint 1)).length + vlen ⟨if v.coin = 0 then 1000000 else v.coin, v.ma⟩ : Nat)) * p.cpb := by
  have e : (if v.coin = 0 then (⟨1000000, v.ma⟩ : Value) else v) = ⟨if v.coin = 0 then 1000000 else v.coin, v.ma⟩ := by
    split <;> rfl
  unfold minAda minLovelace vlen encValue
  rw [e]
  simp only [Output.itemMap, Output.datumOption, encode, encodePairs, List.length_append, List.append_nil,
    List.length_cons, List.length_nil, Nat.zero_add, Nat.reduceAdd]
  congr 1
  omega

theorem minAda_sizeEq (p : Params) (addr : Bytes) (c : Int) (m₁ m₂ : MultiAsset) (h : SizeEq m₁ m₂) :
    minAda p addr ⟨c, m₁⟩ = minAda p addr ⟨c, m₂⟩ := by
  rw [minAda_vlen, minAda_vlen, vlen_sizeEq _ _ _ h]

theorem probeLen_sizeEq (p : Params) (addr : Bytes) (c : Int) (m₁ m₂ : MultiAsset) (h : SizeEq m₁ m₂) :
    probeLen p addr c m₁ = probeLen p addr c m₂ := by
  unfold probeLen probeCoin
  rw [minAda_sizeEq p addr c m₁ m₂ h, vlen_sizeEq _ _ _ h]

theorem fits_sizeEq (p : Params) (addr : Bytes) (c : Int) (m₁ m₂ : MultiAsset) (h : SizeEq m₁ m₂) :
    fits p addr c m₁ = fits p addr c m₂ := by
  unfold fits; rw [probeLen_sizeEq p addr c m₁ m₂ h]

/-! ## coin widths: monotone on the non-negative integers, bignums included -/

/-- number of base-256 digits the loop of `natBytesAux` emits -/
def nbLen : Nat → Nat → Nat
  | 0, _ => 0
  | fuel+1, n => if n = 0 then 0 else 1 + nbLen fuel (n / 256)

theorem natBytesAux_len (fuel n : Nat) (acc : Bytes) : (natBytesAux fuel n acc).length = acc.length + nbLen fuel n := by
  induction fuel generalizing n acc with
  | zero => simp [natBytesAux, nbLen]
  | succ f ih =>
    simp only [natBytesAux, nbLen]
    split
    · simp
    · rw [ih]; simp only [List.length_cons]; omega

theorem nbLen_le_iff (f n k : Nat) (h : n < f) : nbLen f n ≤ k ↔ n < 256 ^ k := by
  induction f generalizing n k with
  | zero => exact absurd h (Nat.not_lt_zero _)
  | succ f ih =>
    rw [nbLen]
    split
    · rename_i h0
      rw [h0]
      exact ⟨fun _ => Nat.pow_pos (by decide), fun _ => Nat.zero_le _⟩
    · rename_i h0
      cases k with
      | zero => rw [Nat.pow_zero]; omega
      | succ k =>
        rw [Nat.add_comm 1, Nat.add_le_add_iff_right, ih (n / 256) k (by omega), Nat.pow_succ,
          Nat.div_lt_iff_lt_mul (by decide)]

theorem natBytes_len_le_iff (n k : Nat) : (natBytes n).length ≤ k ↔ n < 256 ^ k := by
  unfold natBytes
  rw [natBytesAux_len, List.length_nil, Nat.zero_add]
  exact nbLen_le_iff (n + 1) n k (Nat.lt_succ_self n)

theorem natBytes_len_mono (a b : Nat) (h : a ≤ b) : (natBytes a).length ≤ (natBytes b).length :=
  (natBytes_len_le_iff a _).2 (Nat.lt_of_le_of_lt h ((natBytes_len_le_iff b _).1 (Nat.le_refl _)))

theorem natBytes_len_ge8 (n : Nat) (h : ¬ n < 2 ^ 64) : 8 ≤ (natBytes n).length :=
  Nat.lt_of_not_le fun hle => h (Nat.lt_of_lt_of_le ((natBytes_len_le_iff n 7).1 hle) (by decide))

theorem coinLen_small (c : Int) (h0 : 0 ≤ c) (h : c.toNat < 2 ^ 64) : coinLen c = (head 0 c.toNat).length := by
  unfold coinLen ofInt
  rw [if_pos h0, if_pos h, encode]

/-- a bignum: tag 2 around the byte string of the digits -/
theorem coinLen_big (c : Int) (h0 : 0 ≤ c) (h : ¬ c.toNat < 2 ^ 64) :
    coinLen c = (head 6 2).length + ((head 2 (natBytes c.toNat).length).length + (natBytes c.toNat).length) := by
  unfold coinLen ofInt
  rw [if_pos h0, if_neg h]
  simp only [encode, List.length_append]

theorem coinLen_mono (a b : Int) (h0 : 0 ≤ a) (hab : a ≤ b) : coinLen a ≤ coinLen b := by
  have hb0 : 0 ≤ b := Int.le_trans h0 hab
  have hn : a.toNat ≤ b.toNat := by omega
  by_cases hb : b.toNat < 2 ^ 64
  · rw [coinLen_small a h0 (Nat.lt_of_le_of_lt hn hb), coinLen_small b hb0 hb]
    exact head_length_mono _ hn
  · rw [coinLen_big b hb0 hb]
    by_cases ha : a.toNat < 2 ^ 64
    · rw [coinLen_small a h0 ha]
      have h1 := head_length_le 0 a.toNat
      have h2 := head_length_pos 6 2
      have h4 := natBytes_len_ge8 b.toNat hb
      omega
    · rw [coinLen_big a h0 ha]
      have h1 := natBytes_len_mono _ _ hn
      have h2 := head_length_mono 2 h1
      omega

/-- a coin of at least 65 536 lovelace takes at least 5 bytes (whatever its size: bignums included) -/
theorem coinLen_ge5 (c : Int) (h : 65536 ≤ c) : 5 ≤ coinLen c :=
  Nat.le_trans (by decide : 5 ≤ coinLen 65536) (coinLen_mono 65536 c (by decide) h)

/-- a non-negative coin below 2^32 lovelace (4 294.967296 ADA) takes at most 5 bytes -/
theorem coinLen_le5 (c : Int) (h0 : 0 ≤ c) (h : c < 4294967296) : coinLen c ≤ 5 :=
  Nat.le_trans (coinLen_mono c 4294967295 h0 (by omega)) (by decide : coinLen 4294967295 ≤ 5)

theorem minAda_ge (P : Params) (addr : Bytes) (v : Value) (h : 0 ≤ P.cpb) : 160 * P.cpb ≤ minAda P addr v := by
  rw [minAda_vlen]
  apply Int.mul_le_mul_of_nonneg_right _ h
  omega

theorem minAda_nonneg (P : Params) (addr : Bytes) (v : Value) (h : 0 ≤ P.cpb) : 0 ≤ minAda P addr v := by
  have := minAda_ge P addr v h
  omega

/-! ## the packing loops -/

/-- the end-of-policy re-check is the measure `fits` of the flushed output -/
theorem recheck_eq (p : Params) (addr : Bytes) (out2 : Value) :
    decide ((encValue ⟨max (minAda p addr out2) out2.coin, out2.ma⟩).length > p.maxValSize)
      = !fits p addr out2.coin out2.ma := by
  unfold fits probeLen probeCoin vlen
  rw [← decide_not]
  exact decide_eq_decide.2 Nat.not_le.symm

/-- the probe of `_adding_asset_make_output_overflow` is the same measure, of the attempted bundle under the coin of the
output under construction -/
theorem overflow_eq (p : Params) (addr : Bytes) (out : Value) (cur : Asset) (pol n : Bytes) (q : Int) :
    overflow p addr out cur pol n q
      = !fits p addr out.coin (MultiAsset.add [(pol, Asset.add cur [(n, q)])] out.ma) := by
  have := recheck_eq p addr (Value.add ⟨0, [(pol, Asset.add cur [(n, q)])]⟩ out)
  unfold overflow
  simp only [Value.add, Int.zero_add] at this ⊢
  exact this

theorem sizeEq_attempt_flush (out : Value) (pol : Bytes) (t : Asset) (ho : MultiAsset.WF out.ma) (ht : Dict.WF t) :
    SizeEq (MultiAsset.add [(pol, t)] out.ma) (flush out pol t).ma := by
  apply sizeEq_of_content _ _ (MultiAsset.wf_add _ _ (wf_single pol t ht)) (wf_flush _ _ _ ho)
  intro p n
  rw [MultiAsset.qty_add _ _ _ _ (wf_single pol t ht) ho, qty_flush _ _ _ ho ht, qty_single]
  omega

/-- a chunk is a single asset of the change on its own -/
def IsSingle (ch : MultiAsset) (m : MultiAsset) : Prop := ∃ pa ∈ ch, ∃ a ∈ pa.2, m = single pa.1 a

/-- what is known of a closed chunk (every output is built under the change coin `c`): empty, a single asset never
measured on its own, or measured and found to fit -/
def ChunkOK (p : Params) (addr : Bytes) (ch : MultiAsset) (c : Int) (m : MultiAsset) : Prop :=
  m = [] ∨ IsSingle ch m ∨ fits p addr c m = true

def ArrOK (p : Params) (addr : Bytes) (ch : MultiAsset) (c0 : Int) (arr : List MultiAsset) : Prop :=
  ∀ m ∈ arr, ChunkOK p addr ch c0 m

theorem arrOK_snoc (p : Params) (addr : Bytes) (ch : MultiAsset) (c0 : Int) (arr : List MultiAsset) (m : MultiAsset)
    (h : ArrOK p addr ch c0 arr) (hm : ChunkOK p addr ch c0 m) : ArrOK p addr ch c0 (arr ++ [m]) :=
  fun x hx => (List.mem_append.1 hx).elim (h x) (fun hx => List.mem_singleton.1 hx ▸ hm)

theorem qty_ne_nil (m : MultiAsset) (p n : Bytes) (h : 0 < MultiAsset.qty m p n) : m ≠ [] :=
  fun hm => by rw [hm] at h; exact Int.lt_irrefl 0 h

/-- invariant of the inner loop over the assets of policy `pol` (all of them members of `assetsAll`).  The last four fields
are what is known in addition under `G`, which stands for: every quantity is positive and no single asset is over the
limit.  Then quantities stay non-negative, closed chunks are non-empty, and an empty buffer sits on a non-empty output
unless nothing has been packed at all. -/
structure Inner (p : Params) (addr : Bytes) (ch : Value) (G : Prop) (pol : Bytes) (assetsAll : Asset)
    (s : PackState) : Prop where
  wf : PackWF s
  arr : ArrOK p addr ch.ma ch.coin s.arr
  coin : s.out.coin = ch.coin
  out : s.out.ma = [] ∨ fits p addr ch.coin s.out.ma = true
  old : (s.old.ma = [] ∨ fits p addr ch.coin s.old.ma = true) ∧ s.old.coin = ch.coin
  temp : s.temp = [] ∨ fits p addr ch.coin (flush s.out pol s.temp).ma = true ∨
    (s.out = ⟨ch.coin, []⟩ ∧ ∃ a ∈ assetsAll, s.temp = Asset.add [] [a])
  tq : G → ∀ n, 0 ≤ Asset.qty s.temp n
  oq : G → ∀ p n, 0 ≤ MultiAsset.qty s.out.ma p n
  ne : G → ∀ m ∈ s.arr, m ≠ []
  start : G → (∃ n, 0 < Asset.qty s.temp n) ∨
    (s.temp = [] ∧ (s.out.ma ≠ [] ∨ (s.arr = [] ∧ s.out = ⟨ch.coin, []⟩)))

theorem packAsset_inner (p : Params) (addr : Bytes) (ch : Value) (G : Prop) (pol : Bytes) (assetsAll : Asset)
    (hmem : (pol, assetsAll) ∈ ch.ma) (s : PackState) (a : Bytes × Int) (ha : a ∈ assetsAll)
    (hG : G → 0 < a.2 ∧ fits p addr ch.coin (single pol a) = true) (hs : Inner p addr ch G pol assetsAll s) :
    Inner p addr ch G pol assetsAll (packAsset p addr ch.coin pol s a) ∧
      (G → ∃ n, 0 < Asset.qty (packAsset p addr ch.coin pol s a).temp n) := by
  have hwf' := packAsset_wf (P := p) (addr := addr) (c0 := ch.coin) (pol := pol) s a hs.wf
  cases ho : overflow p addr s.out s.temp pol a.1 a.2 with
  | true =>
    -- the chunk is closed
    rw [packAsset_overflow ho] at hwf' ⊢
    have hchunk : ChunkOK p addr ch.ma ch.coin (closeChunk s.out pol s.temp).ma := by
      unfold closeChunk
      split
      · exact hs.out.imp id Or.inr
      · rename_i ht
        rcases hs.temp with h | h | ⟨h1, a0, ha0, h2⟩
        · exact absurd (List.isEmpty_iff.2 h) ht
        · exact Or.inr (Or.inr h)
        · exact Or.inr (Or.inl ⟨(pol, assetsAll), hmem, a0, ha0, by rw [h1, h2]; rfl⟩)
    have hq : ∀ n, Asset.qty (Asset.add [] [a]) n = if a.1 = n then a.2 else 0 := fun n => by
      rw [asset_qty_add_single _ Dict.wf_nil, asset_qty_nil, Int.zero_add]
    have hpos : G → 0 < Asset.qty (Asset.add [] [a]) a.1 := fun g => by rw [hq, if_pos rfl]; exact (hG g).1
    have hne : G → (closeChunk s.out pol s.temp).ma ≠ [] := fun g => by
      unfold closeChunk
      split
      · rename_i ht
        have ht' : s.temp = [] := List.isEmpty_iff.1 ht
        rcases hs.start g with ⟨n, hn⟩ | ⟨_, h | ⟨_, h4⟩⟩
        · rw [ht'] at hn; exact absurd hn (Int.lt_irrefl 0)
        · exact h
        · -- nothing packed yet: the probe of the very first asset is the measure of that asset on its own
          exfalso
          rw [overflow_eq, h4, ht'] at ho
          have hse := sizeEq_attempt_flush ⟨0, []⟩ pol (Asset.add [] [a]) MultiAsset.wf_nil
            (Asset.wf_add _ _ Dict.wf_nil)
          rw [fits_sizeEq p addr ch.coin _ _ hse, show (flush ⟨0, []⟩ pol (Asset.add [] [a])).ma = single pol a from rfl,
            (hG g).2] at ho
          cases ho
      · rename_i ht
        rcases hs.start g with ⟨n, hn⟩ | ⟨h, _⟩
        · apply qty_ne_nil _ pol n
          rw [qty_flush _ _ _ hs.wf.out hs.wf.temp, if_pos rfl]
          have := hs.oq g pol n
          omega
        · exact absurd (List.isEmpty_iff.2 h) ht
    exact ⟨{
      wf := hwf'
      arr := arrOK_snoc p addr ch.ma ch.coin s.arr _ hs.arr hchunk
      coin := rfl
      out := Or.inl rfl
      old := ⟨Or.inl rfl, rfl⟩
      temp := Or.inr (Or.inr ⟨rfl, a, ha, rfl⟩)
      tq := fun g n => by rw [hq]; have := (hG g).1; split <;> omega
      oq := fun _ _ _ => Int.le_refl 0
      ne := fun g m hm => (List.mem_append.1 hm).elim (hs.ne g m) (fun hm => List.mem_singleton.1 hm ▸ hne g)
      start := fun g => Or.inl ⟨a.1, hpos g⟩ }, fun g => ⟨a.1, hpos g⟩⟩
  | false =>
    rw [packAsset_fit ho] at hwf' ⊢
    have hq := asset_qty_add_single s.temp hs.wf.temp a
    have hpos : G → 0 < Asset.qty (Asset.add s.temp [a]) a.1 := fun g => by
      rw [hq, if_pos rfl]; have := hs.tq g a.1; have := (hG g).1; omega
    refine ⟨{ wf := hwf', arr := hs.arr, coin := hs.coin, out := hs.out, old := hs.old, temp := Or.inr (Or.inl ?_),
              tq := fun g n => by rw [hq]; have := hs.tq g n; have := (hG g).1; split <;> omega
              oq := hs.oq, ne := hs.ne, start := fun g => Or.inl ⟨a.1, hpos g⟩ }, fun g => ⟨a.1, hpos g⟩⟩
    rw [overflow_eq, hs.coin, Bool.not_eq_false'] at ho
    rw [← fits_sizeEq p addr ch.coin _ _ (sizeEq_attempt_flush s.out pol _ hs.wf.out hwf'.temp)]
    exact ho

/-- invariant of the outer loop over the policies; the last three fields under `G` as in `Inner` -/
structure Outer (p : Params) (addr : Bytes) (ch : Value) (G : Prop) (s : PackState) : Prop where
  wf : PackWF s
  arr : ArrOK p addr ch.ma ch.coin s.arr
  coin : s.out.coin = ch.coin
  out : s.out.ma = [] ∨ fits p addr ch.coin s.out.ma = true
  oq : G → ∀ p n, 0 ≤ MultiAsset.qty s.out.ma p n
  ne : G → ∀ m ∈ s.arr, m ≠ []
  start : G → s.out.ma ≠ [] ∨ (s.arr = [] ∧ s.out = ⟨ch.coin, []⟩)

theorem afterPolicy_inner (p : Params) (addr : Bytes) (ch : Value) (G : Prop) (pol : Bytes) (assets : Asset)
    (hmem : (pol, assets) ∈ ch.ma) (s : PackState)
    (hG : G → assets ≠ [] ∧ ∀ a ∈ assets, 0 < a.2 ∧ fits p addr ch.coin (single pol a) = true)
    (hs : Outer p addr ch G s) :
    Inner p addr ch G pol assets (afterPolicy p addr ch.coin pol assets s) ∧
      (G → ∃ n, 0 < Asset.qty (afterPolicy p addr ch.coin pol assets s).temp n) := by
  have := foldl_invariant
    (fun pre t => Inner p addr ch G pol assets t ∧ (G → pre ≠ [] → ∃ n, 0 < Asset.qty t.temp n))
    (packAsset p addr ch.coin pol) assets { s with temp := [], old := s.out }
    ⟨{ wf := ⟨hs.wf.out, Dict.wf_nil, hs.wf.out, hs.wf.arr⟩, arr := hs.arr, coin := hs.coin, out := hs.out,
       old := ⟨hs.out, hs.coin⟩, temp := Or.inl rfl, tq := fun _ _ => Int.le_refl 0, oq := hs.oq, ne := hs.ne,
       start := fun g => Or.inr ⟨rfl, hs.start g⟩ }, fun _ h => absurd rfl h⟩
    (fun pre a t ha ht =>
      have h := packAsset_inner p addr ch G pol assets hmem t a ha (fun g => (hG g).2 a ha) ht.1
      ⟨h.1, fun g _ => h.2 g⟩)
  exact ⟨this.1, fun g => this.2 g (hG g).1⟩

theorem packPolicies_cons_fits (p : Params) (addr : Bytes) (c0 : Int) (pol : Bytes) (assets : Asset)
    (rest : List (Bytes × Asset)) (s : PackState) :
    packPolicies p addr c0 ((pol, assets) :: rest) s =
      (let s1 := afterPolicy p addr c0 pol assets s
       let out2 := flush s1.out pol s1.temp
       if fits p addr out2.coin out2.ma = true then packPolicies p addr c0 rest { s1 with out := out2, temp := [] }
       else ({ s1 with out := s1.old, temp := [] }, true)) := by
  rw [packPolicies_cons]
  dsimp only
  generalize afterPolicy p addr c0 pol assets s = s1
  have hre := recheck_eq p addr (flush s1.out pol s1.temp)
  cases hf : fits p addr (flush s1.out pol s1.temp).coin (flush s1.out pol s1.temp).ma with
  | true => rw [hf, Bool.not_true, decide_eq_false_iff_not] at hre; rw [if_neg hre, if_pos rfl]
  | false => rw [hf, Bool.not_false, decide_eq_true_iff] at hre; rw [if_pos hre, if_neg Bool.false_ne_true]

/-- the outer loop keeps its invariant; under `G` the `break` is not taken and the last output is not empty -/
theorem packPolicies_outer (p : Params) (addr : Bytes) (ch : Value) (G : Prop) (pols : List (Bytes × Asset))
    (hsub : ∀ pa ∈ pols, pa ∈ ch.ma)
    (hG : G → ∀ pa ∈ pols, pa.2 ≠ [] ∧ ∀ a ∈ pa.2, 0 < a.2 ∧ fits p addr ch.coin (single pa.1 a) = true)
    (s : PackState) (hs : Outer p addr ch G s) :
    Outer p addr ch G (packPolicies p addr ch.coin pols s).1 ∧
      (G → (packPolicies p addr ch.coin pols s).2 = false ∧
        ((pols ≠ [] ∨ s.out.ma ≠ []) → (packPolicies p addr ch.coin pols s).1.out.ma ≠ [])) := by
  induction pols generalizing s with
  | nil => exact ⟨hs, fun _ => ⟨rfl, fun h => h.resolve_left (fun h0 => h0 rfl)⟩⟩
  | cons pa rest ih =>
    obtain ⟨pol, assets⟩ := pa
    obtain ⟨hin, hpos⟩ := afterPolicy_inner p addr ch G pol assets (hsub _ List.mem_cons_self) s
      (fun g => hG g _ List.mem_cons_self) hs
    rw [packPolicies_cons_fits]
    generalize afterPolicy p addr ch.coin pol assets s = s1 at hin hpos ⊢
    dsimp only
    rw [flush_coin, hin.coin]
    -- under `G` the re-check at the end of the policy passes
    have hpass : G → fits p addr ch.coin (flush s1.out pol s1.temp).ma = true := fun g => by
      obtain ⟨n0, hn0⟩ := hpos g
      rcases hin.temp with h | h | ⟨h1, a0, ha0, h3⟩
      · rw [h] at hn0; exact absurd hn0 (Int.lt_irrefl 0)
      · exact h
      · rw [h1, h3]; exact ((hG g _ List.mem_cons_self).2 a0 ha0).2
    split
    · rename_i hfit
      have hne2 : G → (flush s1.out pol s1.temp).ma ≠ [] := fun g => by
        obtain ⟨n0, hn0⟩ := hpos g
        apply qty_ne_nil _ pol n0
        rw [qty_flush _ _ _ hin.wf.out hin.wf.temp, if_pos rfl]
        have := hin.oq g pol n0
        omega
      have := ih (fun x hx => hsub x (List.mem_cons_of_mem _ hx)) (fun g x hx => hG g x (List.mem_cons_of_mem _ hx))
        { s1 with out := flush s1.out pol s1.temp, temp := [] }
        { wf := ⟨wf_flush _ _ _ hin.wf.out, Dict.wf_nil, hin.wf.old, hin.wf.arr⟩, arr := hin.arr,
          coin := (flush_coin _ _ _).trans hin.coin, out := Or.inr hfit
          oq := fun g p' n' => by
            rw [qty_flush _ _ _ hin.wf.out hin.wf.temp]
            have := hin.oq g p' n'
            have := hin.tq g n'
            split <;> omega
          ne := hin.ne, start := fun g => Or.inl (hne2 g) }
      exact ⟨this.1, fun g => ⟨(this.2 g).1, fun _ => (this.2 g).2 (Or.inr (hne2 g))⟩⟩
    · rename_i hfit
      exact ⟨{ wf := ⟨hin.wf.old, Dict.wf_nil, hin.wf.old, hin.wf.arr⟩, arr := hin.arr, coin := hin.old.2,
               out := hin.old.1, oq := fun g => absurd (hpass g) hfit, ne := fun g => absurd (hpass g) hfit,
               start := fun g => absurd (hpass g) hfit }, fun g => absurd (hpass g) hfit⟩

def initState (ch : Value) : PackState := { arr := [], out := ⟨ch.coin, []⟩, temp := [], old := ⟨ch.coin, []⟩ }

theorem outer_init (p : Params) (addr : Bytes) (ch : Value) (G : Prop) : Outer p addr ch G (initState ch) :=
  { wf := packWF_init ch.coin, arr := fun _ hm => (nomatch hm), coin := rfl, out := Or.inl rfl,
    oq := fun _ _ _ => Int.le_refl 0, ne := fun _ _ hm => (nomatch hm), start := fun _ => Or.inr ⟨rfl, rfl⟩ }

/-- **provenance of every chunk** `_pack_tokens_for_change` returns, for all inputs -/
theorem packTokens_arrOK (p : Params) (addr : Bytes) (ch : Value) :
    ArrOK p addr ch.ma ch.coin (packTokens p addr ch).1 := by
  have h := (packPolicies_outer p addr ch False ch.ma (fun _ h => h) (fun g => g.elim) (initState ch)
    (outer_init p addr ch False)).1
  exact arrOK_snoc _ _ _ _ _ _ h.arr (h.out.imp id Or.inr)

/-! ## from provenance to the size bound -/

theorem noSingleOver_iff (p : Params) (addr : Bytes) (ch : Value) :
    noSingleOver p addr ch = true ↔ ∀ pa ∈ ch.ma, ∀ a ∈ pa.2, fits p addr ch.coin (single pa.1 a) = true := by
  simp only [noSingleOver, List.all_eq_true]

/-- a bundle fits whatever coin is finally written next to it, up to the difference of the coin widths -/
def FitsX (p : Params) (addr : Bytes) (c : Int) (m : MultiAsset) : Prop :=
  m = [] ∨ ∀ c' : Int, vlen ⟨c', m⟩ + coinLen (probeCoin p addr c m) ≤ p.maxValSize + coinLen c'

theorem fitsX_of_fits (p : Params) (addr : Bytes) (c : Int) (m : MultiAsset) (h : fits p addr c m = true) :
    FitsX p addr c m := by
  right
  intro c'
  have h1 : vlen ⟨probeCoin p addr c m, m⟩ ≤ p.maxValSize := by
    simp only [fits, probeLen] at h; exact of_decide_eq_true h
  have := vlen_shift c' (probeCoin p addr c m) m
  omega

def ArrFit (p : Params) (addr : Bytes) (c0 : Int) (l : List MultiAsset) : Prop := ∀ m ∈ l, FitsX p addr c0 m

theorem packTokens_arrFit (p : Params) (addr : Bytes) (ch : Value) (hs : noSingleOver p addr ch = true) :
    ArrFit p addr ch.coin (packTokens p addr ch).1 := by
  intro m hm
  rcases packTokens_arrOK p addr ch m hm with h | ⟨pa, hpa, a, ha, rfl⟩ | h
  · exact Or.inl h
  · exact fitsX_of_fits _ _ _ _ ((noSingleOver_iff p addr ch).1 hs pa hpa a ha)
  · exact fitsX_of_fits _ _ _ _ h

/-! ## number of chunks -/

theorem packAsset_arr_len (p : Params) (addr : Bytes) (c0 : Int) (pol : Bytes) (s : PackState) (a : Bytes × Int) :
    (packAsset p addr c0 pol s a).arr.length ≤ s.arr.length + 1 := by
  cases ho : overflow p addr s.out s.temp pol a.1 a.2 with
  | false => rw [packAsset_fit ho]; exact Nat.le_succ _
  | true => rw [packAsset_overflow ho, List.length_append]; exact Nat.le_refl _

theorem afterPolicy_arr_len (p : Params) (addr : Bytes) (c0 : Int) (pol : Bytes) (assets : Asset) (s : PackState) :
    (afterPolicy p addr c0 pol assets s).arr.length ≤ s.arr.length + assets.length :=
  foldl_invariant (fun pre (t : PackState) => t.arr.length ≤ s.arr.length + pre.length) _ assets _ (Nat.le_refl _)
    (fun pre a t _ ht => by
      have := packAsset_arr_len p addr c0 pol t a
      rw [List.length_append, List.length_singleton]
      omega)

theorem packPolicies_arr_len (p : Params) (addr : Bytes) (c0 : Int) (pols : List (Bytes × Asset)) (s : PackState) :
    (packPolicies p addr c0 pols s).1.arr.length ≤ s.arr.length + pairCount pols := by
  induction pols generalizing s with
  | nil => exact Nat.le_refl _
  | cons pa rest ih =>
    obtain ⟨pol, assets⟩ := pa
    have h1 := afterPolicy_arr_len p addr c0 pol assets s
    rw [packPolicies_cons]
    generalize afterPolicy p addr c0 pol assets s = s1 at h1 ⊢
    have e : pairCount ((pol, assets) :: rest) = assets.length + pairCount rest := rfl
    dsimp only
    split
    · show s1.arr.length ≤ _
      omega
    · have h2 := ih { s1 with out := flush s1.out pol s1.temp, temp := [] }
      have e2 : ({ s1 with out := flush s1.out pol s1.temp, temp := [] } : PackState).arr = s1.arr := rfl
      rw [e2] at h2
      omega

/-! ## no `break`, no empty chunk, when every quantity is positive and no single asset is too big -/

theorem packPolicies_pos (p : Params) (addr : Bytes) (ch : Value) (hpos : MultiAsset.Pos ch.ma)
    (hs : noSingleOver p addr ch = true) :
    (packTokens p addr ch).2 = false ∧ (∀ m ∈ (packPolicies p addr ch.coin ch.ma (initState ch)).1.arr, m ≠ []) ∧
      (ch.ma ≠ [] → (packPolicies p addr ch.coin ch.ma (initState ch)).1.out.ma ≠ []) := by
  have h := packPolicies_outer p addr ch True ch.ma (fun _ h => h)
    (fun _ pa hpa => ⟨(hpos pa hpa).1, fun a ha => ⟨(hpos pa hpa).2 a ha, (noSingleOver_iff p addr ch).1 hs pa hpa a ha⟩⟩)
    (initState ch) (outer_init p addr ch True)
  exact ⟨(h.2 trivial).1, h.1.ne trivial, fun hne => (h.2 trivial).2 (Or.inl hne)⟩

/-! ## `_calc_change`: what is packed, which coin each output receives, that each output fits -/

theorem pos_set_inner (acc : MultiAsset) (h : MultiAsset.Pos acc) (p k : Bytes) (v : Int) (hv : 0 < v) :
    MultiAsset.Pos (Dict.set acc p (Dict.set (getD acc p []) k v)) := by
  intro x hx
  rcases mem_set _ _ _ _ hx with rfl | hx
  · refine ⟨set_ne_nil _ _ _, fun y hy => ?_⟩
    rcases mem_set _ _ _ _ hy with rfl | hy
    · exact hv
    · rcases getD_eq_or_mem acc p [] with h0 | hm
      · rw [h0] at hy; cases hy
      · exact (h _ hm).2 y hy
  · exact h x hx

/-- what `change.multi_asset.filter(lambda p, n, v: v > 0)` leaves: no empty policy, every quantity positive -/
theorem posFilter_pos (m : MultiAsset) : MultiAsset.Pos (posFilter m) :=
  foldl_invariant (fun _ acc => MultiAsset.Pos acc) _ m [] (fun _ hx => nomatch hx)
    (fun _ pa acc _ h => foldl_invariant (fun _ acc => MultiAsset.Pos acc) _ pa.2 acc h
      (fun _ q acc _ h => by
        dsimp only
        split
        · rename_i hv
          exact pos_set_inner acc h pa.1 q.1 q.2 (of_decide_eq_true hv)
        · exact h))

theorem changeValue_pos (a : ChangeArgs) : MultiAsset.Pos (changeValue a).ma := by
  unfold changeValue
  split
  · rename_i h
    intro x hx
    rw [List.isEmpty_iff.1 h] at hx
    cases hx
  · exact posFilter_pos _

theorem changeLoop_nonlast_coin (P : Params) (addr : Bytes) (r : Bool) (ms : List MultiAsset) (ch : Value)
    (outs : List Output) (h : changeLoop P addr r ms ch = .ok outs) :
    ∀ o ∈ outs.dropLast, o.amount.coin = minAda P addr ⟨0, o.amount.ma⟩ := by
  induction ms generalizing ch outs with
  | nil => rw [changeLoop_nil_ok h]; exact fun _ ho => nomatch ho
  | cons m rest ih =>
    obtain ⟨-, outs', hloop, rfl⟩ := changeLoop_cons_ok.1 h
    have hm := changeLoop_mas r rest _ outs' hloop
    cases rest with
    | nil => rw [changeLoop_nil_ok hloop]; exact fun _ ho => nomatch ho
    | cons m2 r2 =>
      have hne : outs' ≠ [] := fun h0 => by rw [h0] at hm; cases hm
      rw [List.dropLast_cons_of_ne_nil hne]
      intro o ho
      rcases List.mem_cons.1 ho with rfl | ho
      · rfl
      · exact ih _ _ hloop o ho

theorem calcChange_arrFit (P : Params) (a : ChangeArgs) (cs : List Output) (h : calcChange P a = .ok cs)
    (hs : noSingleOver P a.addr (changeValue a) = true) :
    cs ≠ [] ∧ ArrFit P a.addr (changeValue a).coin (cs.map (fun o => o.amount.ma)) ∧
      ∀ o ∈ cs.dropLast, o.amount.coin = minAda P a.addr ⟨0, o.amount.ma⟩ := by
  rcases (calcChange_ok h).2 with ⟨-, -, rfl⟩ | ⟨-, hloop⟩
  · exact ⟨List.cons_ne_nil _ _, fun m hm => Or.inl (List.mem_singleton.1 hm), fun _ ho => nomatch ho⟩
  · have hm := changeLoop_mas _ _ _ _ hloop
    refine ⟨fun h0 => ?_, ?_, changeLoop_nonlast_coin _ _ _ _ _ _ hloop⟩
    · rw [h0] at hm; exact packTokens_ne_nil P a.addr (changeValue a) hm.symm
    · rw [hm]; exact packTokens_arrFit P a.addr (changeValue a) hs

theorem changeOf_eq (a : ChangeArgs) : changeOf a = changeValue a := rfl

theorem changeLoop_coins (P : Params) (addr : Bytes) (ms : List MultiAsset) (ch : Value) (outs : List Output)
    (h : changeLoop P addr true ms ch = .ok outs) (hcpb : 0 ≤ P.cpb) :
    ∀ o ∈ outs, 0 ≤ o.amount.coin ∧ o.amount.coin ≤ ch.coin := by
  induction ms generalizing ch outs with
  | nil => rw [changeLoop_nil_ok h]; exact fun _ ho => nomatch ho
  | cons m rest ih =>
    obtain ⟨hchk, outs', hloop, rfl⟩ := changeLoop_cons_ok.1 h
    have hmin := minAda_nonneg P addr ⟨0, m⟩ hcpb
    have hle : minAda P addr ⟨0, m⟩ ≤ ch.coin := Int.not_lt.1 fun hlt => hchk ⟨rfl, hlt⟩
    have hco : 0 ≤ (changeOut P addr m rest.isEmpty ch).coin ∧ (changeOut P addr m rest.isEmpty ch).coin ≤ ch.coin := by
      unfold changeOut
      split
      · exact ⟨Int.le_trans hmin hle, Int.le_refl _⟩
      · exact ⟨hmin, hle⟩
    intro o ho
    rcases List.mem_cons.1 ho with rfl | ho
    · exact hco
    · have := ih _ _ hloop o ho
      have e : (changeRest ch (changeOut P addr m rest.isEmpty ch)).coin
          = ch.coin - (changeOut P addr m rest.isEmpty ch).coin := rfl
      rw [e] at this
      exact ⟨this.1, by omega⟩

theorem changeLoop_single (P : Params) (addr : Bytes) (r : Bool) (m : MultiAsset) (ch : Value) (outs : List Output)
    (h : changeLoop P addr r [m] ch = .ok outs) : outs = [{ addr := addr, amount := ⟨ch.coin, m⟩ }] := by
  obtain ⟨-, outs', hloop, rfl⟩ := changeLoop_cons_ok.1 h
  rw [changeLoop_nil_ok hloop]
  rfl

theorem fitsX_coin (P : Params) (addr : Bytes) (c0 : Int) (m : MultiAsset) (c : Int) (h : FitsX P addr c0 m)
    (hc0 : 0 ≤ c) (hc : c ≤ c0) : m = [] ∨ vlen ⟨c, m⟩ ≤ P.maxValSize := by
  rcases h with h | h
  · exact Or.inl h
  · right
    have h1 := h c
    have h2 : coinLen c ≤ coinLen (probeCoin P addr c0 m) := by
      apply coinLen_mono _ _ hc0
      unfold probeCoin
      omega
    omega

/-- **every change output fits**: with the minimum-ADA requirement on (or a single change output) -/
theorem calcChange_fit (P : Params) (a : ChangeArgs) (cs : List Output) (h : calcChange P a = .ok cs)
    (hs : noSingleOver P a.addr (changeValue a) = true) (hcpb : 0 ≤ P.cpb) (hr : a.respect = true ∨ cs.length = 1) :
    ∀ o ∈ cs, o.amount.ma = [] ∨ vlen o.amount ≤ P.maxValSize := by
  have hfit := (calcChange_arrFit P a cs h hs).2.1
  have hc0 : 0 ≤ (changeValue a).coin := by
    have := (calcChange_covered P a cs h).1
    rw [changeValue_coin]
    omega
  have hcoins : ∀ o ∈ cs, 0 ≤ o.amount.coin ∧ o.amount.coin ≤ (changeValue a).coin := by
    have hone : ∀ m : MultiAsset, ∀ o ∈ [({ addr := a.addr, amount := ⟨(changeValue a).coin, m⟩ } : Output)],
        0 ≤ o.amount.coin ∧ o.amount.coin ≤ (changeValue a).coin :=
      fun m o ho => List.mem_singleton.1 ho ▸ ⟨hc0, Int.le_refl _⟩
    rcases (calcChange_ok h).2 with ⟨-, -, rfl⟩ | ⟨-, hloop⟩
    · exact hone []
    · rcases hr with hr | hr
      · rw [hr] at hloop
        exact changeLoop_coins P a.addr _ _ cs hloop hcpb
      · have hm := changeLoop_mas _ _ _ _ hloop
        have hl : (packTokens P a.addr (changeValue a)).1.length = 1 := by rw [← hm, List.length_map]; exact hr
        match hpk : (packTokens P a.addr (changeValue a)).1, hl with
        | [m], _ =>
          rw [hpk] at hloop
          rw [changeLoop_single _ _ _ _ _ _ hloop]
          exact hone m
  intro o ho
  exact fitsX_coin P a.addr _ _ o.amount.coin (hfit o.amount.ma (by simp only [List.mem_map]; exact ⟨o, ho, rfl⟩))
    (hcoins o ho).1 (hcoins o ho).2

end Pyc.PackFit
