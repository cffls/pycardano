import Pyc.Proofs.SizeDom
import Pyc.Proofs.Witness

/-! The placeholder witnesses of `_build_fake_vkey_witnesses`, in the model of `Model/SizeDom.lean` (`fakeKey`, for
`Props/C07_SizeDom.lean`) and in the C10 model of `Model/Witness.lean` (`fakeWitness`): pairwise distinct for every index the
code can run (`i.to_bytes(32, "big")` exists for `i < 2^256`), because XOR with a constant and the 32-byte big-endian
rendering are both one-to-one; hence how many survive the `OrderedSet`; each of them dominates a real `[vkey, signature]`. -/

namespace Pyc.SizeDom

theorem xorBytes_length (m x : Bytes) : (xorBytes m x).length = min m.length x.length := List.length_zipWith

theorem xorBytes_inj (m x y : Bytes) (hl : x.length = y.length) (hm : x.length ≤ m.length)
    (h : xorBytes m x = xorBytes m y) : x = y := by
  induction x generalizing m y with
  | nil => exact (List.length_eq_zero_iff.1 hl.symm).symm
  | cons b x ih =>
    match y, m with
    | c :: y, a :: m =>
      simp only [xorBytes, List.zipWith_cons_cons, List.cons.injEq, UInt8.xor_right_inj] at h
      rw [h.1, ih m y (Nat.succ.inj hl) (Nat.le_of_succ_le_succ hm) h.2]

theorem fakeKey_lengths (i : Nat) : (fakeKey i).1.length = 32 ∧ (fakeKey i).2.length = 64 := by
  simp only [fakeKey, xorBytes_length, List.length_append, beBytes_length]
  exact ⟨rfl, rfl⟩

/-- placeholders of different indices below `2^256` (`256^32`) differ already in the key -/
theorem fakeKey_fst_inj (i j : Nat) (hi : i < 2 ^ 256) (hj : j < 2 ^ 256) (h : (fakeKey i).1 = (fakeKey j).1) : i = j :=
  beBytes_inj 32 i j hi hj <|
    xorBytes_inj maskVkey _ _ (by rw [beBytes_length, beBytes_length]) (by rw [beBytes_length]; exact Nat.le_refl 32) h

theorem fakeKey_inj (i j : Nat) (hi : i < 2 ^ 256) (hj : j < 2 ^ 256) (h : fakeKey i = fakeKey j) : i = j :=
  fakeKey_fst_inj i j hi hj (congrArg Prod.fst h)

/-- what `OrderedSet.extend` keeps: no repetition, nothing new, nothing already seen -/
theorem dedupAux_spec (seen xs : List (Bytes × Bytes)) :
    (dedupAux seen xs).Nodup ∧ ∀ x ∈ dedupAux seen xs, x ∈ xs ∧ x ∉ seen := by
  induction xs generalizing seen with
  | nil => exact ⟨List.nodup_nil, fun _ h => nomatch h⟩
  | cons x xs ih =>
    rw [dedupAux]
    split
    · obtain ⟨h1, h2⟩ := ih seen
      exact ⟨h1, fun y hy => ⟨List.mem_cons_of_mem _ (h2 y hy).1, (h2 y hy).2⟩⟩
    · next hc =>
      obtain ⟨h1, h2⟩ := ih (x :: seen)
      refine ⟨List.nodup_cons.2 ⟨fun hm => (h2 x hm).2 List.mem_cons_self, h1⟩, fun y hy => ?_⟩
      rcases List.mem_cons.1 hy with rfl | hy'
      · exact ⟨List.mem_cons_self, by simpa using hc⟩
      · exact ⟨List.mem_cons_of_mem _ (h2 y hy').1, fun hs => (h2 y hy').2 (List.mem_cons_of_mem _ hs)⟩

theorem dedupAux_id (seen xs : List (Bytes × Bytes)) (hn : xs.Nodup) (hd : ∀ x ∈ xs, x ∉ seen) : dedupAux seen xs = xs := by
  induction xs generalizing seen with
  | nil => rfl
  | cons x xs ih =>
    obtain ⟨hxs, hn'⟩ := List.nodup_cons.1 hn
    have hc : ¬ seen.contains x = true := by simpa using hd x List.mem_cons_self
    rw [dedupAux, if_neg hc, ih (x :: seen) hn']
    intro y hy hmem
    rcases List.mem_cons.1 hmem with rfl | hm
    · exact hxs hy
    · exact hd y (List.mem_cons_of_mem _ hy) hm

theorem witItem_dom (f r : Bytes × Bytes) (hf : f.1.length = 32 ∧ f.2.length = 64) (hr : r.1.length ≤ 32 ∧ r.2.length ≤ 64) :
    domB (witItem f) (witItem r) = true := by
  simp [witItem, domB, domList, hf.1, hf.2, hr.1, hr.2]

theorem witList_dom (fs rs : List (Bytes × Bytes)) (hl : rs.length ≤ fs.length)
    (hf : ∀ f ∈ fs, f.1.length = 32 ∧ f.2.length = 64) (hr : ∀ r ∈ rs, r.1.length ≤ 32 ∧ r.2.length ≤ 64) :
    domList (fs.map witItem) (rs.map witItem) = true := by
  refine domList_of_pointwise _ _ (by rwa [List.length_map, List.length_map]) fun i hi => ?_
  rw [List.getElem_map, List.getElem_map]
  exact witItem_dom _ _ (hf _ (List.getElem_mem _)) (hr _ (List.getElem_mem _))

end Pyc.SizeDom

namespace Pyc.Witness
open Pyc.SizeDom

/-- the two models of the placeholder generator agree -/
theorem fakeWitness_eq (i : Nat) : fakeWitness i = ⟨(fakeKey i).1, (fakeKey i).2⟩ := rfl

theorem fakeVkey_inj (i j : Nat) (hi : i < 2 ^ 256) (hj : j < 2 ^ 256) (h : (fakeWitness i).vkey = (fakeWitness j).vkey) :
    i = j := by
  rw [fakeWitness_eq, fakeWitness_eq] at h
  exact fakeKey_fst_inj i j hi hj h

theorem fakeWitness_inj (i j : Nat) (hi : i < 2 ^ 256) (hj : j < 2 ^ 256) (h : fakeWitness i = fakeWitness j) : i = j :=
  fakeVkey_inj i j hi hj (congrArg Witness.vkey h)

theorem length_fakeWitnessesN (n : Nat) (hn : n ≤ 2 ^ 256) : (fakeWitnessesN n).length = n := by
  unfold fakeWitnessesN
  rw [dedup_of_nodup, List.length_map, List.length_range]
  exact nodup_map_range _ _ fun i j hi hj => fakeWitness_inj i j (by omega) (by omega)

end Pyc.Witness
