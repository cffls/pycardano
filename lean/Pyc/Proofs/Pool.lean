import Pyc.Proofs.CustomCodec
import Pyc.Proofs.PoolIp
import Pyc.Proofs.Bech32Str

/-! Helper lemmas for `Props/C01_Pool.lean` / `Props/C02_Pool.lean`: the codec part of `Model/Pool.lean`
(the libc text forms are in `Proofs/PoolIp.lean`). -/

namespace Pyc.Pool
open Pyc.Cbor Pyc.Codec Pyc.Custom

/-! ## ports, names and address arguments: what the decoders make of the written items -/

theorem itemInt_null : itemInt? null = Option.none := rfl

theorem toPort_null : toPort null = .none := by
  simp [toPort, null, itemInt?]

theorem toPort_ofInt (i : Int) : toPort (ofInt i) = .int i := by
  simp [toPort, itemInt_ofInt_all]

theorem toName_null : toName null = .none := by simp [toName, null]

theorem toName_text (b : Bytes) : toName (.text b) = .text b := rfl

theorem codeIs_uint (n : Nat) (k : Int) : codeIs (.uint n) k = ((n : Int) == k) := by
  simp [codeIs, itemInt?]

theorem toIpArg_null : toIpArg null = .none := by simp [toIpArg, asBytes?, null]

theorem toIpArg_bytes (b : Bytes) : toIpArg (.bytes b) = .bytes b := by simp [toIpArg, asBytes?]

theorem portOk_item (p : Port) (h : portOk p = true) : ∃ i, itemPort p = some i ∧ toPort i = p := by
  cases p with
  | none => exact ⟨null, rfl, toPort_null⟩
  | int v => exact ⟨ofInt v, rfl, toPort_ofInt v⟩
  | junk i => simp [portOk] at h

theorem nameOk_item (d : Name) (h : nameOk d = true) : ∃ i, itemName d = some i ∧ toName i = d := by
  cases d with
  | none => exact ⟨null, rfl, toName_null⟩
  | text b => exact ⟨.text b, rfl, rfl⟩
  | junk i => simp [nameOk] at h

/-! ## the two address families

`inet_aton` / `inet_ntoa` for 4 bytes and `inet_pton` / `inet_ntop` for 16 bytes enter the relay codec in the same way:
what is used of either pair is collected in `IpText`, and every fact about a stored address is proved once from it. -/

/-- `shw` writes addresses of `n` bytes as texts, `conv` reads texts, `canon` is the executable "a text that `shw` writes" -/
structure IpText (conv shw : Bytes → Option Bytes) (canon : Bytes → Bool) (n : Nat) : Prop where
  read_write : ∀ b, b.length = n → ∃ t, shw b = some t ∧ conv t = some b
  read_length : ∀ t b, conv t = some b → b.length = n
  write_length : ∀ b t, shw b = some t → b.length = n
  canon_iff : ∀ t, canon t = true ↔ ∃ b, conv t = some b ∧ shw b = some t

theorem canonMatch_iff (conv shw : Bytes → Option Bytes) (t : Bytes) :
    (match conv t with
      | some b => (match shw b with | some t' => t' == t | Option.none => false)
      | Option.none => false) = true ↔ ∃ b, conv t = some b ∧ shw b = some t := by
  cases conv t with
  | none => simp
  | some b => cases hs : shw b <;> simp [hs]

theorem ipText4 : IpText aton ntoa canon4 4 := ⟨aton_ntoa, aton_length, ntoa_length, canonMatch_iff aton ntoa⟩

theorem ipText6 : IpText pton6 ntop6 canon6 16 := ⟨pton6_ntop6, pton6_length, ntop6_length, canonMatch_iff pton6 ntop6⟩

namespace IpText
variable {conv shw : Bytes → Option Bytes} {canon : Bytes → Bool} {n : Nat} (H : IpText conv shw canon n)
include H

theorem ctor_bytes (b : Bytes) (h : b.length = n) :
    ∃ t, ctorIp conv shw (.bytes b) = some (some t) ∧ canon t = true ∧ conv t = some b := by
  obtain ⟨t, h1, h2⟩ := H.read_write b h
  exact ⟨t, by simp [ctorIp, argToBytes, bytesToText, h1], (H.canon_iff t).mpr ⟨b, h2, h1⟩, h2⟩

theorem item (a : Option Bytes) (h : optAll canon a = true) :
    ∃ i, itemIp conv a = some i ∧ ctorIp conv shw (toIpArg i) = some a := by
  cases a with
  | none => exact ⟨null, rfl, by simp [toIpArg_null, ctorIp, argToBytes, bytesToText]⟩
  | some t =>
    obtain ⟨b, hb, ht⟩ := (H.canon_iff t).mp h
    exact ⟨.bytes b, by simp [itemIp, hb], by simp [toIpArg_bytes, ctorIp, argToBytes, bytesToText, ht]⟩

theorem reenc (a : Option Bytes) (ai : Item) (h : itemIp conv a = some ai) :
    ∃ a', ctorIp conv shw (toIpArg ai) = some a' ∧ optAll canon a' = true ∧ itemIp conv a' = some ai := by
  cases a with
  | none =>
    obtain rfl := Option.some.inj h
    exact ⟨Option.none, by simp [toIpArg_null, ctorIp, argToBytes, bytesToText], rfl, rfl⟩
  | some t =>
    cases hb : conv t with
    | none => simp [itemIp, hb] at h
    | some b =>
      obtain rfl : Item.bytes b = ai := by simpa [itemIp, hb] using h
      obtain ⟨t', h1, h2, h3⟩ := H.ctor_bytes b (H.read_length t b hb)
      exact ⟨some t', by rw [toIpArg_bytes, h1], h2, by simp [itemIp, h3]⟩

theorem ctor_canon (a : IpArg) (o : Option Bytes) (h : ctorIp conv shw a = some o) : optAll canon o = true := by
  have hb : ∀ b, b.length = n → ctorIp conv shw (.bytes b) = some o → optAll canon o = true := by
    intro b hl hc
    obtain ⟨t, h1, h2, _⟩ := H.ctor_bytes b hl
    obtain rfl := Option.some.inj (h1.symm.trans hc)
    exact h2
  cases a with
  | none => obtain rfl := Option.some.inj h; rfl
  | text t =>
    cases hc : conv t with
    | none => simp [ctorIp, argToBytes, hc] at h
    | some b => exact hb b (H.read_length t b hc) (by simpa [ctorIp, argToBytes, hc] using h)
  | bytes b =>
    cases hs : shw b with
    | none => simp [ctorIp, argToBytes, bytesToText, hs] at h
    | some t => exact hb b (H.write_length b t hs) h

theorem ctor_fixed (o : Option Bytes) (h : optAll canon o = true) : ctorIp conv shw (textArg o) = some o := by
  cases o with
  | none => rfl
  | some t =>
    obtain ⟨b, hb, ht⟩ := (H.canon_iff t).mp h
    simp [textArg, ctorIp, argToBytes, bytesToText, hb, ht]

end IpText

/-! ## relays -/

theorem decRelay_encRelay (r : Relay) (h : relayOk r = true) : ∃ i, encRelay r = some i ∧ decRelay i = .ok r := by
  cases r with
  | addr p a b =>
    simp only [relayOk, Bool.and_eq_true] at h
    obtain ⟨pi, hp1, hp2⟩ := portOk_item p h.1.1
    obtain ⟨ai, ha1, ha2⟩ := ipText4.item a h.1.2
    obtain ⟨bi, hb1, hb2⟩ := ipText6.item b h.2
    refine ⟨.array [.uint 0, pi, ai, bi], by simp [encRelay, hp1, ha1, hb1], ?_⟩
    simp [decRelay, codeIs_uint, mkAddr, hp2, ha2, hb2]
  | name p d =>
    simp only [relayOk, Bool.and_eq_true] at h
    obtain ⟨pi, hp1, hp2⟩ := portOk_item p h.1
    obtain ⟨di, hd1, hd2⟩ := nameOk_item d h.2
    refine ⟨.array [.uint 1, pi, di], by simp [encRelay, hp1, hd1], ?_⟩
    simp [decRelay, codeIs_uint, hp2, hd2]
  | multi d =>
    simp only [relayOk] at h
    obtain ⟨di, hd1, hd2⟩ := nameOk_item d h
    refine ⟨.array [.uint 2, di], by simp [encRelay, hd1], ?_⟩
    simp [decRelay, codeIs_uint, hd2]

theorem decRelayList_encRelays (rs : List Relay) (h : rs.all relayOk = true) :
    ∃ is, encRelays rs = some is ∧ decRelayList is = .ok rs := by
  induction rs with
  | nil => exact ⟨[], rfl, rfl⟩
  | cons r rs ih =>
    simp only [List.all_cons, Bool.and_eq_true] at h
    obtain ⟨i, hi1, hi2⟩ := decRelay_encRelay r h.1
    obtain ⟨is, his1, his2⟩ := ih h.2
    exact ⟨i :: is, by simp [encRelays, hi1, his1], by simp [decRelayList, Res.bind, hi2, his2]⟩

/-! ## re-encoding -/

theorem itemPort_some (p : Port) (i : Item) (h : itemPort p = some i) : portOk p = true := by
  cases p <;> simp [itemPort, portOk] at h ⊢

theorem itemName_some (d : Name) (i : Item) (h : itemName d = some i) : nameOk d = true := by
  cases d <;> simp [itemName, nameOk] at h ⊢

/-- what `to_cbor` writes has passed `validate()` -/
theorem encRelay_typed (r : Relay) (i : Item) (h : encRelay r = some i) : relayTyped r = true := by
  revert h
  fun_cases encRelay r <;> intro h <;> cases h
  next hp => exact itemPort_some _ _ hp
  next hd hp => simp [relayTyped, itemPort_some _ _ hp, itemName_some _ _ hd]
  next hd => exact itemName_some _ _ hd

theorem decRelay_of_enc (r : Relay) (i : Item) (h : encRelay r = some i) :
    ∃ r', decRelay i = .ok r' ∧ relayOk r' = true ∧ encRelay r' = some i := by
  have ht := encRelay_typed r i h
  -- for the two kinds without addresses "well typed" is all of `relayOk`, and the round trip applies
  have hrt : ∀ r, relayOk r = true → encRelay r = some i →
      ∃ r', decRelay i = .ok r' ∧ relayOk r' = true ∧ encRelay r' = some i := by
    intro r hok h
    obtain ⟨i', h1, h2⟩ := decRelay_encRelay r hok
    obtain rfl := Option.some.inj (h.symm.trans h1)
    exact ⟨r, h2, hok, h⟩
  cases r with
  | addr p a b =>
    have hpo : portOk p = true := ht
    obtain ⟨pi, hp1, hp2⟩ := portOk_item p hpo
    simp only [encRelay, hp1] at h
    split at h
    · rename_i _ ai bi hp ha hb
      cases hp
      cases h
      obtain ⟨a', ha1, ha2, ha3⟩ := ipText4.reenc a ai ha
      obtain ⟨b', hb1, hb2, hb3⟩ := ipText6.reenc b bi hb
      refine ⟨.addr p a' b', ?_, by simp [relayOk, hpo, ha2, hb2], by simp [encRelay, hp1, ha3, hb3]⟩
      simp [decRelay, codeIs_uint, mkAddr, hp2, ha1, hb1]
    · simp at h
  | name p d => exact hrt (.name p d) ht h
  | multi d => exact hrt (.multi d) ht h

/-- `SingleHostAddr(port, ipv4=<4 bytes>, ipv6=<16 bytes>)`: constructed, canonical, and written as those bytes -/
theorem mkAddr_bytes (p : Port) (hp : portOk p = true) (b4 b6 : Bytes) (h4 : b4.length = 4) (h6 : b6.length = 16) :
    ∃ r pi, mkAddr p (.bytes b4) (.bytes b6) = some r ∧ relayOk r = true ∧ itemPort p = some pi ∧
      encRelay r = some (.array [.uint 0, pi, .bytes b4, .bytes b6]) := by
  obtain ⟨t4, h41, h42, h43⟩ := ipText4.ctor_bytes b4 h4
  obtain ⟨t6, h61, h62, h63⟩ := ipText6.ctor_bytes b6 h6
  obtain ⟨pi, hpi, _⟩ := portOk_item p hp
  exact ⟨.addr p (some t4) (some t6), pi, by simp [mkAddr, h41, h61],
    by simp [relayOk, hp, optAll, h42, h62], hpi, by simp [encRelay, hpi, itemIp, h43, h63]⟩

/-! ## the constructor as a normalisation: constructed relays are exactly the canonical ones -/

theorem mkAddr_some (p : Port) (a4 a6 : IpArg) (r : Relay) (h : mkAddr p a4 a6 = some r) :
    ∃ a b, r = .addr p a b ∧ ctorIp aton ntoa a4 = some a ∧ ctorIp pton6 ntop6 a6 = some b := by
  revert h
  fun_cases mkAddr p a4 a6 <;> intro h <;> cases h
  next a b hb ha => exact ⟨a, b, rfl, ha, hb⟩

theorem mkAddr_constructed (p : Port) (a4 a6 : IpArg) (r : Relay) (h : mkAddr p a4 a6 = some r) : normRelay r = some r := by
  obtain ⟨a, b, rfl, ha, hb⟩ := mkAddr_some p a4 a6 r h
  simp [normRelay, mkAddr, ipText4.ctor_fixed a (ipText4.ctor_canon a4 a ha), ipText6.ctor_fixed b (ipText6.ctor_canon a6 b hb)]

theorem relayOk_iff (r : Relay) : relayOk r = true ↔ (normRelay r = some r ∧ relayTyped r = true) := by
  cases r with
  | addr p a b =>
    simp only [relayOk, relayTyped, Bool.and_eq_true]
    constructor
    · rintro ⟨⟨hp, ha⟩, hb⟩
      exact ⟨by simp [normRelay, mkAddr, ipText4.ctor_fixed a ha, ipText6.ctor_fixed b hb], hp⟩
    · rintro ⟨hn, hp⟩
      obtain ⟨a', b', e, ha, hb⟩ := mkAddr_some p _ _ _ hn
      cases e
      exact ⟨⟨hp, ipText4.ctor_canon _ a ha⟩, ipText6.ctor_canon _ b hb⟩
  | name p d => simp [relayOk, relayTyped, normRelay]
  | multi d => simp [relayOk, relayTyped, normRelay]

/-- the decoders go through the constructors: whatever is decoded is constructed -/
theorem decRelay_constructed (i : Item) (r : Relay) (h : decRelay i = .ok r) : normRelay r = some r := by
  revert h
  fun_cases decRelay i <;> intro h <;> cases h
  -- the three kinds; every other branch of the decoder fails
  next hx => exact mkAddr_constructed _ _ _ _ hx
  next => rfl
  next => rfl

/-! ## hashes, owners -/

theorem decHash_bytes (n : Nat) (b : Bytes) (h : b.length = n) : decHash n (.bytes b) = .ok b := by
  simp [decHash, decCBytes, h]

theorem decHashList_bytes (n : Nat) (xs : List Bytes) (h : xs.all (fun x => x.length == n) = true) :
    decHashList n (xs.map .bytes) = .ok xs := by
  induction xs with
  | nil => rfl
  | cons x xs ih =>
    simp only [List.all_cons, Bool.and_eq_true, beq_iff_eq] at h
    simp [decHashList, Res.bind, decHash_bytes n x h.1, ih h.2]

theorem nodupB_iff (xs : List Bytes) : nodupB xs = true ↔ xs.Nodup := by
  induction xs with
  | nil => simp [nodupB]
  | cons x xs ih => simp [nodupB, ih]

theorem dedup_of_nodup (xs : List Bytes) (h : nodupB xs = true) : dedup xs = xs := by
  induction xs with
  | nil => rfl
  | cons x xs ih =>
    obtain ⟨hx, hn⟩ := List.nodup_cons.mp ((nodupB_iff _).mp h)
    rw [dedup, ih ((nodupB_iff _).mpr hn), List.filter_eq_self.mpr]
    intro y hy
    simpa using fun (e : y = x) => hx (e ▸ hy)

/-- what the `OrderedSet` constructor holds has no duplicates -/
theorem nodupB_dedup (xs : List Bytes) : nodupB (dedup xs) = true := by
  rw [nodupB_iff]
  induction xs with
  | nil => exact List.nodup_nil
  | cons x xs ih => exact List.nodup_cons.mpr ⟨fun hm => by simpa using (List.mem_filter.mp hm).2, ih.filter _⟩

theorem decOwners_itemOwners (o : Owners) (h : ownersOk o = true) : decOwners (itemOwners o) = .ok (normOwners o) := by
  cases o with
  | list xs =>
    simp only [ownersOk] at h
    simp [itemOwners, decOwners, Res.bind, decHashList_bytes 28 xs h, normOwners]
  | oset t xs =>
    simp only [ownersOk, Bool.and_eq_true] at h
    cases t with
    | true => simp [itemOwners, decOwners, iterItems, Res.bind, decHashList_bytes 28 xs h.1, normOwners, dedup_of_nodup xs h.2]
    | false => simp [itemOwners, decOwners, Res.bind, decHashList_bytes 28 xs h.1, normOwners]

theorem itemOwners_norm (o : Owners) : itemOwners (normOwners o) = itemOwners o := by
  cases o with
  | list xs => rfl
  | oset t xs => cases t <;> rfl

theorem normOwners_idem (o : Owners) : normOwners (normOwners o) = normOwners o := by
  cases o with
  | list xs => rfl
  | oset t xs => cases t <;> rfl

theorem normOwners_pyEq (o : Owners) : Owners.pyEq (normOwners o) o = true := by
  cases o with
  | list xs => simp [normOwners, Owners.pyEq, Owners.elems]
  | oset t xs => cases t <;> simp [normOwners, Owners.pyEq, Owners.elems]

/-! ## rationals, metadata, pool id -/

theorem mkFrac_of_ok (q : Frac) (h : fracOk q = true) : mkFrac q.n q.d = some q := by
  simp only [fracOk, Bool.and_eq_true, decide_eq_true_eq, beq_iff_eq] at h
  obtain ⟨hd, hg⟩ := h
  have h0 : q.d ≠ 0 := by omega
  have hn : ¬ q.d < 0 := by omega
  simp [mkFrac, h0, hn, hg]

/-- `Fraction(n, d)` establishes the class invariant (lowest terms, positive denominator) and keeps the value -/
theorem mkFrac_spec (n d : Int) (q : Frac) (h : mkFrac n d = some q) : fracOk q = true ∧ q.n * d = n * q.d := by
  unfold mkFrac at h
  split at h
  · simp at h
  · rename_i hd0
    have hg : 0 < Int.gcd n d := Int.gcd_pos_of_ne_zero_right n hd0
    have hgi : (0 : Int) < (Int.gcd n d : Int) := by omega
    have hcop := Int.gcd_ediv_gcd_ediv_gcd hg
    have hn := Int.ediv_mul_cancel (Int.gcd_dvd_left n d)
    have hd := Int.ediv_mul_cancel (Int.gcd_dvd_right n d)
    have hdiv := Int.gcd_dvd_right n d
    revert h hcop hn hd hdiv
    generalize (Int.gcd n d : Int) = g at hgi ⊢
    intro h hcop hn hd hdiv
    -- the value is kept: cross-multiplied, `n / g * d = n * (d / g)`
    have hval : n / g * d = n * (d / g) :=
      calc n / g * d = n / g * (d / g * g) := by rw [hd]
        _ = n / g * g * (d / g) := by ac_rfl
        _ = n * (d / g) := by rw [hn]
    simp only at h
    split at h
    · rename_i hneg
      obtain rfl := Option.some.inj h
      have := Int.ediv_neg_of_neg_of_pos hneg hgi
      refine ⟨?_, by rw [Int.neg_mul, Int.mul_neg, hval]⟩
      simp only [fracOk, Bool.and_eq_true, decide_eq_true_eq, beq_iff_eq, Int.neg_gcd, Int.gcd_neg]
      exact ⟨by omega, hcop⟩
    · rename_i hpos
      obtain rfl := Option.some.inj h
      have := Int.ediv_pos_of_pos_of_dvd (by omega : 0 < d) (Int.le_of_lt hgi) hdiv
      refine ⟨?_, hval⟩
      simp only [fracOk, Bool.and_eq_true, decide_eq_true_eq, beq_iff_eq]
      exact ⟨this, hcop⟩
theorem decFrac_itemFrac (q : Frac) (h : fracOk q = true) : decFrac (itemFrac q) = .ok q := by
  simp [decFrac, itemFrac, itemInt_ofInt_all, mkFrac_of_ok q h]

theorem decMetadata_item (m : Option Metadata) (h : metadataOk m = true) :
    decMetadata (itemMetadata m) = .ok m := by
  cases m with
  | none => simp [itemMetadata, decMetadata, null, listElems?]
  | some m =>
    have h32 : m.hash.length = 32 := by simpa [metadataOk] using h
    simp [itemMetadata, decMetadata, listElems?, decText, Res.bind, decHash_bytes 32 m.hash h32]

theorem decOptPoolId_item (s : Bytes) (h : isPoolId s = true) : decOptPoolId (itemPoolId s) = .ok (some s) := by
  simp [decOptPoolId, itemPoolId, h]

/-! ## the text form of a pool id -/

theorem startsWith_append (p x : Bytes) : startsWith p (p ++ x) = true := by
  induction p with
  | nil => cases x <;> rfl
  | cons c cs ih => simp [startsWith, ih]

theorem poolPrefix_eq : ("pool".toList.map fun c => UInt8.ofNat c.toNat) = poolPrefix := by decide

theorem ascii_roundtrip : ∀ (cs : List Char), (∀ c ∈ cs, c.toNat < 256) →
    asciiChars (cs.map fun c => UInt8.ofNat c.toNat) = cs := by
  intro cs
  induction cs with
  | nil => intro _; rfl
  | cons c cs ih =>
    intro h
    have hc := h c (by simp)
    have e : (UInt8.ofNat c.toNat).toNat = c.toNat := by simp [Nat.mod_eq_of_lt hc]
    simp only [List.map_cons, asciiChars] at ih ⊢
    rw [e, Char.ofNat_toNat, ih (fun c' hc' => h c' (by simp [hc']))]

/-- `bech32.encode("pool", kh)` is a pool id (`is_bech32_cardano_pool_id`), and `bech32.decode` gives `kh` back -/
theorem poolIdText_spec (kh : Bytes) (h2 : 2 ≤ kh.length) :
    ∃ s, poolIdText kh = some s ∧ isPoolId s = true ∧ Bech32.decode (asciiChars s) = .ok (kh.map UInt8.toNat) := by
  obtain ⟨out, _, ho, _, he⟩ := Bech32.encode_eq "pool".toList kh Bech32.hrpOk_pool
  have hascii : ∀ c ∈ "pool".toList ++ '1' :: (out ++ Bech32.createChecksum "pool".toList out false).map Bech32.chr,
      c.toNat < 256 := by
    intro c hc
    rcases List.mem_append.mp hc with hc | hc
    · have := (Bech32.hrpOk_pool.2 c hc).2.1
      omega
    · rcases List.mem_cons.mp hc with rfl | hc
      · decide
      · have := (Bech32.charset_facts c (Bech32.chr_in_charset _ (Bech32.all_lt_append _ out false ho) c hc)).2.1
        omega
  refine ⟨_, by simp only [poolIdText, he, Option.map_some]; rfl, ?_, ?_⟩
  · simp only [isPoolId, ascii_roundtrip _ hascii, Bool.and_eq_true]
    exact ⟨by rw [List.map_append, poolPrefix_eq]; exact startsWith_append _ _,
      by rw [Bech32.bech32Decode_bech32Encode _ out Bech32.hrpOk_pool ho]; rfl⟩
  · rw [ascii_roundtrip _ hascii]
    exact Bech32.decode_encode _ kh Bech32.hrpOk_pool h2 _ he

/-! ## pool parameters -/

theorem paramsOkW_iff (p : PoolParams) : paramsOkW p = true ↔
    p.operator.length = 28 ∧ p.vrf.length = 32 ∧ fracOk p.margin = true ∧ p.rewardAccount.length = 29 ∧
      ownersOk p.owners = true ∧ metadataOk p.metadata = true ∧ idOk p.id = true := by
  simp only [paramsOkW, Bool.and_eq_true, beq_iff_eq, and_assoc]

theorem decRelays_item (rs : Option (List Relay)) (h : relaysOk rs = true) :
    ∃ i, itemRelaysOpt rs = some i ∧ decRelays i = .ok rs := by
  cases rs with
  | none => exact ⟨null, rfl, by simp [decRelays, null, listElems?]⟩
  | some rs =>
    obtain ⟨is, h1, h2⟩ := decRelayList_encRelays rs h
    exact ⟨.array is, by simp [itemRelaysOpt, h1], by simp [decRelays, listElems?, Res.bind, h2]⟩

/-- the nine or ten items of well-formed pool parameters, and what `from_primitive` (the field-by-field restoration, then
the constructor call) makes of them -/
theorem decParamsItems_items (p : PoolParams) (h : paramsOk p = true) :
    ∃ is, itemsParams p = some is ∧ decParamsItems is = .ok (normParams p) ∧
      (∀ ys, is.head? ≠ some (.array ys)) := by
  simp only [paramsOk, Bool.and_eq_true] at h
  obtain ⟨hop, hvrf, hfr, hra, how, hmd, hid⟩ := (paramsOkW_iff p).mp h.1
  obtain ⟨ri, hri1, hri2⟩ := decRelays_item p.relays h.2
  obtain ⟨rs, hrs⟩ : ∃ rs, p.relays = some rs := by
    cases hr : p.relays with
    | none => simp [hr, relaysOk] at h
    | some rs => exact ⟨rs, rfl⟩
  have hmd' := decMetadata_item p.metadata hmd
  have how' := decOwners_itemOwners p.owners how
  have hfr' := decFrac_itemFrac p.margin hfr
  refine ⟨[.bytes p.operator, .bytes p.vrf, ofInt p.pledge, ofInt p.cost, itemFrac p.margin, .bytes p.rewardAccount,
    itemOwners p.owners, ri, itemMetadata p.metadata] ++ (match p.id with | some s => [itemPoolId s] | Option.none => []),
    by simp only [itemsParams, hri1]; rfl, ?_, fun ys => by simp⟩
  cases hpid : p.id with
  | none =>
    simp [decParamsItems, decParamsFields, Res.bind, decHash_bytes 28 _ hop, decHash_bytes 32 _ hvrf, decHash_bytes 29 _ hra,
      itemInt_ofInt_all, hfr', how', hri2, hmd', normParams, hpid, postInit, hrs]
  | some s =>
    rw [hpid] at hid
    simp [decParamsItems, decParamsFields, Res.bind, decHash_bytes 28 _ hop, decHash_bytes 32 _ hvrf, decHash_bytes 29 _ hra,
      itemInt_ofInt_all, hfr', how', hri2, hmd', decOptPoolId_item s (by simpa [idOk] using hid), normParams, hpid, postInit, hrs]

theorem postInit_of_some (p : PoolParams) (h : p.relays.isSome = true) : postInit p = p := by
  unfold postInit
  cases hr : p.relays with
  | none => simp [hr] at h
  | some rs => rfl

theorem postInit_idem (p : PoolParams) : postInit (postInit p) = postInit p := by
  unfold postInit
  cases hr : p.relays <;> simp [hr]

theorem postInit_isSome (p : PoolParams) : (postInit p).relays.isSome = true := by
  unfold postInit
  cases hr : p.relays <;> simp [hr]

theorem decRegistration_flat (is : List Item) (hne : is ≠ []) (hh : ∀ ys, is.head? ≠ some (.array ys)) :
    decRegistration (.array (.uint 3 :: is)) = decParamsItems is := by
  cases is with
  | nil => exact absurd rfl hne
  | cons x xs =>
    cases x with
    | array ys => exact absurd rfl (hh ys)
    | _ => simp [decRegistration, codeIs_uint]

theorem itemsParams_ne_nil (p : PoolParams) (is : List Item) (h : itemsParams p = some is) : is ≠ [] := by
  revert h
  fun_cases itemsParams p <;> intro h <;> cases h
  exact List.cons_ne_nil _ _

theorem encRegistration_some (p : PoolParams) (i : Item) (h : encRegistration p = some i) :
    ∃ is, itemsParams p = some is ∧ i = .array (.uint 3 :: is) := by
  cases his : itemsParams p with
  | none => simp [encRegistration, his] at h
  | some is => exact ⟨is, rfl, by simpa [encRegistration, his] using h.symm⟩

theorem itemsParams_norm (p : PoolParams) : itemsParams (normParams p) = itemsParams p := by
  simp [itemsParams, normParams, itemOwners_norm]

theorem normParams_idem (p : PoolParams) : normParams (normParams p) = normParams p := by
  simp [normParams, normOwners_idem]

theorem ownersOk_norm (o : Owners) (h : ownersOk o = true) : ownersOk (normOwners o) = true := by
  cases o with
  | list xs => exact h
  | oset t xs =>
    simp only [ownersOk, Bool.and_eq_true] at h
    cases t <;> simp [normOwners, ownersOk, h.1, h.2]

theorem paramsOk_norm (p : PoolParams) (h : paramsOk p = true) : paramsOk (normParams p) = true := by
  simp only [paramsOk, Bool.and_eq_true] at h ⊢
  obtain ⟨hop, hvrf, hfr, hra, how, hmd, hid⟩ := (paramsOkW_iff p).mp h.1
  exact ⟨(paramsOkW_iff _).mpr ⟨hop, hvrf, hfr, hra, ownersOk_norm _ how, hmd, hid⟩, h.2⟩

/-! ## constructed pool parameters -/

/-- constructed pool parameters: `__post_init__` has run (`relays` is a list) and every relay in it is a constructed relay -/
def ParamsConstructed (p : PoolParams) : Prop :=
  postInit p = p ∧ ∀ rs, p.relays = some rs → ∀ r ∈ rs, normRelay r = some r

/-- the class invariants of the component classes (hash sizes, `Fraction` in lowest terms, `OrderedSet` without duplicates,
valid `PoolId`) and the relay fields `validate()` checks -/
def paramsTyped (p : PoolParams) : Bool := paramsOkW p && relaysTyped p.relays

theorem isSome_of_postInit (p : PoolParams) (h : postInit p = p) : p.relays.isSome = true := by
  rw [← h]; exact postInit_isSome p

theorem all_relayOk_iff (rs : List Relay) :
    rs.all relayOk = true ↔ ((∀ r ∈ rs, normRelay r = some r) ∧ rs.all relayTyped = true) := by
  induction rs with
  | nil => simp
  | cons r rs ih =>
    simp only [List.all_cons, Bool.and_eq_true, List.mem_cons, forall_eq_or_imp, ih, relayOk_iff]
    constructor
    · rintro ⟨⟨a, b⟩, c, d⟩; exact ⟨⟨a, c⟩, b, d⟩
    · rintro ⟨⟨a, c⟩, b, d⟩; exact ⟨⟨a, b⟩, c, d⟩

theorem paramsOk_iff (p : PoolParams) : paramsOk p = true ↔ (ParamsConstructed p ∧ paramsTyped p = true) := by
  simp only [paramsOk, paramsTyped, ParamsConstructed, Bool.and_eq_true]
  cases hr : p.relays with
  | none =>
    constructor
    · rintro ⟨_, h⟩; simp [relaysOk] at h
    · rintro ⟨⟨h, _⟩, _⟩
      have := isSome_of_postInit p h
      simp [hr] at this
  | some rs =>
    have hp : postInit p = p := postInit_of_some p (by simp [hr])
    simp only [relaysOk, relaysTyped, all_relayOk_iff, hp, true_and, Option.some.injEq]
    constructor
    · rintro ⟨hw, hc, ht⟩; exact ⟨fun rs' e => e ▸ hc, hw, ht⟩
    · rintro ⟨hc, hw, ht⟩; exact ⟨hw, hc rs rfl, ht⟩

theorem decRelayList_constructed (is : List Item) (rs : List Relay) (h : decRelayList is = .ok rs) :
    ∀ r ∈ rs, normRelay r = some r := by
  induction is generalizing rs with
  | nil => cases h; simp
  | cons i is ih =>
    simp only [decRelayList, Res.bind] at h
    cases hr : decRelay i <;> simp only [hr] at h <;> try cases h
    cases hrs : decRelayList is <;> simp only [hrs] at h <;> cases h
    intro x hx
    rcases List.mem_cons.mp hx with rfl | hx
    · exact decRelay_constructed i _ hr
    · exact ih _ hrs x hx

/-- whatever `PoolParams.from_primitive` returns went through `__post_init__` -/
theorem decParamsItems_postInit (xs : List Item) (p : PoolParams) (h : decParamsItems xs = .ok p) : postInit p = p := by
  revert h
  fun_cases decParamsItems xs <;> intro h <;> cases h
  exact postInit_idem _

/-! ## registration: both forms, any encodable object -/

theorem decRegistration_nested (is : List Item) (rest : List Item) :
    decRegistration (.array (.uint 3 :: .array is :: rest)) = decParamsItems is := by
  simp [decRegistration, codeIs_uint]

theorem decRelayList_of_enc (rs : List Relay) (is : List Item) (h : encRelays rs = some is) :
    ∃ rs', decRelayList is = .ok rs' ∧ rs'.all relayOk = true ∧ encRelays rs' = some is := by
  revert h
  fun_induction encRelays rs generalizing is <;> intro h <;> cases h
  next => exact ⟨[], rfl, rfl, rfl⟩
  next his hi ih =>
    obtain ⟨r', h1, h2, h3⟩ := decRelay_of_enc _ _ hi
    obtain ⟨rs', h4, h5, h6⟩ := ih _ his
    exact ⟨r' :: rs', by simp [decRelayList, Res.bind, h1, h4], by simp [h2, h5], by simp [encRelays, h3, h6]⟩

theorem itemRelaysOpt_of_enc (rs : Option (List Relay)) (hs : rs.isSome = true) (i : Item) (h : itemRelaysOpt rs = some i) :
    ∃ rs', decRelays i = .ok rs' ∧ relaysOk rs' = true ∧ itemRelaysOpt rs' = some i := by
  revert h
  fun_cases itemRelaysOpt rs <;> intro h <;> cases h
  next => simp at hs
  next his =>
    obtain ⟨l', h1, h2, h3⟩ := decRelayList_of_enc _ _ his
    exact ⟨some l', by simp [decRelays, listElems?, Res.bind, h1], h2, by simp [itemRelaysOpt, h3]⟩

/-- **any** pool parameters holding a list of relays that can be written at all (class invariants, relays with whatever
address texts the socket functions accept — attributes assigned after construction): decoding gives parameters within the round-trip theorem that are written the same way -/
theorem decParamsItems_of_enc (p : PoolParams) (hw : paramsOkW p = true) (hs : p.relays.isSome = true) (is : List Item)
    (h : itemsParams p = some is) :
    ∃ p', decParamsItems is = .ok p' ∧ paramsOk p' = true ∧ itemsParams p' = some is ∧ normParams p' = p' ∧
      (∀ ys, is.head? ≠ some (.array ys)) := by
  obtain ⟨ri, hri⟩ : ∃ ri, itemRelaysOpt p.relays = some ri := by
    cases hri : itemRelaysOpt p.relays with
    | none => simp [itemsParams, hri] at h
    | some ri => exact ⟨ri, rfl⟩
  obtain ⟨rs', hr1, hr2, hr3⟩ := itemRelaysOpt_of_enc p.relays hs ri hri
  let p1 : PoolParams := { p with relays := rs' }
  have hok : paramsOk p1 = true := by
    simp only [paramsOk, Bool.and_eq_true]
    exact ⟨hw, hr2⟩
  have hsame : itemsParams p1 = itemsParams p := by
    simp only [itemsParams, p1, hr3, hri]
  obtain ⟨is', h1, h2, h3⟩ := decParamsItems_items p1 hok
  rw [hsame, h] at h1
  have : is' = is := (Option.some.inj h1).symm
  subst this
  refine ⟨normParams p1, h2, paramsOk_norm p1 hok, ?_, normParams_idem p1, h3⟩
  rw [itemsParams_norm, hsame, h]

theorem decodeWith_encode {α : Type} (f : Item → Res α) (i : Item) (hw : Cbor.WF i) : decodeWith f (encode i) = f i := by
  simp [decodeWith, Cbor.decodeAll_encode i hw]

/-! ## retirement -/

theorem decRetirement_item (r : Retirement) (h : retirementOk r = true) : decRetirement (itemRetirement r) = .ok r := by
  have h28 : r.poolKeyHash.length = 28 := by simpa [retirementOk] using h
  simp [decRetirement, itemRetirement, codeIs_uint, Res.bind, decHash_bytes 28 _ h28, itemInt_ofInt_all]

end Pyc.Pool
