import Pyc.Model.ComposeCore

/-! The typed restoration `fromPrimL` as a function of its fuel and of its leaf environment.

Fuel: running out of it is the only way the fuel parameter influences a result, and it surfaces as `.crash` (which every
caller propagates).  So a result other than `.crash` is the result for every larger fuel; this turns one evaluation
`fromPrimL S L n t i = .deser` into the statement "for all sufficiently large fuel" that the typing rule of ordered
unions asks for.

Leaves: with no leaf modelled `fromPrimL` IS `fromPrim` (`fromPrimL_noLeaves`), so every statement about `fromPrim` is the
instance `L := noLeaves` of one about `fromPrimL`. -/

namespace Pyc.Codec

/-- how every arm of the restoration consumes the result of a recursive call: `.deser` and `.crash` are passed on -/
def Res.andThen {α β : Type} (r : Res α) (k : α → Res β) : Res β :=
  match r with
  | .ok a => k a
  | .deser => .deser
  | .crash => .crash

end Pyc.Codec

namespace Pyc.Compose
open Pyc.Cbor Pyc.Schema Pyc.Codec

/-! ## the equations of `fromPrimL`, arm by arm (all by unfolding) -/

variable {S : List ClassDef} {L : LeafEnv}

@[simp] theorem fromPrimL_zero (t : Ty) (i : Item) : fromPrimL S L 0 t i = .crash := rfl
@[simp] theorem fromPrimListL_zero (t : Ty) (xs : List Item) : fromPrimListL S L 0 t xs = .crash := rfl
@[simp] theorem fromTupleL_zero (ts : List Ty) (xs : List Item) : fromTupleL S L 0 ts xs = .crash := rfl
@[simp] theorem fromPairsL_zero (kt vt : Ty) (kvs : List (Item × Item)) : fromPairsL S L 0 kt vt kvs = .crash := rfl
@[simp] theorem fromUnionL_zero (ts : List Ty) (i : Item) : fromUnionL S L 0 ts i = .crash := rfl
@[simp] theorem fromArrL_zero (cn : String) (fs : List FieldDef) (xs : List Item) : fromArrL S L 0 cn fs xs = .crash := rfl
@[simp] theorem fromMapL_zero (cn : String) (fs : List FieldDef) (kvs : List (Item × Item)) :
    fromMapL S L 0 cn fs kvs = .crash := rfl

theorem fromPrimL_int (fuel : Nat) (i : Item) :
    fromPrimL S L (fuel+1) .int i =
      match itemInt? i with
      | some n => .ok (.int n)
      | Option.none => (match i with
        | .simple n => if n = 20 then .ok (.bool false) else if n = 21 then .ok (.bool true) else .deser
        | _ => .deser) := rfl

theorem fromPrimL_frac (fuel : Nat) (t : Nat) (a b : Item) :
    fromPrimL S L (fuel+1) .frac (.tag t (.array [a, b])) =
      if t = 30 then (match itemInt? a, itemInt? b with
        | some n, some d => .ok (.frac n d)
        | _, _ => .deser) else .deser := rfl

theorem fromPrimL_union (fuel : Nat) (ts : List Ty) (i : Item) :
    fromPrimL S L (fuel+1) (.union ts) i = fromUnionL S L fuel ts i := rfl

theorem fromPrimListL_nil (fuel : Nat) (t : Ty) : fromPrimListL S L (fuel+1) t [] = .ok [] := rfl
theorem fromUnionL_nil (fuel : Nat) (i : Item) : fromUnionL S L (fuel+1) [] i = .deser := rfl
theorem fromArrL_nil (fuel : Nat) (cn : String) (xs : List Item) : fromArrL S L (fuel+1) cn [] xs = .ok [] := rfl
theorem fromMapL_nil (fuel : Nat) (cn : String) (kvs : List (Item × Item)) : fromMapL S L (fuel+1) cn [] kvs = .ok [] := rfl

theorem fromUnionL_cons (fuel : Nat) (t : Ty) (ts : List Ty) (i : Item) :
    fromUnionL S L (fuel+1) (t :: ts) i =
      match fromPrimL S L fuel t i with
      | .ok v => .ok v
      | .deser => fromUnionL S L fuel ts i
      | .crash => .crash := rfl

/-- a field is restored by its `object_hook`, if it has one, and by its type otherwise -/
def fieldL (S : List ClassDef) (L : LeafEnv) (fuel : Nat) (cn : String) (f : FieldDef) (x : Item) : Res Val :=
  if f.hook then leafVal L (hookKey cn f) x else fromPrimL S L fuel f.ty x

-- The remaining arms, with the continuation of a recursive call written as `Res.andThen`.  The two sides differ only in
-- the auxiliary definition that stands for the `match`, and the elaborator unfolds those only with smart unfolding off.
section Arms
set_option smartUnfolding false

theorem fromPrimL_list (fuel : Nat) (t : Ty) (i : Item) :
    fromPrimL S L (fuel+1) (.list t) i =
      match listElems? i with
      | some xs => (fromPrimListL S L fuel t xs).andThen fun vs => .ok (.list vs)
      | Option.none => .deser := rfl

theorem fromPrimL_oset (fuel : Nat) (t : Ty) (ne : Bool) (i : Item) :
    fromPrimL S L (fuel+1) (.oset t ne) i =
      match i with
      | .tag tg inner =>
        if tg = 258 then (match listElems? inner with
          | some xs => (fromPrimListL S L fuel t xs).andThen fun vs => .ok (.oset true vs)
          | Option.none => .crash) else .crash
      | _ => (match listElems? i with
        | some xs => (fromPrimListL S L fuel t xs).andThen fun vs => .ok (.oset false vs)
        | Option.none => .crash) := rfl

theorem fromPrimL_tuple (fuel : Nat) (ts : List Ty) (i : Item) :
    fromPrimL S L (fuel+1) (.tuple ts) i =
      match listElems? i with
      | some xs => if xs.length = ts.length then (fromTupleL S L fuel ts xs).andThen fun vs => .ok (.list vs) else .deser
      | Option.none => .deser := rfl

theorem fromPrimL_cls (fuel : Nat) (n : String) (i : Item) :
    fromPrimL S L (fuel+1) (.cls n) i =
      match lookup S n with
      | Option.none => .crash
      | some cd =>
        if cd.overrides.contains "from_primitive" || cd.overrides.contains "__post_init__" then leafVal L n i else
        match cd.kind with
        | .custom => leafVal L n i
        | .oset => leafVal L n i
        | .cbytes mn mx => (match i with
          | .bytes b => if mn ≤ b.length ∧ b.length ≤ mx then .ok (.cb b) else .crash
          | .text _ => .crash
          | _ => .deser)
        | .enum vals => (match itemInt? i with
          | some v => if vals.contains v then .ok (.enum v) else .crash
          | Option.none => .deser)
        | .dict kt vt => (match i with
          | .map kvs => (fromPairsL S L fuel kt vt kvs).andThen fun r => .ok (.dict r)
          | _ => .deser)
        | .array => (match listElems? i with
          | some xs => (fromArrL S L fuel n (wireFields cd) xs).andThen fun vs => .ok (.obj n vs)
          | Option.none => .deser)
        | .coded k => (match i with
          | .array (c :: xs) =>
            if encode c = encode (.uint k) then (fromArrL S L fuel n (wireFields cd) xs).andThen fun vs => .ok (.obj n vs)
            else .deser
          | .array [] => .crash
          | _ => .deser)
        | .map => (match i with
          | .map kvs =>
            if kvs.all (fun kv => (wireFields cd).any (fun f => encode (keyItem f.key) = encode kv.1)) then
              (fromMapL S L fuel n (wireFields cd) kvs).andThen fun vs => .ok (.obj n vs)
            else .deser
          | _ => .deser) := rfl

theorem fromPrimListL_cons (fuel : Nat) (t : Ty) (x : Item) (xs : List Item) :
    fromPrimListL S L (fuel+1) t (x :: xs) =
      (fromPrimL S L fuel t x).andThen fun v => (fromPrimListL S L fuel t xs).andThen fun vs => .ok (v :: vs) := rfl

theorem fromTupleL_cons (fuel : Nat) (t : Ty) (ts : List Ty) (x : Item) (xs : List Item) :
    fromTupleL S L (fuel+1) (t :: ts) (x :: xs) =
      (fromPrimL S L fuel t x).andThen fun v => (fromTupleL S L fuel ts xs).andThen fun vs => .ok (v :: vs) := rfl

theorem fromPairsL_cons (fuel : Nat) (kt vt : Ty) (k v : Item) (r : List (Item × Item)) :
    fromPairsL S L (fuel+1) kt vt ((k, v) :: r) =
      (fromPrimL S L fuel kt k).andThen fun kv => (fromPrimL S L fuel vt v).andThen fun vv =>
        (fromPairsL S L fuel kt vt r).andThen fun rs => .ok ((kv, vv) :: rs) := rfl

theorem fromArrL_cons_nil (fuel : Nat) (cn : String) (f : FieldDef) (fs : List FieldDef) :
    fromArrL S L (fuel+1) cn (f :: fs) [] =
      match dfltVal f with
      | some d => (fromArrL S L fuel cn fs []).andThen fun vs => .ok (d :: vs)
      | Option.none => .crash := rfl

theorem fromArrL_cons (fuel : Nat) (cn : String) (f : FieldDef) (fs : List FieldDef) (x : Item) (xs : List Item) :
    fromArrL S L (fuel+1) cn (f :: fs) (x :: xs) =
      (fieldL S L fuel cn f x).andThen fun v => (fromArrL S L fuel cn fs xs).andThen fun vs => .ok (v :: vs) := rfl

theorem fromMapL_cons (fuel : Nat) (cn : String) (f : FieldDef) (fs : List FieldDef) (kvs : List (Item × Item)) :
    fromMapL S L (fuel+1) cn (f :: fs) kvs =
      match lookupItemKey (keyItem f.key) kvs with
      | Option.none =>
        (match dfltVal f with
        | some d => (fromMapL S L fuel cn fs kvs).andThen fun vs => .ok (d :: vs)
        | Option.none => .crash)
      | some x => (fieldL S L fuel cn f x).andThen fun v => (fromMapL S L fuel cn fs kvs).andThen fun vs => .ok (v :: vs) :=
  rfl

end Arms

end Pyc.Compose

namespace Pyc.Codec

/-- `r'` refines `r`: equal unless `r` ran out of fuel -/
def Res.le {α : Type} (r r' : Res α) : Prop := r = .crash ∨ r = r'

theorem Res.le.refl {α : Type} {r : Res α} : Res.le r r := .inr rfl

theorem Res.le.then {α β : Type} {r r' : Res α} {k k' : α → Res β} (h : Res.le r r') (hk : ∀ a, Res.le (k a) (k' a)) :
    Res.le (r.andThen k) (r'.andThen k') := by
  rcases h with rfl | rfl
  · exact .inl rfl
  · cases r with
    | ok a => exact hk a
    | deser => exact .refl
    | crash => exact .refl

theorem Res.le.ite {α : Type} {c : Prop} [Decidable c] {a a' b b' : Res α} (ha : Res.le a a') (hb : Res.le b b') :
    Res.le (if c then a else b) (if c then a' else b') := by
  split
  · exact ha
  · exact hb

end Pyc.Codec

namespace Pyc.Compose
open Pyc.Cbor Pyc.Schema Pyc.Codec

/-- the types restored without a recursive call -/
def flat : Ty → Bool
  | .list _ | .oset _ _ | .tuple _ | .union _ | .cls _ => false
  | _ => true

/-- … are restored the same way whatever the fuel (if any) and the leaves -/
theorem fromPrimL_flat {S : List ClassDef} {t : Ty} (ht : flat t = true) (L : LeafEnv) (fuel fuel' : Nat) (i : Item) :
    fromPrimL S L (fuel+1) t i = fromPrim S (fuel'+1) t i := by
  cases t with
  | bool => cases i <;> rfl
  | bytes => cases i <;> rfl
  | text => cases i <;> rfl
  | none => cases i <;> rfl
  | frac =>
    cases i with
    | tag tg x =>
      cases x with
      | array xs => rcases xs with _ | ⟨a, _ | ⟨b, _ | ⟨c, xs⟩⟩⟩ <;> rfl
      | _ => rfl
    | _ => rfl
  | any | int | dict _ _ | named _ => rfl
  | list _ | oset _ _ | tuple _ | union _ | cls _ => cases ht

theorem fuel_stepL (S : List ClassDef) (L : LeafEnv) : ∀ n,
    (∀ t i, Res.le (fromPrimL S L n t i) (fromPrimL S L (n+1) t i)) ∧
    (∀ t xs, Res.le (fromPrimListL S L n t xs) (fromPrimListL S L (n+1) t xs)) ∧
    (∀ ts xs, Res.le (fromTupleL S L n ts xs) (fromTupleL S L (n+1) ts xs)) ∧
    (∀ kt vt kvs, Res.le (fromPairsL S L n kt vt kvs) (fromPairsL S L (n+1) kt vt kvs)) ∧
    (∀ ts i, Res.le (fromUnionL S L n ts i) (fromUnionL S L (n+1) ts i)) ∧
    (∀ cn fs xs, Res.le (fromArrL S L n cn fs xs) (fromArrL S L (n+1) cn fs xs)) ∧
    (∀ cn fs kvs, Res.le (fromMapL S L n cn fs kvs) (fromMapL S L (n+1) cn fs kvs)) := by
  intro n
  induction n with
  | zero =>
    exact ⟨fun _ _ => .inl rfl, fun _ _ => .inl rfl, fun _ _ => .inl rfl, fun _ _ _ => .inl rfl, fun _ _ => .inl rfl,
      fun _ _ _ => .inl rfl, fun _ _ _ => .inl rfl⟩
  | succ n ih =>
    obtain ⟨i1, i2, i3, i4, i5, i6, i7⟩ := ih
    have field : ∀ cn f x, Res.le (fieldL S L n cn f x) (fieldL S L (n+1) cn f x) := fun _ f x => .ite .refl (i1 f.ty x)
    refine ⟨?_, ?_, ?_, ?_, ?_, ?_, ?_⟩
    · intro t i
      cases t with
      | list a =>
        rw [fromPrimL_list, fromPrimL_list]
        cases listElems? i with
        | none => exact .refl
        | some xs => exact (i2 a xs).then fun _ => .refl
      | oset a ne =>
        rw [fromPrimL_oset, fromPrimL_oset]
        cases i with
        | tag tg inner =>
          refine .ite ?_ .refl
          cases listElems? inner with
          | none => exact .refl
          | some xs => exact (i2 a xs).then fun _ => .refl
        | array xs => exact (i2 a xs).then fun _ => .refl
        | arrayIndef xs => exact (i2 a xs).then fun _ => .refl
        | _ => exact .refl
      | tuple ts =>
        rw [fromPrimL_tuple, fromPrimL_tuple]
        cases listElems? i with
        | none => exact .refl
        | some xs => exact .ite ((i3 ts xs).then fun _ => .refl) .refl
      | union ts => exact i5 ts i
      | cls c =>
        rw [fromPrimL_cls, fromPrimL_cls]
        cases lookup S c with
        | none => exact .refl
        | some cd =>
          refine .ite .refl ?_
          cases cd.kind with
          | dict kt vt =>
            cases i with
            | map kvs => exact (i4 kt vt kvs).then fun _ => .refl
            | _ => exact .refl
          | array =>
            cases listElems? i with
            | none => exact .refl
            | some xs => exact (i6 c _ xs).then fun _ => .refl
          | coded k =>
            cases i with
            | array xs =>
              cases xs with
              | nil => exact .refl
              | cons c0 xs => exact .ite ((i6 c _ xs).then fun _ => .refl) .refl
            | _ => exact .refl
          | map =>
            cases i with
            | map kvs => exact .ite ((i7 c _ kvs).then fun _ => .refl) .refl
            | _ => exact .refl
          | _ => exact .refl
      | _ => exact .inr ((fromPrimL_flat rfl L n 0 i).trans (fromPrimL_flat rfl L (n+1) 0 i).symm)
    · intro t xs
      cases xs with
      | nil => exact .refl
      | cons x xs =>
        rw [fromPrimListL_cons, fromPrimListL_cons]
        exact (i1 t x).then fun _ => (i2 t xs).then fun _ => .refl
    · intro ts xs
      cases ts with
      | nil => exact .refl
      | cons t ts =>
        cases xs with
        | nil => exact .refl
        | cons x xs =>
          rw [fromTupleL_cons, fromTupleL_cons]
          exact (i1 t x).then fun _ => (i3 ts xs).then fun _ => .refl
    · intro kt vt kvs
      cases kvs with
      | nil => exact .refl
      | cons p r =>
        obtain ⟨k, v⟩ := p
        rw [fromPairsL_cons, fromPairsL_cons]
        exact (i1 kt k).then fun _ => (i1 vt v).then fun _ => (i4 kt vt r).then fun _ => .refl
    · intro ts i
      cases ts with
      | nil => exact .refl
      | cons t ts =>
        rw [fromUnionL_cons, fromUnionL_cons]
        rcases i1 t i with h | h
        · exact .inl (by rw [h])
        · rw [← h]
          cases fromPrimL S L n t i with
          | ok v => exact .refl
          | deser => exact i5 ts i
          | crash => exact .refl
    · intro cn fs xs
      cases fs with
      | nil => exact .refl
      | cons f fs =>
        cases xs with
        | nil =>
          rw [fromArrL_cons_nil, fromArrL_cons_nil]
          cases dfltVal f with
          | none => exact .refl
          | some d => exact (i6 cn fs []).then fun _ => .refl
        | cons x xs =>
          rw [fromArrL_cons, fromArrL_cons]
          exact (field cn f x).then fun _ => (i6 cn fs xs).then fun _ => .refl
    · intro cn fs kvs
      cases fs with
      | nil => exact .refl
      | cons f fs =>
        rw [fromMapL_cons, fromMapL_cons]
        cases lookupItemKey (keyItem f.key) kvs with
        | none =>
          cases dfltVal f with
          | none => exact .refl
          | some d => exact (i7 cn fs kvs).then fun _ => .refl
        | some x => exact (field cn f x).then fun _ => (i7 cn fs kvs).then fun _ => .refl

/-- a result other than `.crash` persists for every larger fuel -/
theorem fromPrimL_mono (S : List ClassDef) (L : LeafEnv) (t : Ty) (i : Item) (n m : Nat) (r : Res Val)
    (h : fromPrimL S L n t i = r) (hr : r ≠ .crash) (hm : n ≤ m) : fromPrimL S L m t i = r := by
  induction hm with
  | refl => exact h
  | @step m _ ih =>
    rcases (fuel_stepL S L m).1 t i with hc | he
    · rw [ih] at hc; exact absurd hc hr
    · rw [← he]; exact ih

theorem deser_stableL (S : List ClassDef) (L : LeafEnv) (t : Ty) (i : Item) (n : Nat) (h : fromPrimL S L n t i = .deser) :
    ∃ N, ∀ fuel, N ≤ fuel → fromPrimL S L fuel t i = .deser :=
  ⟨n, fun m hm => fromPrimL_mono S L t i n m .deser h (by simp) hm⟩

theorem ok_stableL (S : List ClassDef) (L : LeafEnv) (t : Ty) (i : Item) (n : Nat) (v : Val) (h : fromPrimL S L n t i = .ok v) :
    ∃ N, ∀ fuel, N ≤ fuel → fromPrimL S L fuel t i = .ok v :=
  ⟨n, fun m hm => fromPrimL_mono S L t i n m (.ok v) h (by simp) hm⟩

/-! ## conservativity: with no leaf modelled, `fromPrimL` IS `fromPrim` -/

theorem leafVal_noLeaves (n : String) (i : Item) : leafVal noLeaves n i = .ok (.opaque i) := rfl

-- each arm of `fromPrimL S noLeaves` is, once the recursive calls are rewritten, the arm of `fromPrim` up to the auxiliary
-- definitions that stand for its `match`es
set_option smartUnfolding false in
theorem conservative_step (S : List ClassDef) : ∀ n,
    fromPrimL S noLeaves n = fromPrim S n ∧ fromPrimListL S noLeaves n = fromPrimList S n ∧
    fromTupleL S noLeaves n = fromTuple S n ∧ fromPairsL S noLeaves n = fromPairs S n ∧
    fromUnionL S noLeaves n = fromUnion S n ∧ (∀ cn, fromArrL S noLeaves n cn = fromArr S n) ∧
    (∀ cn, fromMapL S noLeaves n cn = fromMap S n) := by
  intro n
  induction n with
  | zero => exact ⟨rfl, rfl, rfl, rfl, rfl, fun _ => rfl, fun _ => rfl⟩
  | succ n ih =>
    obtain ⟨i1, i2, i3, i4, i5, i6, i7⟩ := ih
    refine ⟨?_, ?_, ?_, ?_, ?_, ?_, ?_⟩
    · funext t i
      cases t with
      | list a => rw [fromPrimL_list, i2]; rfl
      | oset a ne => rw [fromPrimL_oset, i2]; rfl
      | tuple ts => rw [fromPrimL_tuple, i3]; rfl
      | union ts => rw [fromPrimL_union, i5]; rfl
      | cls c => rw [fromPrimL_cls, i4, i6, i7]; rfl
      | _ => exact fromPrimL_flat rfl noLeaves n n i
    · funext t xs
      cases xs with
      | nil => rfl
      | cons x xs => rw [fromPrimListL_cons, i1, i2]; rfl
    · funext ts xs
      cases ts with
      | nil => rfl
      | cons t ts =>
        cases xs with
        | nil => rfl
        | cons x xs => rw [fromTupleL_cons, i1, i3]; rfl
    · funext kt vt kvs
      cases kvs with
      | nil => rfl
      | cons p r => obtain ⟨k, v⟩ := p; rw [fromPairsL_cons, i1, i4]; rfl
    · funext ts i
      cases ts with
      | nil => rfl
      | cons t ts => rw [fromUnionL_cons, i1, i5]; rfl
    · intro cn
      funext fs xs
      cases fs with
      | nil => rfl
      | cons f fs =>
        cases xs with
        | nil => rw [fromArrL_cons_nil, i6]; rfl
        | cons x xs => rw [fromArrL_cons, fieldL, i1, i6]; rfl
    · intro cn
      funext fs kvs
      cases fs with
      | nil => rfl
      | cons f fs => rw [fromMapL_cons, i7]; simp only [fieldL, i1]; rfl

/-- **conservativity**: the composed restoration without leaves is the generic one -/
theorem fromPrimL_noLeaves (S : List ClassDef) : fromPrimL S noLeaves = fromPrim S :=
  funext fun n => (conservative_step S n).1

end Pyc.Compose

namespace Pyc.Codec
open Pyc.Cbor Pyc.Schema Pyc.Compose

/-! ## the same for `fromPrim` -/

theorem fromPrim_mono (S : List ClassDef) (t : Ty) (i : Item) (n m : Nat) (r : Res Val)
    (h : fromPrim S n t i = r) (hr : r ≠ .crash) (hm : n ≤ m) : fromPrim S m t i = r := by
  rw [← fromPrimL_noLeaves] at h ⊢; exact fromPrimL_mono S noLeaves t i n m r h hr hm

theorem deser_stable (S : List ClassDef) (t : Ty) (i : Item) (n : Nat) (h : fromPrim S n t i = .deser) :
    ∃ N, ∀ fuel, N ≤ fuel → fromPrim S fuel t i = .deser :=
  ⟨n, fun m hm => fromPrim_mono S t i n m .deser h (by simp) hm⟩

theorem ok_stable (S : List ClassDef) (t : Ty) (i : Item) (n : Nat) (v : Val) (h : fromPrim S n t i = .ok v) :
    ∃ N, ∀ fuel, N ≤ fuel → fromPrim S fuel t i = .ok v :=
  ⟨n, fun m hm => fromPrim_mono S t i n m (.ok v) h (by simp) hm⟩

end Pyc.Codec
