import Pyc.Proofs.CustomCodec
import Pyc.Spec.Ids

/-! Integers as CBOR items (`ofInt_small`, `ofInt_nonneg`, `ofInt_neg`, `ofInt_wf`, `ofInt_inj`, used by every hand-written codec), and
the lemmas for C17: injectivity of the CBOR encoder on well-formed items (from the round trip), the native-script
serializer against the CDDL bytes of the specification, well-formedness and injectivity of the native-script
primitive form, and the candidate search of `add_script_input`. -/

namespace Pyc.Ids
open Pyc.Cbor Pyc.Spec.Ids

/-! ## the encoder is injective on well-formed items -/

theorem encode_prefix_injective (x y : Item) (r s : Bytes) (hx : WF x) (hy : WF y)
    (h : encode x ++ r = encode y ++ s) : x = y ∧ r = s := encode_prefix_inj hx hy h

/-! ## integers in the CDDL ranges -/

theorem ofInt_small (i : Int) (h0 : -(2^64 : Int) ≤ i) (h1 : i < 2^64) :
    ofInt i = if 0 ≤ i then .uint i.toNat else .nint (-1 - i).toNat := by
  unfold ofInt
  split
  · exact if_pos (by omega)
  · exact if_pos (by omega)

theorem ofInt_nonneg (i : Int) (h0 : 0 ≤ i) (h1 : i < 2^64) : ofInt i = .uint i.toNat := by
  rw [ofInt_small i (by omega) h1, if_pos h0]

theorem ofInt_neg (i : Int) (h0 : i < 0) (h1 : -(2^64 : Int) ≤ i) : ofInt i = .nint (-1 - i).toNat := by
  rw [ofInt_small i h1 (by omega), if_neg (by omega)]

theorem ofInt_wf (i : Int) (h0 : -(2^64 : Int) ≤ i) (h1 : i < 2^64) : WF (ofInt i) := by
  rw [ofInt_small i h0 h1]
  split <;> simp only [WF] <;> omega

/-- `itemInt?` reads the integer back -/
theorem ofInt_inj {i j : Int} (h : ofInt i = ofInt j) : i = j :=
  Option.some.inj (by rw [← Custom.itemInt_ofInt_all i, h, Custom.itemInt_ofInt_all])

theorem encode_ofInt (i : Int) (h0 : -(2^64 : Int) ≤ i) (h1 : i < 2^64) : encode (ofInt i) = intBytes i := by
  rw [ofInt_small i h0 h1, intBytes, show -(i + 1) = -1 - i by omega]
  split <;> rfl

theorem small_of_int64 {n : Int} (h : -(2^63 : Int) ≤ n ∧ n < 2^63) : -(2^64 : Int) ≤ n ∧ n < 2^64 := by omega

theorem small_of_slot {s : Int} (h : 0 ≤ s ∧ s < 2^64) : -(2^64 : Int) ≤ s ∧ s < 2^64 := ⟨by omega, h.2⟩

/-! ## native scripts: primitive form against the CDDL bytes -/

theorem items_length (xs : List NScript) : (NScript.items xs).length = xs.length := by
  induction xs with
  | nil => simp [NScript.items]
  | cons x xs ih => simp [NScript.items, ih]

mutual
theorem native_cbor_spec (s : NScript) (h : ValidNative s) : encode s.item = nativeBytes s := by
  cases s with
  | pubkey kh => simp [NScript.item, nativeBytes, encode, encodeList]
  | all xs | any xs =>
    simp [NScript.item, nativeBytes, encode, encodeList, items_length, native_seq_spec xs h.2]
  | nofk n xs =>
    have hn := encode_ofInt n (small_of_int64 h.1).1 (small_of_int64 h.1).2
    simp [NScript.item, nativeBytes, encode, encodeList, items_length, native_seq_spec xs h.2.2, hn]
  | before t | hereafter t =>
    have hn := encode_ofInt t (small_of_slot h).1 h.2
    simp [NScript.item, nativeBytes, encode, encodeList, hn]
theorem native_seq_spec (xs : List NScript) (h : ValidNatives xs) : encodeList (NScript.items xs) = nativeSeq xs := by
  cases xs with
  | nil => simp [NScript.items, nativeSeq, encodeList]
  | cons x xs =>
    simp only [ValidNatives] at h
    simp [NScript.items, nativeSeq, encodeList, native_cbor_spec x h.1, native_seq_spec xs h.2]
end

mutual
theorem item_wf (s : NScript) (h : ValidNative s) : WF s.item := by
  cases s with
  | pubkey kh =>
    simp only [ValidNative] at h
    simp [NScript.item, WF, WFList, h]
  | all xs | any xs =>
    simp [NScript.item, WF, WFList, items_length, h.1, items_wf xs h.2]
  | nofk n xs =>
    have hn := ofInt_wf n (small_of_int64 h.1).1 (small_of_int64 h.1).2
    simp [NScript.item, WF, WFList, items_length, h.2.1, items_wf xs h.2.2, hn]
  | before t | hereafter t =>
    have hn := ofInt_wf t (small_of_slot h).1 h.2
    simp [NScript.item, WF, WFList, hn]
theorem items_wf (xs : List NScript) (h : ValidNatives xs) : WFList (NScript.items xs) := by
  cases xs with
  | nil => simp [NScript.items, WFList]
  | cons x xs =>
    simp only [ValidNatives] at h
    simp [NScript.items, WFList, item_wf x h.1, items_wf xs h.2]
end

mutual
theorem item_inj (s t : NScript) (h : s.item = t.item) : s = t := by
  cases s <;> cases t
  case pubkey.pubkey => cases h; rfl
  case all.all xs ys | any.any xs ys =>
    rw [items_injective xs ys (Item.array.inj (List.cons.inj (List.cons.inj (Item.array.inj h)).2).1)]
  case nofk.nofk n xs m ys =>
    have h := (List.cons.inj (Item.array.inj h)).2
    rw [ofInt_inj (List.cons.inj h).1, items_injective xs ys (Item.array.inj (List.cons.inj (List.cons.inj h).2).1)]
  case before.before a b | hereafter.hereafter a b =>
    rw [ofInt_inj (List.cons.inj (List.cons.inj (Item.array.inj h)).2).1]
  -- different constructors write different type codes
  all_goals cases h
theorem items_injective (xs ys : List NScript) (h : NScript.items xs = NScript.items ys) : xs = ys := by
  cases xs with
  | nil => cases ys with
    | nil => rfl
    | cons y ys => cases h
  | cons x xs => cases ys with
    | nil => cases h
    | cons y ys =>
      have h := List.cons.inj h
      rw [item_inj x y h.1, items_injective xs ys h.2]
end

set_option linter.unusedVariables false in
theorem items_inj (xs ys : List NScript) (hs : ValidNatives xs) (ht : ValidNatives ys)
    (h : NScript.items xs = NScript.items ys) : xs = ys := items_injective xs ys h

/-! ## candidate search -/

theorem acceptsScript_iff (a b : Bytes) : acceptsScript a b = true ↔ a = b := beq_iff_eq

theorem firstMatch_some {σ : Type} (hash : σ → Bytes) (cred : Bytes) (cs : List (σ × Src)) (c : σ × Src)
    (h : firstMatch hash cred cs = some c) :
    ∃ pre post, cs = pre ++ c :: post ∧ hash c.1 = cred ∧ ∀ d ∈ pre, hash d.1 ≠ cred := by
  induction cs with
  | nil => cases h
  | cons a r ih =>
    rw [firstMatch] at h
    by_cases ha : hash a.1 = cred
    · rw [if_pos ((acceptsScript_iff _ _).2 ha)] at h
      cases h
      exact ⟨[], r, rfl, ha, nofun⟩
    · rw [if_neg (mt (acceptsScript_iff _ _).1 ha)] at h
      obtain ⟨pre, post, h1, h2, h3⟩ := ih h
      exact ⟨a :: pre, post, by rw [h1]; rfl, h2, List.forall_mem_cons.2 ⟨ha, h3⟩⟩

theorem firstMatch_none {σ : Type} (hash : σ → Bytes) (cred : Bytes) (cs : List (σ × Src)) :
    firstMatch hash cred cs = none ↔ ∀ d ∈ cs, hash d.1 ≠ cred := by
  induction cs with
  | nil => exact ⟨fun _ => nofun, fun _ => rfl⟩
  | cons a r ih =>
    rw [firstMatch, List.forall_mem_cons, ← ih]
    by_cases ha : hash a.1 = cred
    · rw [if_pos ((acceptsScript_iff _ _).2 ha)]
      exact ⟨nofun, fun h => absurd ha h.1⟩
    · rw [if_neg (mt (acceptsScript_iff _ _).1 ha)]
      exact ⟨fun h => ⟨ha, h⟩, fun h => h.2⟩

theorem lookupKey_append (k : Nat) (a b : List (Item × Item)) :
    lookupKey k (a ++ b) = (lookupKey k a).or (lookupKey k b) := by
  induction a with
  | nil => rfl
  | cons p r ih =>
    obtain ⟨key, v⟩ := p
    cases key <;> simp only [List.cons_append, lookupKey, ih]
    split <;> rfl

end Pyc.Ids
