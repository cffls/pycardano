import Pyc.Model.NativeScript
import Pyc.Spec.NativeScript
import Pyc.Proofs.Ids

/-! Lemmas for the native-script codec (`Model/NativeScript.lean`): decode ∘ encode on primitives, fuel adequacy,
the decoder returns well-formed scripts only, the JSON route, the CDDL shape, and the `Leaf` of the output model.

Recursion over scripts goes through `NScript.rec_mem` (the hypothesis speaks of the members of the script list) and the
list companions of the recursive definitions are used through their characterisations by members or as `List.map`
(`wfBs_iff`, `depths_le_iff`, `items_eq_map`, …); statements that carry a fuel are proved by induction on the fuel. -/

namespace Pyc.NativeScript
open Pyc.Cbor Pyc.Codec Pyc.Custom Pyc.Ids

/-! ## `mapRes` -/

theorem mapRes_cons {α β : Type} (f : α → Res β) (x : α) (xs : List α) :
    mapRes f (x :: xs) = Res.bind (f x) fun y => Res.bind (mapRes f xs) fun ys => .ok (y :: ys) := by
  rw [mapRes]
  cases f x with
  | ok y => cases mapRes f xs <;> rfl
  | deser => rfl
  | crash => rfl

theorem mapRes_map {α β γ : Type} (f : α → Res β) (g : γ → α) (k : γ → β) (xs : List γ)
    (h : ∀ x ∈ xs, f (g x) = .ok (k x)) : mapRes f (xs.map g) = .ok (xs.map k) := by
  induction xs with
  | nil => rfl
  | cons x xs ih =>
    rw [List.map_cons, mapRes_cons, h x List.mem_cons_self, ih fun z hz => h z (List.mem_cons_of_mem _ hz)]
    rfl

theorem mapRes_ok {α β : Type} (f : α → Res β) (g : β → α) (ys : List β) (h : ∀ y ∈ ys, f (g y) = .ok y) :
    mapRes f (ys.map g) = .ok ys := by
  rw [mapRes_map f g id ys h, List.map_id]

theorem mapRes_congr {α β : Type} (f g : α → Res β) (xs : List α) (h : ∀ x ∈ xs, f x = g x) :
    mapRes f xs = mapRes g xs := by
  induction xs with
  | nil => rfl
  | cons x xs ih =>
    rw [mapRes_cons, mapRes_cons, h x List.mem_cons_self, ih fun z hz => h z (List.mem_cons_of_mem _ hz)]

theorem mapRes_ok_all {α β : Type} (f : α → Res β) (P : β → Prop) (xs : List α) (ys : List β)
    (h : ∀ x ∈ xs, ∀ y, f x = .ok y → P y) (hm : mapRes f xs = .ok ys) : ∀ y ∈ ys, P y := by
  induction xs generalizing ys with
  | nil => cases hm; nofun
  | cons x xs ih =>
    simp only [mapRes_cons, bind_eq_ok] at hm
    obtain ⟨y, hy, r, hr, he⟩ := hm
    cases he
    intro z hz
    rcases List.mem_cons.1 hz with rfl | hz
    · exact h x List.mem_cons_self _ hy
    · exact ih r (fun a ha => h a (List.mem_cons_of_mem _ ha)) hr z hz

theorem mapRes_preimage {α β : Type} (f : α → Res β) (g : β → α) (xs : List α)
    (h : ∀ x ∈ xs, ∃ y, f x = .ok y ∧ g y = x) : ∃ ys, mapRes f xs = .ok ys ∧ ys.map g = xs := by
  induction xs with
  | nil => exact ⟨[], rfl, rfl⟩
  | cons x xs ih =>
    obtain ⟨y, hy, hx⟩ := h x List.mem_cons_self
    obtain ⟨ys, hys, hxs⟩ := ih fun z hz => h z (List.mem_cons_of_mem _ hz)
    exact ⟨y :: ys, by rw [mapRes_cons, hy, hys]; rfl, by rw [List.map_cons, hx, hxs]⟩

/-! ## induction over scripts; the list companions of the recursive definitions by members -/

theorem _root_.Pyc.Ids.NScript.rec_mem {P : NScript → Prop} (pubkey : ∀ kh, P (.pubkey kh))
    (all : ∀ xs, (∀ x ∈ xs, P x) → P (.all xs)) (any : ∀ xs, (∀ x ∈ xs, P x) → P (.any xs))
    (nofk : ∀ n xs, (∀ x ∈ xs, P x) → P (.nofk n xs)) (before : ∀ t, P (.before t))
    (hereafter : ∀ t, P (.hereafter t)) (s : NScript) : P s :=
  NScript.rec (motive_1 := P) (motive_2 := fun xs => ∀ x ∈ xs, P x) pubkey all any nofk before hereafter
    (fun _ h => nomatch h) (fun _ _ hx hxs _ h => by cases h with | head => exact hx | tail _ h => exact hxs _ h) s

theorem items_eq_map (xs : List NScript) : NScript.items xs = xs.map NScript.item := by
  induction xs with
  | nil => rfl
  | cons x xs ih => rw [NScript.items, ih]; rfl

theorem wfBs_iff (xs : List NScript) : wfBs xs = true ↔ ∀ x ∈ xs, wfB x = true := by
  induction xs with
  | nil => simp [wfBs]
  | cons x xs ih => simp [wfBs, ih]

theorem wfBs_mem (xs : List NScript) (h : wfBs xs = true) : ∀ x ∈ xs, wfB x = true := (wfBs_iff xs).1 h

theorem depths_le_iff (xs : List NScript) (n : Nat) : depths xs ≤ n ↔ ∀ x ∈ xs, depth x ≤ n := by
  induction xs with
  | nil => simp [depths]
  | cons x xs ih => simp [depths, Nat.max_le, ih]

theorem depths_mem (xs : List NScript) : ∀ x ∈ xs, depth x ≤ depths xs := (depths_le_iff xs _).1 (Nat.le_refl _)

theorem depths_le_pred {xs : List NScript} {f : Nat} (h : 1 + depths xs ≤ f + 1) : depths xs ≤ f := by omega

theorem one_le_depth (s : NScript) : 1 ≤ depth s := by
  cases s <;> simp only [depth] <;> omega

/-! ## `fromItem` one level at a time -/

theorem typeCode_uint (n : Nat) : typeCode? (.uint n) = some (n : Int) := rfl

theorem decInt_ofInt (i : Int) : decInt (ofInt i) = .ok i := by simp only [decInt, itemInt_ofInt_all]

/-- the local `scripts` of `fromItem` (the field `native_scripts`), the recursive call a parameter -/
def decScripts (dec : Item → Res NScript) (k : List NScript → NScript) : List Item → Res NScript
  | [] => .crash
  | v :: _ => Res.bind (childItems v) fun ys => Res.bind (mapRes dec ys) fun ss => .ok (k ss)

/-- the fields of `ScriptNofK` -/
def decNofK (dec : Item → Res NScript) : List Item → Res NScript
  | [] => .crash
  | nv :: r => Res.bind (decInt nv) fun n => decScripts dec (.nofk n) r

theorem fromItem_array (f : Nat) (c : Item) (rest : List Item) : fromItem (f+1) (.array (c :: rest)) =
    if typeCode? c = some 0 then decPubkey rest
    else if typeCode? c = some 1 then decScripts (fromItem f) .all rest
    else if typeCode? c = some 2 then decScripts (fromItem f) .any rest
    else if typeCode? c = some 3 then decNofK (fromItem f) rest
    else if typeCode? c = some 4 then decSlot .before rest
    else if typeCode? c = some 5 then decSlot .hereafter rest
    else .deser := rfl

section
variable {f : Nat} {c : Item} {rest : List Item}

theorem fromItem_pubkey (h : typeCode? c = some 0) : fromItem (f+1) (.array (c :: rest)) = decPubkey rest := by
  rw [fromItem_array, h]; rfl

theorem fromItem_all (h : typeCode? c = some 1) :
    fromItem (f+1) (.array (c :: rest)) = decScripts (fromItem f) .all rest := by
  rw [fromItem_array, h]; rfl

theorem fromItem_any (h : typeCode? c = some 2) :
    fromItem (f+1) (.array (c :: rest)) = decScripts (fromItem f) .any rest := by
  rw [fromItem_array, h]; rfl

theorem fromItem_nofk (h : typeCode? c = some 3) : fromItem (f+1) (.array (c :: rest)) = decNofK (fromItem f) rest := by
  rw [fromItem_array, h]; rfl

theorem fromItem_before (h : typeCode? c = some 4) : fromItem (f+1) (.array (c :: rest)) = decSlot .before rest := by
  rw [fromItem_array, h]; rfl

theorem fromItem_hereafter (h : typeCode? c = some 5) :
    fromItem (f+1) (.array (c :: rest)) = decSlot .hereafter rest := by
  rw [fromItem_array, h]; rfl

end

theorem ite_rel {α : Type} {R : α → α → Prop} {c : Prop} [Decidable c] {a a' b b' : α} (h1 : c → R a a')
    (h2 : ¬c → R b b') : R (if c then a else b) (if c then a' else b') := by
  by_cases h : c
  · rw [if_pos h, if_pos h]; exact h1 h
  · rw [if_neg h, if_neg h]; exact h2 h

/-- at any two fuels `fromItem` takes the same branch on a non-empty array -/
theorem fromItem_cases {R : Res NScript → Res NScript → Prop} (f g : Nat) (c : Item) (rest : List Item)
    (pubkey : R (decPubkey rest) (decPubkey rest))
    (all : R (decScripts (fromItem f) .all rest) (decScripts (fromItem g) .all rest))
    (any : R (decScripts (fromItem f) .any rest) (decScripts (fromItem g) .any rest))
    (nofk : R (decNofK (fromItem f) rest) (decNofK (fromItem g) rest))
    (before : R (decSlot .before rest) (decSlot .before rest))
    (hereafter : R (decSlot .hereafter rest) (decSlot .hereafter rest)) (unknown : R .deser .deser) :
    R (fromItem (f+1) (.array (c :: rest))) (fromItem (g+1) (.array (c :: rest))) := by
  rw [fromItem_array, fromItem_array]
  exact ite_rel (fun _ => pubkey) fun _ => ite_rel (fun _ => all) fun _ => ite_rel (fun _ => any) fun _ =>
    ite_rel (fun _ => nofk) fun _ => ite_rel (fun _ => before) fun _ => ite_rel (fun _ => hereafter) fun _ => unknown

theorem decPubkey_bytes {h : Bytes} (hl : h.length = 28) (r : List Item) : decPubkey (.bytes h :: r) = .ok (.pubkey h) := by
  simp [decPubkey, decKeyHash, decCBytes, hl, Res.bind]

theorem decScripts_array {dec k ys ss} (r : List Item) (h : mapRes dec ys = .ok ss) :
    decScripts dec k (.array ys :: r) = .ok (k ss) := by
  simp only [decScripts, childItems, Res.bind, h]

theorem decNofK_array {dec nv n ys ss} (r : List Item) (hn : decInt nv = .ok n) (h : mapRes dec ys = .ok ss) :
    decNofK dec (nv :: .array ys :: r) = .ok (.nofk n ss) := by
  simp only [decNofK, hn, Res.bind, decScripts_array r h]

theorem decSlot_ok {k v n} (r : List Item) (h : decInt v = .ok n) :
    decSlot k (v :: r) = .ok (k n) := by
  simp only [decSlot, h, Res.bind]

/-! ## decode ∘ encode on primitives -/

-- The list companion of a statement that carries a fuel takes the statement about single scripts as a hypothesis: inside
-- the induction on the fuel that is the induction hypothesis, afterwards the theorem itself (`fromList_toItems`).
theorem mapRes_items (f : Nat) (ih : ∀ s, wfB s = true → depth s ≤ f → fromItem f (toItem s) = .ok s)
    (xs : List NScript) (hw : wfBs xs = true) (hd : depths xs ≤ f) :
    mapRes (fromItem f) (NScript.items xs) = .ok xs := by
  rw [items_eq_map]
  exact mapRes_ok _ _ _ fun x hx => ih x (wfBs_mem xs hw x hx) (Nat.le_trans (depths_mem xs x hx) hd)

-- **`from_primitive (to_primitive s) = s`** for every script whose key hashes have 28 bytes, at every fuel not below
-- its nesting depth
theorem fromItem_toItem (s : NScript) (hw : wfB s = true) (fuel : Nat) (hf : depth s ≤ fuel) :
    fromItem fuel (toItem s) = .ok s := by
  induction fuel generalizing s with
  | zero => have := one_le_depth s; omega
  | succ f ih =>
    cases s with
    | pubkey h => exact (fromItem_pubkey rfl).trans (decPubkey_bytes (by simpa [wfB] using hw) _)
    | all xs => exact (fromItem_all rfl).trans (decScripts_array _ (mapRes_items f ih xs hw (depths_le_pred hf)))
    | any xs => exact (fromItem_any rfl).trans (decScripts_array _ (mapRes_items f ih xs hw (depths_le_pred hf)))
    | nofk n xs =>
      exact (fromItem_nofk rfl).trans (decNofK_array _ (decInt_ofInt n) (mapRes_items f ih xs hw (depths_le_pred hf)))
    | before t => exact (fromItem_before rfl).trans (decSlot_ok _ (decInt_ofInt t))
    | hereafter t => exact (fromItem_hereafter rfl).trans (decSlot_ok _ (decInt_ofInt t))

theorem fromList_toItems (xs : List NScript) (hw : wfBs xs = true) (f : Nat) (hd : depths xs ≤ f) :
    mapRes (fromItem f) (NScript.items xs) = .ok xs :=
  mapRes_items f (fun s hw hf => fromItem_toItem s hw f hf) xs hw hd

/-! ## the decoder returns well-formed scripts only -/

theorem decCBytes_len (mn mx : Nat) (i : Item) (b : Bytes) (h : decCBytes mn mx i = .ok b) : mn ≤ b.length ∧ b.length ≤ mx := by
  cases i with
  | bytes x =>
    simp only [decCBytes] at h
    split at h
    · cases h; assumption
    · cases h
  | text x =>
    simp only [decCBytes] at h
    split at h
    · split at h
      · cases h; assumption
      · cases h
    · cases h
  | _ => cases h

theorem decKeyHash_len (i : Item) (b : Bytes) (h : decKeyHash i = .ok b) : b.length = 28 := by
  have : decKeyHash i = decCBytes 28 28 (match i with | .bytesChunked cs => .bytes cs.flatten | i => i) := by
    cases i <;> rfl
  have := decCBytes_len _ _ _ _ (this ▸ h)
  omega

theorem decPubkey_wf (rest : List Item) (s : NScript) (h : decPubkey rest = .ok s) : wfB s = true := by
  cases rest with
  | nil => cases h
  | cons v r =>
    obtain ⟨b, hb, hs⟩ := bind_eq_ok.1 h
    cases hs
    simp only [wfB, decKeyHash_len v b hb, beq_self_eq_true]

theorem decSlot_wf (k : Int → NScript) (hk : ∀ n, wfB (k n) = true) (rest : List Item) (s : NScript)
    (h : decSlot k rest = .ok s) : wfB s = true := by
  cases rest with
  | nil => cases h
  | cons v r =>
    obtain ⟨n, _, hs⟩ := bind_eq_ok.1 h
    cases hs
    exact hk n

theorem decScripts_wf (dec : Item → Res NScript) (ih : ∀ i s, dec i = .ok s → wfB s = true)
    (k : List NScript → NScript) (hk : ∀ ss, wfBs ss = true → wfB (k ss) = true) (vs : List Item) (s : NScript)
    (h : decScripts dec k vs = .ok s) : wfB s = true := by
  cases vs with
  | nil => cases h
  | cons v r =>
    obtain ⟨ys, _, h⟩ := bind_eq_ok.1 h
    obtain ⟨ss, hm, hs⟩ := bind_eq_ok.1 h
    cases hs
    exact hk ss ((wfBs_iff ss).2 (mapRes_ok_all dec _ ys ss (fun x _ => ih x) hm))

theorem decNofK_wf (dec : Item → Res NScript) (ih : ∀ i s, dec i = .ok s → wfB s = true) (vs : List Item) (s : NScript)
    (h : decNofK dec vs = .ok s) : wfB s = true := by
  cases vs with
  | nil => cases h
  | cons nv r =>
    obtain ⟨n, _, h⟩ := bind_eq_ok.1 h
    exact decScripts_wf dec ih (.nofk n) (fun _ h => h) r s h

theorem fromItem_wf (f : Nat) (i : Item) (s : NScript) (h : fromItem f i = .ok s) : wfB s = true := by
  induction f generalizing i s with
  | zero => cases h
  | succ f ih =>
    cases i with
    | array xs =>
      cases xs with
      | nil => cases h
      | cons c rest =>
        exact fromItem_cases (R := fun r _ => r = .ok s → wfB s = true) f f c rest (decPubkey_wf rest s)
          (decScripts_wf _ ih .all (fun _ h => h) rest s) (decScripts_wf _ ih .any (fun _ h => h) rest s)
          (decNofK_wf _ ih rest s) (decSlot_wf .before (fun _ => rfl) rest s)
          (decSlot_wf .hereafter (fun _ => rfl) rest s) nofun h
    | _ => cases h

/-! ## fuel adequacy: any fuel not below the depth of the item gives the same result -/

theorem childItems_depth (v : Item) (ys : List Item) (h : childItems v = .ok ys) : ∀ y ∈ ys, Cbor.depth y ≤ Cbor.depth v := by
  intro y hy
  have leaf : ∀ {α : Type} (g : α → Item) (l : List α), (∀ a, Cbor.depth (g a) = 1) → y ∈ l.map g → Cbor.depth y ≤ Cbor.depth v :=
    fun g l hg hy => by
      obtain ⟨a, _, rfl⟩ := List.mem_map.1 hy
      rw [hg a]; exact depth_pos v
  cases v with
  | array _ | arrayIndef _ => cases h; have := depthList_mem _ y hy; simp only [Cbor.depth]; omega
  | bytes _ | bytesChunked _ | text _ => cases h; exact leaf _ _ (fun _ => rfl) hy
  | map kvs =>
    cases h
    obtain ⟨a, ha, rfl⟩ := List.mem_map.1 hy
    have := depthPairs_mem kvs a ha
    simp only [Cbor.depth]; omega
  | _ => cases h

theorem decScripts_congr (d e : Item → Res NScript) (k : List NScript → NScript) (vs : List Item)
    (h : ∀ v ∈ vs, ∀ ys, childItems v = .ok ys → ∀ y ∈ ys, d y = e y) : decScripts d k vs = decScripts e k vs := by
  cases vs with
  | nil => rfl
  | cons v r =>
    refine bind_congr _ _ _ fun ys hys => ?_
    rw [mapRes_congr d e ys (h v List.mem_cons_self ys hys)]

theorem fromItem_fuel (i : Item) (f g : Nat) (hf : Cbor.depth i ≤ f) (hg : Cbor.depth i ≤ g) :
    fromItem f i = fromItem g i := by
  induction f generalizing g i with
  | zero => have := depth_pos i; omega
  | succ f ih =>
    cases g with
    | zero => have := depth_pos i; omega
    | succ g =>
      cases i with
      | array xs =>
        cases xs with
        | nil => rfl
        | cons c rest =>
          have hr : Cbor.depthList rest + 2 ≤ Cbor.depth (.array (c :: rest)) := by
            simp only [Cbor.depth, Cbor.depthList]; omega
          have key : ∀ k vs, Cbor.depthList vs ≤ Cbor.depthList rest →
              decScripts (fromItem f) k vs = decScripts (fromItem g) k vs := fun k vs hvs =>
            decScripts_congr _ _ k vs fun v hv ys hys y hy => by
              have h1 := childItems_depth v ys hys y hy
              have h2 := depthList_mem vs v hv
              exact ih y g (by omega) (by omega)
          refine fromItem_cases (R := Eq) f g c rest rfl (key _ _ (Nat.le_refl _)) (key _ _ (Nat.le_refl _)) ?_ rfl rfl rfl
          cases rest with
          | nil => rfl
          | cons nv r =>
            exact bind_congr _ _ _ fun n _ => key _ r (Nat.le_trans (Nat.le_max_right (Cbor.depth nv) _) (Nat.le_add_left _ 1))
      | _ => rfl

/-! ## the nesting depth of a script against the depth of its primitive -/

theorem depths_le_of (xs : List NScript) (h : ∀ x ∈ xs, depth x ≤ Cbor.depth (toItem x)) :
    depths xs ≤ Cbor.depthList (NScript.items xs) :=
  (depths_le_iff xs _).2 fun x hx => Nat.le_trans (h x hx)
    (Nat.le_of_lt (depthList_mem _ _ (by rw [items_eq_map]; exact List.mem_map_of_mem hx)))

theorem depth_le_cbor (s : NScript) : depth s ≤ Cbor.depth (toItem s) := by
  have scripts : ∀ xs l, (∀ x ∈ xs, depth x ≤ Cbor.depth (toItem x)) → Item.array (NScript.items xs) ∈ l →
      1 + depths xs ≤ Cbor.depth (.array l) := fun xs l ih hl => by
    have h1 := depths_le_of xs ih
    have h2 := depthList_mem l _ hl
    simp only [Cbor.depth] at h2 ⊢
    omega
  induction s using NScript.rec_mem with
  | pubkey _ | before _ | hereafter _ => exact depth_pos _
  | all xs ih | any xs ih => exact scripts xs _ ih (.tail _ (.head _))
  | nofk n xs ih => exact scripts xs _ ih (.tail _ (.tail _ (.head _)))

theorem depths_le_cbor (xs : List NScript) : depths xs ≤ Cbor.depthList (NScript.items xs) :=
  depths_le_of xs fun x _ => depth_le_cbor x

/-! ## the CDDL rule -/

section
open Pyc.Spec.NativeScript Pyc.Spec.Ids

theorem inRangeBs_iff (xs : List NScript) : inRangeBs xs = true ↔ ∀ x ∈ xs, inRangeB x = true := by
  induction xs with
  | nil => simp [inRangeBs]
  | cons x xs ih => simp [inRangeBs, ih]

theorem validNatives_iff (xs : List NScript) : ValidNatives xs ↔ ∀ x ∈ xs, ValidNative x := by
  induction xs with
  | nil => simp [ValidNatives]
  | cons x xs ih => simp [ValidNatives, ih]

theorem specNSs_eq_map (xs : List NScript) : specNSs xs = xs.map specNS := by
  induction xs with
  | nil => rfl
  | cons x xs ih => rw [specNSs, ih]; rfl

theorem definiteBs_iff (is : List Item) : definiteBs is = true ↔ ∀ i ∈ is, definiteB i = true := by
  induction is with
  | nil => simp [definiteBs]
  | cons x xs ih => simp [definiteBs, ih]

theorem validNative_of_inRange (s : NScript) (h : inRangeB s = true) : ValidNative s := by
  induction s using NScript.rec_mem with
  | pubkey k =>
    simp only [inRangeB, beq_iff_eq] at h
    simp only [ValidNative]; omega
  | all xs ih | any xs ih =>
    simp only [inRangeB, Bool.and_eq_true, decide_eq_true_eq, inRangeBs_iff] at h
    exact ⟨h.1, (validNatives_iff xs).2 fun x hx => ih x hx (h.2 x hx)⟩
  | nofk n xs ih =>
    simp only [inRangeB, Bool.and_eq_true, decide_eq_true_eq, inRangeBs_iff] at h
    exact ⟨h.1.1, h.1.2, (validNatives_iff xs).2 fun x hx => ih x hx (h.2 x hx)⟩
  | before t | hereafter t => simp only [inRangeB, Bool.and_eq_true, decide_eq_true_eq] at h; exact h

theorem validNatives_of_inRange (xs : List NScript) (h : inRangeBs xs = true) : Spec.Ids.ValidNatives xs :=
  (validNatives_iff xs).2 fun x hx => validNative_of_inRange x ((inRangeBs_iff xs).1 h x hx)

theorem wfB_of_inRange (s : NScript) (h : inRangeB s = true) : wfB s = true := by
  induction s using NScript.rec_mem with
  | pubkey k => exact h
  | all xs ih | any xs ih | nofk _ xs ih =>
    simp only [inRangeB, Bool.and_eq_true, inRangeBs_iff] at h
    exact (wfBs_iff xs).2 fun x hx => ih x hx (h.2 x hx)
  | before _ | hereafter _ => rfl

theorem wfBs_of_inRange (xs : List NScript) (h : inRangeBs xs = true) : wfBs xs = true :=
  (wfBs_iff xs).2 fun x hx => wfB_of_inRange x ((inRangeBs_iff xs).1 h x hx)

theorem ofInt_natCast (m : Nat) (h : m < 2^64) : ofInt (m : Int) = .uint m := by
  simp [ofInt, h]

theorem ofInt_int64 (n : Int) (h0 : -(2^63 : Int) ≤ n) (h1 : n < 2^63) : ofInt n = int64Item n := by
  have h := small_of_int64 ⟨h0, h1⟩
  rw [ofInt_small n h.1 h.2, int64Item, show -(n + 1) = -1 - n by omega]

theorem items_spec_of (xs : List NScript) (h : ∀ x ∈ xs, toItem x = specNS x) : NScript.items xs = specNSs xs := by
  rw [items_eq_map, specNSs_eq_map]; exact List.map_congr_left h

theorem toItem_spec (s : NScript) (h : inRangeB s = true) : toItem s = specNS s := by
  induction s using NScript.rec_mem with
  | pubkey k => rfl
  | all xs ih | any xs ih =>
    simp only [inRangeB, Bool.and_eq_true, inRangeBs_iff] at h
    simp only [toItem, NScript.item, specNS, items_spec_of xs fun x hx => ih x hx (h.2 x hx)]
  | nofk n xs ih =>
    simp only [inRangeB, Bool.and_eq_true, decide_eq_true_eq, inRangeBs_iff] at h
    simp only [toItem, NScript.item, specNS, items_spec_of xs fun x hx => ih x hx (h.2 x hx), ofInt_int64 n h.1.1.1 h.1.1.2]
  | before t | hereafter t =>
    simp only [inRangeB, Bool.and_eq_true, decide_eq_true_eq] at h
    simp only [toItem, NScript.item, specNS, slotItem, ofInt_nonneg t h.1 h.2]

theorem items_spec (xs : List NScript) (h : inRangeBs xs = true) : NScript.items xs = specNSs xs :=
  items_spec_of xs fun x hx => toItem_spec x ((inRangeBs_iff xs).1 h x hx)

theorem isInt64_item (n : Int) (h0 : -(2^63 : Int) ≤ n) (h1 : n < 2^63) : isInt64 (int64Item n) = true := by
  unfold int64Item
  split <;> simp only [isInt64, decide_eq_true_eq] <;> omega

theorem isInt64_int (n : Item) (h : isInt64 n = true) : ∃ k : Int, decInt n = .ok k ∧ ofInt k = n := by
  cases n with
  | uint m => exact ⟨m, rfl, ofInt_natCast m (by simp only [isInt64, decide_eq_true_eq] at h; omega)⟩
  | nint m =>
    simp only [isInt64, decide_eq_true_eq] at h
    exact ⟨-1 - m, rfl, by rw [ofInt_neg _ (by omega) (by omega), Int.sub_sub_self, Int.toNat_natCast]⟩
  | _ => cases h

theorem matchNS_specs_of (f : Nat) (ih : ∀ s, inRangeB s = true → depth s ≤ f → matchNS f (specNS s) = true)
    (xs : List NScript) (h : inRangeBs xs = true) (hf : depths xs ≤ f) : (specNSs xs).all (matchNS f) = true := by
  rw [specNSs_eq_map, List.all_map, List.all_eq_true]
  exact fun x hx => ih x ((inRangeBs_iff xs).1 h x hx) (Nat.le_trans (depths_mem xs x hx) hf)

theorem matchNS_spec (s : NScript) (h : inRangeB s = true) (f : Nat) (hf : depth s ≤ f) : matchNS f (specNS s) = true := by
  induction f generalizing s with
  | zero => have := one_le_depth s; omega
  | succ f ih =>
    cases s with
    | pubkey k => exact h
    | all xs | any xs =>
      simp only [inRangeB, Bool.and_eq_true] at h
      exact matchNS_specs_of f ih xs h.2 (depths_le_pred hf)
    | nofk n xs =>
      simp only [inRangeB, Bool.and_eq_true, decide_eq_true_eq] at h
      show (isInt64 (int64Item n) && (specNSs xs).all (matchNS f)) = true
      rw [isInt64_item n h.1.1.1 h.1.1.2, matchNS_specs_of f ih xs h.2 (depths_le_pred hf)]; rfl
    | before t | hereafter t =>
      simp only [inRangeB, Bool.and_eq_true, decide_eq_true_eq] at h
      exact decide_eq_true ((Int.toNat_lt h.1).2 h.2)

theorem matchNS_specs (xs : List NScript) (h : inRangeBs xs = true) (f : Nat) (hf : depths xs ≤ f) :
    (specNSs xs).all (matchNS f) = true :=
  matchNS_specs_of f (fun s h hf => matchNS_spec s h f hf) xs h hf

theorem matchNS_accepts (f : Nat) (i : Item) (h : matchNS f i = true) : ∃ s, fromItem f i = .ok s ∧ toItem s = i := by
  induction f generalizing i with
  | zero => cases h
  | succ f ih =>
    have list : ∀ ys, ys.all (matchNS f) = true → ∃ ss, mapRes (fromItem f) ys = .ok ss ∧ NScript.items ss = ys :=
      fun ys h => by
        simp only [items_eq_map]
        exact mapRes_preimage _ _ ys fun y hy => ih y (List.all_eq_true.1 h y hy)
    cases i with
    | array xs =>
      cases xs with
      | nil => cases h
      | cons c rest =>
        cases c with
        | uint c =>
          unfold matchNS at h
          by_cases h0 : c = 0
          · subst h0
            rw [if_pos rfl] at h
            split at h
            · next k => exact ⟨.pubkey k, (fromItem_pubkey rfl).trans (decPubkey_bytes (beq_iff_eq.1 h) _), rfl⟩
            · cases h
          rw [if_neg h0] at h
          by_cases h12 : c = 1 ∨ c = 2
          · rw [if_pos h12] at h
            split at h
            · next ys =>
              obtain ⟨ss, h3, rfl⟩ := list ys h
              rcases h12 with rfl | rfl
              · exact ⟨.all ss, (fromItem_all rfl).trans (decScripts_array _ h3), rfl⟩
              · exact ⟨.any ss, (fromItem_any rfl).trans (decScripts_array _ h3), rfl⟩
            · cases h
          rw [if_neg h12] at h
          by_cases h3 : c = 3
          · subst h3
            rw [if_pos rfl] at h
            split at h
            · next n ys =>
              rw [Bool.and_eq_true] at h
              obtain ⟨ss, h3, rfl⟩ := list ys h.2
              obtain ⟨k, hk1, rfl⟩ := isInt64_int n h.1
              exact ⟨.nofk k ss, (fromItem_nofk rfl).trans (decNofK_array _ hk1 h3), rfl⟩
            · cases h
          rw [if_neg h3] at h
          by_cases h45 : c = 4 ∨ c = 5
          · rw [if_pos h45] at h
            split at h
            · next t =>
              have ht := ofInt_natCast t (of_decide_eq_true h)
              rcases h45 with rfl | rfl
              · exact ⟨.before t, (fromItem_before rfl).trans (decSlot_ok _ rfl), by rw [toItem, NScript.item, ht]⟩
              · exact ⟨.hereafter t, (fromItem_hereafter rfl).trans (decSlot_ok _ rfl),
                  by rw [toItem, NScript.item, ht]⟩
            · cases h
          rw [if_neg h45] at h
          cases h
        | _ => cases h
    | _ => cases h

theorem ofInt_definite (n : Int) : definiteB (ofInt n) = true := by
  unfold ofInt
  split
  · split <;> rfl
  · simp only []
    split <;> rfl

theorem items_definite_of (xs : List NScript) (h : ∀ x ∈ xs, definiteB (toItem x) = true) :
    definiteBs (NScript.items xs) = true := by
  rw [definiteBs_iff, items_eq_map]
  intro i hi
  obtain ⟨x, hx, rfl⟩ := List.mem_map.1 hi
  exact h x hx

theorem toItem_definite (s : NScript) : definiteB (toItem s) = true := by
  induction s using NScript.rec_mem with
  | pubkey k => rfl
  | all xs ih | any xs ih => simp [toItem, NScript.item, definiteB, definiteBs, items_definite_of xs ih]
  | nofk n xs ih => simp [toItem, NScript.item, definiteB, definiteBs, items_definite_of xs ih, ofInt_definite]
  | before t | hereafter t => simp [toItem, NScript.item, definiteB, definiteBs, ofInt_definite]

theorem items_definite (xs : List NScript) : definiteBs (NScript.items xs) = true :=
  items_definite_of xs fun x _ => toItem_definite x

end

/-! ## the JSON route -/

theorem hexByte_hexNib : ∀ n, n < 16 → hexByte (hexNib n) = some n := by decide

theorem hexOfText_hexAscii (b : Bytes) : hexOfText (hexAscii b) = some b := by
  induction b with
  | nil => rfl
  | cons x xs ih =>
    have hx : x.toNat < 256 := x.toNat_lt
    have h1 := hexByte_hexNib (x.toNat / 16) (by omega)
    have h2 := hexByte_hexNib (x.toNat % 16) (by omega)
    simp only [hexAscii, hexOfText, h1, h2, ih, uint8_split]

theorem primJs_eq_map (xs : List NScript) : primJs xs = xs.map primJ := by
  induction xs with
  | nil => rfl
  | cons x xs ih => rw [primJs, ih]; rfl

theorem toDicts_eq_map (xs : List NScript) : toDicts xs = xs.map toDict := by
  induction xs with
  | nil => rfl
  | cons x xs ih => rw [toDicts, ih]; rfl

/-- the decoder does not tell the primitive of the JSON route from `to_primitive`: they differ in the key hash, hex text
there and bytes here, and `decCBytes` reads both -/
theorem fromItem_primJ_eq (f : Nat) (s : NScript) : fromItem f (primJ s) = fromItem f (toItem s) := by
  induction f generalizing s with
  | zero => rfl
  | succ f ih =>
    have scripts : ∀ k xs r, decScripts (fromItem f) k (.array (primJs xs) :: r) =
        decScripts (fromItem f) k (.array (NScript.items xs) :: r) := fun k xs r => by
      have : mapRes (fromItem f) (primJs xs) = mapRes (fromItem f) (NScript.items xs) := by
        induction xs with
        | nil => rfl
        | cons x xs ihx => rw [primJs, NScript.items, mapRes_cons, mapRes_cons, ih x, ihx]
      simp only [decScripts, childItems, Res.bind, this]
    cases s with
    | pubkey h =>
      refine (fromItem_pubkey rfl).trans (Eq.trans ?_ (fromItem_pubkey rfl).symm)
      simp only [decPubkey, decKeyHash, decCBytes, hexOfText_hexAscii]
    | all xs => exact (fromItem_all rfl).trans ((scripts _ xs _).trans (fromItem_all rfl).symm)
    | any xs => exact (fromItem_any rfl).trans ((scripts _ xs _).trans (fromItem_any rfl).symm)
    | nofk n xs =>
      refine (fromItem_nofk rfl).trans (Eq.trans ?_ (fromItem_nofk rfl).symm)
      exact bind_congr _ _ _ fun _ _ => scripts _ xs _
    | before _ | hereafter _ => rfl

theorem fromItem_primJ (s : NScript) (hw : wfB s = true) (fuel : Nat) (hf : depth s ≤ fuel) :
    fromItem fuel (primJ s) = .ok s := by
  rw [fromItem_primJ_eq, fromItem_toItem s hw fuel hf]

theorem fromList_primJs (xs : List NScript) (hw : wfBs xs = true) (f : Nat) (hd : depths xs ≤ f) :
    mapRes (fromItem f) (primJs xs) = .ok xs := by
  rw [primJs_eq_map]
  exact mapRes_ok _ _ _ fun x hx => fromItem_primJ x (wfBs_mem xs hw x hx) f (Nat.le_trans (depths_mem xs x hx) hd)

theorem tagCode_sig : tagCode tSig = some 0 := by decide
theorem tagCode_all : tagCode tAll = some 1 := by decide
theorem tagCode_any : tagCode tAny = some 2 := by decide
theorem tagCode_atLeast : tagCode tAtLeast = some 3 := by decide
theorem tagCode_after : tagCode tAfter = some 4 := by decide
theorem tagCode_before : tagCode tBefore = some 5 := by decide

theorem jsonPrims_of (f : Nat) (ih : ∀ s, depth s ≤ f → jsonPrim f (toDict s) = .ok (primJ s)) (xs : List NScript)
    (hd : depths xs ≤ f) : mapRes (jsonPrim f) (toDicts xs) = .ok (primJs xs) := by
  rw [toDicts_eq_map, primJs_eq_map]
  exact mapRes_map _ _ _ xs fun x hx => ih x (Nat.le_trans (depths_mem xs x hx) hd)

-- `_script_json_to_primitive (to_dict s)`
theorem jsonPrim_toDict (s : NScript) (fuel : Nat) (hf : depth s ≤ fuel) : jsonPrim fuel (toDict s) = .ok (primJ s) := by
  induction fuel generalizing s with
  | zero => have := one_le_depth s; omega
  | succ f ih =>
    cases s with
    | pubkey _ | before _ | hereafter _ =>
      simp [toDict, jsonPrim, lookupKey, tagCode_sig, tagCode_after, tagCode_before, mapRes, rawItem, Res.bind, primJ]
    | all xs | any xs | nofk _ xs =>
      simp [toDict, jsonPrim, lookupKey, tagCode_all, tagCode_any, tagCode_atLeast, mapRes, rawItem, Res.bind, primJ,
        jsonPrims_of f ih xs (depths_le_pred hf)]

theorem jsonPrims_toDicts (xs : List NScript) (f : Nat) (hd : depths xs ≤ f) :
    mapRes (jsonPrim f) (toDicts xs) = .ok (primJs xs) :=
  jsonPrims_of f (fun s hf => jsonPrim_toDict s f hf) xs hd

/-! ## the native-script leaf of the output model -/

/-- a native script as the constructors build it (`VerificationKeyHash` asserts its 28 bytes) -/
abbrev WScript := { s : NScript // wfB s = true }

/-- the real native-script codec as a `Leaf`: `to_primitive` / `NativeScript.from_primitive`, the fuel the depth of the
item (adequate by `fromItem_fuel`).  The decoder returns well-formed scripts only (`fromItem_wf`), so the `else` branch
is never taken (`C01.NativeScript.nsLeaf_is_fromItem`). -/
def nsLeaf : Leaf WScript where
  enc x := toItem x.val
  dec i :=
    match fromItem (Cbor.depth i) i with
    | .ok s => if h : wfB s = true then .ok ⟨s, h⟩ else .crash
    | .deser => .deser
    | .crash => .crash

theorem nsLeaf_rt (x : WScript) : nsLeaf.dec (nsLeaf.enc x) = .ok x := by
  have h := fromItem_toItem x.val x.property (Cbor.depth (toItem x.val)) (depth_le_cbor x.val)
  simp only [nsLeaf, h, x.property, dite_true]

end Pyc.NativeScript
