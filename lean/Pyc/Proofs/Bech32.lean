import Pyc.Model.Bech32

/-! Helper lemmas for C15 about `Pyc/Model/Bech32.lean`:
GF(2)-linearity of the checksum register, detection of a single error at any distance from the end (the checksum
step is injective on 30-bit registers), the single-error table for the Bech32m constant. -/

namespace Pyc.Bech32

/-! ## the checksum step in closed form and its linearity -/

/-- `g` if bit `i` of `top` is set, else 0: one conditional xor of a `polymod` step -/
def pick (top i g : Nat) : Nat := if top.testBit i then g else 0

theorem pick_xor (a b i g : Nat) : pick (a ^^^ b) i g = pick a i g ^^^ pick b i g := by
  unfold pick
  rw [Nat.testBit_xor]
  cases a.testBit i <;> cases b.testBit i <;> simp

/-- the five conditional xors of one `polymod` step, selected by the bits of `top` -/
def sel (top : Nat) : Nat :=
  pick top 0 0x3B6A57B2 ^^^ pick top 1 0x26508E6D ^^^ pick top 2 0x1EA119FA ^^^ pick top 3 0x3D4233DD ^^^
    pick top 4 0x2A1462B3

theorem bit_iff (top i : Nat) : ((top >>> i) &&& 1 ≠ 0) ↔ top.testBit i = true := by
  rw [Nat.and_one_is_mod, Nat.testBit_eq_decide_div_mod_eq, Nat.shiftRight_eq_div_pow]
  simp

theorem polymodStep_eq (c v : Nat) : polymodStep c v = (((c % 2 ^ 25) <<< 5) ^^^ v) ^^^ sel (c / 2 ^ 25) := by
  simp only [polymodStep, sel, pick, List.range, List.range.loop, List.foldl, generator, List.getD_cons_zero,
    List.getD_cons_succ, bit_iff, Nat.xor_assoc]
  rw [Nat.shiftRight_eq_div_pow, show (0x1FFFFFF : Nat) = 2 ^ 25 - 1 from rfl, Nat.and_two_pow_sub_one_eq_mod]

theorem sel_xor (a b : Nat) : sel (a ^^^ b) = sel a ^^^ sel b := by
  simp only [sel, pick_xor]
  ac_rfl

theorem polymodStep_xor (c1 c2 v1 v2 : Nat) :
    polymodStep (c1 ^^^ c2) (v1 ^^^ v2) = polymodStep c1 v1 ^^^ polymodStep c2 v2 := by
  simp only [polymodStep_eq, Nat.xor_div_two_pow, Nat.xor_mod_two_pow, sel_xor, Nat.shiftLeft_xor_distrib]
  ac_rfl

theorem polymodFrom_xor : ∀ (v1 v2 : List Nat) (c1 c2 : Nat), v1.length = v2.length →
    polymodFrom (c1 ^^^ c2) (List.zipWith (· ^^^ ·) v1 v2) = polymodFrom c1 v1 ^^^ polymodFrom c2 v2
  | [], [], _, _, _ => rfl
  | [], _ :: _, _, _, h => by simp at h
  | _ :: _, [], _, _, h => by simp at h
  | x :: v1, y :: v2, c1, c2, h => by
    simp only [List.zipWith_cons_cons, polymodFrom]
    rw [polymodStep_xor]
    exact polymodFrom_xor v1 v2 _ _ (by simpa using h)

theorem polymodFrom_append (c : Nat) (a b : List Nat) :
    polymodFrom c (a ++ b) = polymodFrom (polymodFrom c a) b := by
  induction a generalizing c with
  | nil => rfl
  | cons x a ih => simp [polymodFrom, ih]

theorem sel_zero : sel 0 = 0 := by decide

theorem polymodStep_zero (e : Nat) : polymodStep 0 e = e := by
  rw [polymodStep_eq, Nat.zero_div, sel_zero]
  simp

theorem polymodFrom_zeros (k : Nat) : polymodFrom 0 (List.replicate k 0) = 0 := by
  induction k with
  | zero => rfl
  | succ k ih => simp only [List.replicate_succ, polymodFrom, polymodStep_zero, ih]

theorem zipWith_xor_self (l : List Nat) : List.zipWith (· ^^^ ·) l l = List.replicate l.length 0 := by
  induction l with
  | nil => rfl
  | cons x l ih => simp only [List.zipWith_cons_cons, Nat.xor_self, List.length_cons, List.replicate_succ, ih]

theorem zipWith_zero_xor (l : List Nat) : List.zipWith (· ^^^ ·) (List.replicate l.length 0) l = l := by
  induction l with
  | nil => rfl
  | cons x l ih => simp only [List.length_cons, List.replicate_succ, List.zipWith_cons_cons, Nat.zero_xor, ih]

theorem polymodFrom_eq_xor (c : Nat) (l : List Nat) :
    polymodFrom c l = polymodFrom c (List.replicate l.length 0) ^^^ polymodFrom 0 l := by
  rw [← polymodFrom_xor _ _ _ _ (by simp), Nat.xor_zero, zipWith_zero_xor]

/-! ## the step as arithmetic: bounds, and a register below `2^25` is only shifted -/

theorem sel_lt (top : Nat) : sel top < 2 ^ 30 := by
  unfold sel pick
  repeat' apply Nat.xor_lt_two_pow
  all_goals split <;> decide

theorem polymodStep_lt (c v : Nat) (hv : v < 2 ^ 30) : polymodStep c v < 2 ^ 30 := by
  rw [polymodStep_eq]
  apply Nat.xor_lt_two_pow _ (sel_lt _)
  apply Nat.xor_lt_two_pow _ hv
  rw [Nat.shiftLeft_eq]
  have := Nat.mod_lt c (Nat.two_pow_pos 25)
  omega

theorem polymodFrom_zeros_lt : ∀ (k c : Nat), c < 2 ^ 30 → polymodFrom c (List.replicate k 0) < 2 ^ 30
  | 0, _, hc => hc
  | k + 1, c, _ => polymodFrom_zeros_lt k _ (polymodStep_lt c 0 (by decide))

theorem polymodFrom_cons_zeros_lt (k c v : Nat) (hv : v < 2 ^ 30) :
    polymodFrom c (v :: List.replicate k 0) < 2 ^ 30 :=
  polymodFrom_zeros_lt k _ (polymodStep_lt c v hv)

theorem mul32_xor (c v : Nat) (hv : v < 32) : (c * 32) ^^^ v = c * 32 + v := by
  have hd : (c * 32 ^^^ v) / 2 ^ 5 = c := by
    rw [Nat.xor_div_two_pow, Nat.mul_div_cancel _ (by decide), Nat.div_eq_of_lt hv, Nat.xor_zero]
  have hm : (c * 32 ^^^ v) % 2 ^ 5 = v := by
    rw [Nat.xor_mod_two_pow, Nat.mul_mod_left, Nat.zero_xor, Nat.mod_eq_of_lt hv]
  omega

theorem polymodStep_small (c v : Nat) (hc : c < 2 ^ 25) (hv : v < 32) : polymodStep c v = c * 32 + v := by
  rw [polymodStep_eq, Nat.div_eq_of_lt hc, sel_zero, Nat.xor_zero, Nat.mod_eq_of_lt hc, Nat.shiftLeft_eq,
    mul32_xor _ _ hv]

/-- no feedback while the register stays below `2^25`: at most six 5-bit symbols shifted into a register that has
room for them are read as base-32 digits -/
theorem polymodFrom_small : ∀ (ds : List Nat) (c k : Nat), c < 32 ^ k → k + ds.length ≤ 6 → (∀ d ∈ ds, d < 32) →
    polymodFrom c ds = ds.foldl (fun a d => a * 32 + d) c
  | [], _, _, _, _, _ => rfl
  | d :: ds, c, k, hc, hk, hd => by
    obtain ⟨hd', hds⟩ := List.forall_mem_cons.mp hd
    have h25 : (32 : Nat) ^ k ≤ 32 ^ 5 := Nat.pow_le_pow_right (by decide) (by simp at hk; omega)
    rw [polymodFrom, polymodStep_small c d (by omega) hd', List.foldl_cons]
    exact polymodFrom_small ds _ (k + 1) (by rw [Nat.pow_succ]; omega) (by simp at hk ⊢; omega) hds

/-! ## one checksum step is injective on 30-bit registers: a single error is detected at ANY distance from the end -/

theorem xor_eq_zero {a b : Nat} (h : a ^^^ b = 0) : a = b := by
  have : a = (a ^^^ b) ^^^ b := by rw [Nat.xor_assoc, Nat.xor_self, Nat.xor_zero]
  rw [this, h, Nat.zero_xor]

/-- the low five bits of the generator constants are linearly independent over GF(2) (the constant coefficient of
g(x) is a non-zero element of GF(32)): only `top = 0` selects a combination whose low five bits vanish -/
theorem sel_low : ∀ top, top < 32 → sel top % 32 = 0 → top = 0 := by decide

/-- multiplying a non-zero residue by `x` (one step with symbol 0) gives a non-zero residue -/
theorem polymodStep_zero_ne (c : Nat) (hc : c < 2 ^ 30) (h0 : c ≠ 0) : polymodStep c 0 ≠ 0 := by
  intro h
  rw [polymodStep_eq, Nat.xor_zero, Nat.shiftLeft_eq] at h
  have e := xor_eq_zero h
  have hs : sel (c / 2 ^ 25) % 32 = 0 := by rw [← e]; omega
  have ht := sel_low _ (by omega) hs
  rw [ht, sel_zero] at e
  omega

theorem polymodStep_zero_inj {a b : Nat} (ha : a < 2 ^ 30) (hb : b < 2 ^ 30)
    (h : polymodStep a 0 = polymodStep b 0) : a = b := by
  apply xor_eq_zero
  apply Classical.byContradiction
  intro hne
  apply polymodStep_zero_ne (a ^^^ b) (Nat.xor_lt_two_pow ha hb) hne
  rw [← Nat.xor_self 0, polymodStep_xor, h, Nat.xor_self, Nat.xor_self]

theorem polymodFrom_zeros_ne : ∀ (k c : Nat), c < 2 ^ 30 → c ≠ 0 → polymodFrom c (List.replicate k 0) ≠ 0
  | 0, _, _, h0 => h0
  | k + 1, c, hc, h0 =>
    polymodFrom_zeros_ne k _ (polymodStep_lt c 0 (by decide)) (polymodStep_zero_ne c hc h0)

/-- checksum residue of the single-symbol error `e` placed `k` symbols before the end -/
def errRes (e k : Nat) : Nat := polymodFrom 0 (e :: List.replicate k 0)

theorem errRes_eq (e k : Nat) : errRes e k = polymodFrom e (List.replicate k 0) := by
  rw [errRes, polymodFrom, polymodStep_zero]

theorem polymod_subst (c : Nat) (pre suf : List Nat) (x x' : Nat) :
    polymodFrom c (pre ++ x :: suf) ^^^ polymodFrom c (pre ++ x' :: suf) = errRes (x ^^^ x') suf.length := by
  rw [← polymodFrom_xor _ _ _ _ (by simp), Nat.xor_self, List.zipWith_append rfl, zipWith_xor_self,
    List.zipWith_cons_cons, zipWith_xor_self, polymodFrom_append, polymodFrom_zeros]
  rfl

theorem errRes_ne_zero (e k : Nat) (he1 : 1 ≤ e) (he : e < 2 ^ 30) : errRes e k ≠ 0 := by
  rw [errRes_eq]
  exact polymodFrom_zeros_ne k e he (by omega)

theorem subst_not_accepted (c : Nat) (pre suf : List Nat) (x x' : Nat) (hx : x < 32) (hx' : x' < 32) (hne : x ≠ x')
    (h : polymodFrom c (pre ++ x :: suf) = 1) : polymodFrom c (pre ++ x' :: suf) ≠ 1 := by
  intro h'
  have he : x ^^^ x' < 32 := Nat.xor_lt_two_pow (n := 5) hx hx'
  have he1 : 1 ≤ x ^^^ x' := Nat.pos_of_ne_zero fun h0 => hne (xor_eq_zero h0)
  apply errRes_ne_zero _ suf.length he1 (by omega)
  rw [← polymod_subst c pre suf x x', h, h']
  rfl

/-! ## the single-error table for the Bech32m constant

A single error `e` at distance `k` has residue `e·x^k`.  It equals `t` exactly when `e = t·x^(-k)`, so instead of
31 runs forwards it is enough to walk backwards from `t` once and see that no value on the way is a symbol. -/

/-- the register that one step with symbol 0 takes to `r`: the low five bits of `r` are those of `sel top`, which
determine `top` (17, 11, 22, 5, 10 are the values of `top` whose selection ends in the bits 1, 2, 4, 8, 16) -/
def unstep (r : Nat) : Nat :=
  let top := pick r 0 17 ^^^ pick r 1 11 ^^^ pick r 2 22 ^^^ pick r 3 5 ^^^ pick r 4 10
  top * 2 ^ 25 + (r ^^^ sel top) / 32

/-- `backOk n r`: none of `r, r·x⁻¹, …, r·x^(-(n-1))` is a single symbol; that `unstep` inverts the step is tested
along the way and not assumed -/
def backOk : Nat → Nat → Bool
  | 0, _ => true
  | n + 1, r => decide (32 ≤ r) && decide (unstep r < 2 ^ 30) && polymodStep (unstep r) 0 == r && backOk n (unstep r)

theorem backOk_spec : ∀ (n r : Nat), backOk n r = true → ∀ k, k < n → ∀ c, c < 2 ^ 30 →
    polymodFrom c (List.replicate k 0) = r → 32 ≤ c
  | 0, _, _, k, hk, _, _, _ => by omega
  | n + 1, r, h, k, _, c, hc, hr => by
    simp only [backOk, Bool.and_eq_true, decide_eq_true_eq, beq_iff_eq] at h
    obtain ⟨⟨⟨h32, hlt⟩, hinv⟩, hrest⟩ := h
    cases k with
    | zero => exact (show c = r from hr) ▸ h32
    | succ k =>
      rw [List.replicate_succ', polymodFrom_append, polymodFrom, polymodFrom, ← hinv] at hr
      exact backOk_spec n _ hrest k (by omega) c hc (polymodStep_zero_inj (polymodFrom_zeros_lt k c hc) hlt hr)

theorem backOk_bech32m : backOk 130 (1 ^^^ bech32mConst) = true := by decide +kernel

end Pyc.Bech32
