import Pyc.Model.Addr

/-! Helper lemmas for C15 about `Pyc/Model/Addr.lean`: base-128 naturals, pointers, header byte, byte layout. -/

namespace Pyc.Addr

/-! ## bit operations on 7-bit groups as arithmetic -/

theorem and_7F (n : Nat) : n &&& 0x7F = n % 128 := Nat.and_two_pow_sub_one_eq_mod n 7
theorem shr_7 (n : Nat) : n >>> 7 = n / 128 := Nat.shiftRight_eq_div_pow n 7
theorem shl_7 (n : Nat) : n <<< 7 = n * 128 := Nat.shiftLeft_eq n 7

theorem mul128_or (c r : Nat) (h : r < 128) : c * 128 ||| r = c * 128 + r := by
  have := Nat.two_pow_add_eq_or_of_lt (i := 7) (b := r) h c
  rw [Nat.mul_comm] at this
  exact this.symm

theorem or_80 (r : Nat) (h : r < 128) : 0x80 ||| r = 128 + r := mul128_or 1 r h

theorem and_80 (n : Nat) : n &&& 0x80 = n / 128 % 2 * 128 := by
  have hd := Nat.and_div_two_pow (a := n) (b := 0x80) (n := 7)
  have hm := Nat.and_mod_two_pow (a := n) (b := 0x80) (n := 7)
  rw [show 0x80 / 2 ^ 7 = 1 from rfl, Nat.and_one_is_mod] at hd
  rw [show 0x80 % 2 ^ 7 = 0 from rfl, Nat.and_zero] at hm
  omega

/-- the continuation byte written by `_encode_int` for the group `n % 128` -/
theorem contByte_toNat (n : Nat) : (UInt8.ofNat (0x80 ||| (n &&& 0x7F))).toNat = 128 + n % 128 := by
  rw [and_7F, or_80 _ (Nat.mod_lt _ (by decide)), UInt8.toNat_ofNat']
  omega

theorem lastByte_toNat (n : Nat) : (UInt8.ofNat (n &&& 0x7F)).toNat = n % 128 := by
  rw [and_7F, UInt8.toNat_ofNat']
  omega

/-! ## `encTail` / `encodeInt` -/

theorem encTail_zero : encTail 0 = [] := by rw [encTail]; simp

theorem encTail_pos (n : Nat) (h : n ≠ 0) :
    encTail n = UInt8.ofNat (0x80 ||| (n &&& 0x7F)) :: encTail (n / 128) := by
  rw [encTail]; simp [h, shr_7]

theorem encodeInt_eq (n : Nat) :
    encodeInt n = (encTail (n / 128)).reverse ++ [UInt8.ofNat (n &&& 0x7F)] := by
  simp [encodeInt, shr_7]

theorem encTail_ge (m : Nat) : ∀ b ∈ encTail m, 128 ≤ b.toNat ∧ b.toNat < 256 := by
  induction m using encTail.induct with
  | case1 => simp [encTail_zero]
  | case2 m hm ih =>
    rw [encTail_pos m hm, List.forall_mem_cons, contByte_toNat]
    exact ⟨by omega, shr_7 m ▸ ih⟩

theorem value_encTail (m : Nat) : ∀ (c : Nat),
    ((encTail m).reverse.map UInt8.toNat).foldl (fun a b => a * 128 + b % 128) c
      = c * 128 ^ (encTail m).length + m := by
  induction m using encTail.induct with
  | case1 => simp [encTail_zero]
  | case2 m hm ih =>
    intro c
    rw [shr_7] at ih
    rw [encTail_pos m hm]
    simp only [List.reverse_cons, List.map_append, List.map_cons, List.map_nil, List.foldl_append, List.foldl_cons,
      List.foldl_nil, List.length_cons, contByte_toNat]
    rw [ih c, Nat.pow_succ, ← Nat.mul_assoc]
    generalize c * 128 ^ (encTail (m / 128)).length = X
    omega

theorem decLoop_cont : ∀ (bs : Bytes) (c : Nat) (rest : Bytes) (ints : List Nat), (∀ b ∈ bs, 128 ≤ b.toNat) →
    decLoop (bs ++ rest) (c * 128) ints
      = decLoop rest ((bs.map UInt8.toNat).foldl (fun a b => a * 128 + b % 128) c * 128) ints
  | [], _, _, _, _ => rfl
  | b :: bs, c, rest, ints, h => by
    obtain ⟨hb, hbs⟩ := List.forall_mem_cons.mp h
    have hlt := b.toNat_lt
    rw [List.cons_append, decLoop, and_7F, and_80, if_neg (by omega), mul128_or _ _ (Nat.mod_lt _ (by decide)), shl_7]
    exact decLoop_cont bs _ rest ints hbs

/-- the decoder, started between two numbers, reads any run of continuation bytes closed by a byte without the flag
as one base-128 number (leading zero digits included) -/
theorem decLoop_varnat (bs : Bytes) (l : UInt8) (rest : Bytes) (ints : List Nat) (hbs : ∀ b ∈ bs, 128 ≤ b.toNat)
    (hl : l.toNat < 128) :
    decLoop (bs ++ l :: rest) 0 ints
      = decLoop rest 0 (ints ++ [(bs.map UInt8.toNat).foldl (fun a b => a * 128 + b % 128) 0 * 128 + l.toNat]) := by
  have h := decLoop_cont bs 0 (l :: rest) ints hbs
  rw [Nat.zero_mul] at h
  rw [h, decLoop, and_7F, and_80, if_pos (by omega), Nat.mod_eq_of_lt hl, mul128_or _ _ hl]

/-- `varnat_roundtrip` in loop form: the decoder consumes exactly `encodeInt n` and appends `n` -/
theorem decLoop_encodeInt (n : Nat) (rest : Bytes) (ints : List Nat) :
    decLoop (encodeInt n ++ rest) 0 ints = decLoop rest 0 (ints ++ [n]) := by
  rw [encodeInt_eq, List.append_assoc, List.singleton_append,
    decLoop_varnat _ _ _ _ (fun b hb => (encTail_ge _ b (List.mem_reverse.mp hb)).1)
      (by rw [lastByte_toNat]; exact Nat.mod_lt _ (by decide)),
    value_encTail, lastByte_toNat, Nat.zero_mul, Nat.zero_add, Nat.div_add_mod']

/-- size of the encoding: `k` continuation groups are enough exactly for the numbers below `128^k` -/
theorem encTail_length_le_iff : ∀ (k m : Nat), (encTail m).length ≤ k ↔ m < 128 ^ k
  | k, 0 => by simp [encTail_zero, Nat.pow_pos]
  | 0, m + 1 => by rw [encTail_pos _ (Nat.succ_ne_zero m)]; simp
  | k + 1, m + 1 => by
    rw [encTail_pos _ (Nat.succ_ne_zero m), List.length_cons, Nat.add_le_add_iff_right, encTail_length_le_iff k,
      Nat.pow_succ, Nat.div_lt_iff_lt_mul (by decide)]

/-- the most significant continuation group is not zero -/
theorem encTail_getLast (m : Nat) (hm : m ≠ 0) : ∃ b, (encTail m).getLast? = some b ∧ 128 < b.toNat := by
  induction m using Nat.strongRecOn with
  | _ m ih =>
    rw [encTail_pos m hm]
    by_cases hq : m / 128 = 0
    · refine ⟨UInt8.ofNat (0x80 ||| (m &&& 0x7F)), by rw [hq, encTail_zero]; rfl, ?_⟩
      rw [contByte_toNat]; omega
    · obtain ⟨b, hb, h⟩ := ih (m / 128) (by omega) hq
      exact ⟨b, by rw [List.getLast?_cons, hb]; rfl, h⟩

theorem encodeInt_length (n : Nat) : (encodeInt n).length = (encTail (n / 128)).length + 1 := by
  simp [encodeInt_eq]

theorem encodeInt_length_le_iff (n k : Nat) : (encodeInt n).length ≤ k + 1 ↔ n < 128 ^ (k + 1) := by
  rw [encodeInt_length, Nat.add_le_add_iff_right, encTail_length_le_iff, Nat.pow_succ,
    Nat.div_lt_iff_lt_mul (by decide)]

/-- no leading zero digit -/
theorem encodeInt_head_toNat (n : Nat) : ((encodeInt n).map UInt8.toNat).head? ≠ some 128 := by
  rw [encodeInt_eq, List.map_append, List.head?_append, List.head?_map, List.head?_reverse]
  by_cases hq : n / 128 = 0
  · rw [hq, encTail_zero]
    simp only [List.getLast?_nil, Option.map_none, Option.none_or, List.map_cons, List.map_nil, List.head?_cons,
      lastByte_toNat, ne_eq, Option.some.injEq]
    omega
  · obtain ⟨b, hb, h⟩ := encTail_getLast _ hq
    simp only [hb, Option.map_some, Option.some_or, ne_eq, Option.some.injEq]
    omega

/-! ## pointers -/

theorem ptr_roundtrip (s t c : Nat) : ptrDecode (ptrEncode s t c) = some (s, t, c) := by
  unfold ptrDecode ptrEncode
  rw [List.append_assoc, decLoop_encodeInt, decLoop_encodeInt]
  have := decLoop_encodeInt c [] ([] ++ [s] ++ [t])
  rw [List.append_nil] at this
  rw [this]
  simp [decLoop]

/-! ## header byte -/

theorem header_kind (t : AddressType) (n : Network) :
    AddressType.ofValue (((headerByte t n).toNat &&& 0xF0) >>> 4) = some t := by
  cases t <;> cases n <;> decide

theorem header_network (t : AddressType) (n : Network) :
    Network.ofValue ((headerByte t n).toNat &&& 0x0F) = some n := by
  cases t <;> cases n <;> decide

/-! ## byte layout -/

/-- credentials carry 28 bytes (what the constructors of `VerificationKeyHash` / `ScriptHash` assert) -/
def Part.Sized : Part → Prop
  | .vkh p => p.length = 28
  | .sh p => p.length = 28
  | _ => True

theorem take28 (p q : Bytes) (h : p.length = 28) : (p ++ q).take 28 = p := by
  rw [← h]; exact List.take_left

theorem drop28 (p q : Bytes) (h : p.length = 28) : (p ++ q).drop 28 = q := by
  rw [← h]; exact List.drop_left

theorem mkVkh_ok_iff {p : Bytes} {x : Part} : mkVkh p = .ok x ↔ p.length = 28 ∧ .vkh p = x := by
  unfold mkVkh; split <;> simp [*]

theorem mkSh_ok_iff {p : Bytes} {x : Part} : mkSh p = .ok x ↔ p.length = 28 ∧ .sh p = x := by
  unfold mkSh; split <;> simp [*]

theorem mkPtr_ok_iff {p : Bytes} {x : Part} :
    mkPtr p = .ok x ↔ ∃ s t c, ptrDecode p = some (s, t, c) ∧ .ptr s t c = x := by
  unfold mkPtr
  split
  · rename_i s t c h
    simp only [h, Except.ok.injEq, Option.some.injEq, Prod.mk.injEq]
    exact ⟨fun e => ⟨s, t, c, ⟨rfl, rfl, rfl⟩, e⟩, fun ⟨_, _, _, ⟨rfl, rfl, rfl⟩, e⟩ => e⟩
  · simp [*]

theorem mkPtr_encode (s t c : Nat) : mkPtr (ptrEncode s t c) = .ok (.ptr s t c) := by
  simp [mkPtr, ptr_roundtrip]

theorem fromBytes_header (t : AddressType) (n : Network) (payload : Bytes) :
    fromBytes (headerByte t n :: payload) =
      (let hd := payload.take 28
       let tl := payload.drop 28
       match t with
       | .keyKey => do let p ← mkVkh hd; let s ← mkVkh tl; pure ⟨p, s, n⟩
       | .keyScript => do let p ← mkVkh hd; let s ← mkSh tl; pure ⟨p, s, n⟩
       | .keyPointer => do let s ← mkPtr tl; let p ← mkVkh hd; pure ⟨p, s, n⟩
       | .keyNone => do let p ← mkVkh payload; pure ⟨p, .none, n⟩
       | .scriptKey => do let p ← mkSh hd; let s ← mkVkh tl; pure ⟨p, s, n⟩
       | .scriptScript => do let p ← mkSh hd; let s ← mkSh tl; pure ⟨p, s, n⟩
       | .scriptPointer => do let s ← mkPtr tl; let p ← mkSh hd; pure ⟨p, s, n⟩
       | .scriptNone => do let p ← mkSh payload; pure ⟨p, .none, n⟩
       | .noneKey => do let s ← mkVkh payload; pure ⟨.none, s, n⟩
       | .noneScript => do let s ← mkSh payload; pure ⟨.none, s, n⟩
       | .byron => .error .byron) := by
  simp only [fromBytes, header_kind, header_network]
  cases t <;> rfl

theorem fromBytes_toBytes (a : Address) (bs : Bytes) (hp : a.payment.Sized) (hs : a.staking.Sized)
    (h : toBytes a = some bs) : fromBytes bs = .ok a := by
  obtain ⟨pay, stk, net⟩ := a
  unfold toBytes at h
  cases pay <;> cases stk <;> simp only [inferType, Option.some.injEq, reduceCtorEq] at h <;> subst h <;>
    simp only [Part.Sized] at hp hs <;>
    simp [fromBytes_header, Part.bytes, hp, hs, mkVkh, mkSh, mkPtr_encode, bind, Except.bind, pure,
      Except.pure]

end Pyc.Addr
