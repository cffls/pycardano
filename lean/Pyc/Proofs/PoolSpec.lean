import Pyc.Proofs.Pool
import Pyc.Spec.Pool

/-! Helper definitions and lemmas for `Props/C02_Pool.lean`: the spec-level content of a model object (`abs…`), and the
two formulations of the CDDL in `Spec/Pool.lean` against each other. -/

namespace Pyc.Pool
open Pyc.Cbor

/-! ## the content of a model object in the terms of the CDDL (undefined where the CDDL has no such content) -/

def absPort : Port → Option (Option Nat)
  | .none => some Option.none
  | .int i => if 0 ≤ i then some (some i.toNat) else Option.none
  | .junk _ => Option.none

/-- the address bytes a stored text stands for -/
def absIp (conv : Bytes → Option Bytes) : Option Bytes → Option (Option Bytes)
  | Option.none => some Option.none
  | some t => (match conv t with | some b => some (some b) | Option.none => Option.none)

def absRelay : Relay → Option Spec.Pool.Relay
  | .addr p a b =>
    (match absPort p, absIp aton a, absIp pton6 b with
      | some p', some a', some b' => some (.singleHostAddr p' a' b')
      | _, _, _ => Option.none)
  | .name p (.text d) => (match absPort p with | some p' => some (.singleHostName p' d) | Option.none => Option.none)
  | .multi (.text d) => some (.multiHostName d)
  | _ => Option.none                                   -- a DNS name is required by the CDDL

def absRelays : List Relay → Option (List Spec.Pool.Relay)
  | [] => some []
  | r :: rs => (match absRelay r, absRelays rs with | some c, some cs => some (c :: cs) | _, _ => Option.none)

def ownersTagged : Owners → Bool
  | .oset true _ => true
  | _ => false

def absMetadata : Option Metadata → Option Spec.Pool.PoolMetadata
  | some m => some ⟨m.url, m.hash⟩
  | Option.none => Option.none

/-- defined iff: coins and margin components are naturals, `relays` is a list (not `None`) of relays that have spec
content, and no trailing `id` -/
def absParams (p : PoolParams) : Option Spec.Pool.PoolParams :=
  if p.pledge < 0 ∨ p.cost < 0 ∨ p.margin.n < 0 ∨ p.margin.d < 0 then Option.none else
  match p.relays, p.id with
  | some rs, Option.none =>
    (match absRelays rs with
      | some cs => some ⟨p.operator, p.vrf, p.pledge.toNat, p.cost.toNat, p.margin.n.toNat, p.margin.d.toNat, p.rewardAccount,
          p.owners.elems, ownersTagged p.owners, cs, absMetadata p.metadata⟩
      | Option.none => Option.none)
  | _, _ => Option.none

/-! ## model encoder = spec encoder on the content -/

theorem ofInt_uint (i : Int) (h0 : 0 ≤ i) (h1 : i.toNat < 2^64) : ofInt i = .uint i.toNat := by
  simp [ofInt, h0, h1]

theorem itemPort_abs (p : Port) (p' : Option Nat) (h : absPort p = some p') (hr : Spec.Pool.portIn p' = true) :
    itemPort p = some (Spec.Pool.orNull .uint p') := by
  revert h
  fun_cases absPort p <;> intro h <;> cases h
  · rfl
  · rename_i i h0
    have : i.toNat ≤ 65535 := by simpa [Spec.Pool.portIn] using hr
    simp [itemPort, Spec.Pool.orNull, ofInt_uint i h0 (by omega)]

theorem absIp_some (conv : Bytes → Option Bytes) (a a' : Option Bytes) (h : absIp conv a = some a') :
    (a = Option.none ∧ a' = Option.none) ∨ ∃ t b, a = some t ∧ conv t = some b ∧ a' = some b := by
  cases a with
  | none => exact .inl ⟨rfl, (Option.some.inj h).symm⟩
  | some t =>
    cases hb : conv t with
    | none => simp [absIp, hb] at h
    | some b => exact .inr ⟨t, b, rfl, hb, by simpa [absIp, hb] using h.symm⟩

theorem itemIp_abs (conv : Bytes → Option Bytes) (a a' : Option Bytes) (h : absIp conv a = some a') :
    itemIp conv a = some (Spec.Pool.orNull .bytes a') := by
  rcases absIp_some conv a a' h with ⟨rfl, rfl⟩ | ⟨t, b, rfl, hb, rfl⟩
  · rfl
  · simp [itemIp, hb, Spec.Pool.orNull]

section
variable {conv shw : Bytes → Option Bytes} {canon : Bytes → Bool} {n : Nat} (H : IpText conv shw canon n)
include H

theorem IpText.absIp_size (a a' : Option Bytes) (h : absIp conv a = some a') : Spec.Pool.sizeIs n a' = true := by
  rcases absIp_some conv a a' h with ⟨rfl, rfl⟩ | ⟨t, b, rfl, hb, rfl⟩
  · rfl
  · simpa [Spec.Pool.sizeIs] using H.read_length t b hb

theorem IpText.absIp_canon (a : Option Bytes) (h : optAll canon a = true) : ∃ a', absIp conv a = some a' := by
  cases a with
  | none => exact ⟨Option.none, rfl⟩
  | some t =>
    obtain ⟨b, hb, _⟩ := (H.canon_iff t).mp h
    exact ⟨some b, by simp [absIp, hb]⟩

end

theorem encRelay_abs (r : Relay) (c : Spec.Pool.Relay) (h : absRelay r = some c) (hr : Spec.Pool.relayRanges c = true) :
    encRelay r = some (Spec.Pool.encRelay c) := by
  revert h
  fun_cases absRelay r <;> intro h <;> cases h
  next hb ha hp =>
    simp only [Spec.Pool.relayRanges] at hr
    simp [encRelay, itemPort_abs _ _ hp hr, itemIp_abs aton _ _ ha, itemIp_abs pton6 _ _ hb, Spec.Pool.encRelay]
  next hp =>
    simp only [Spec.Pool.relayRanges, Bool.and_eq_true] at hr
    simp [encRelay, itemPort_abs _ _ hp hr.1, itemName, Spec.Pool.encRelay]
  next => simp [encRelay, itemName, Spec.Pool.encRelay]

theorem encRelays_abs (rs : List Relay) (cs : List Spec.Pool.Relay) (h : absRelays rs = some cs)
    (hr : cs.all Spec.Pool.relayRanges = true) : encRelays rs = some (cs.map Spec.Pool.encRelay) := by
  revert h
  fun_induction absRelays rs generalizing cs <;> intro h <;> cases h
  next => rfl
  next hcs hc ih =>
    simp only [List.all_cons, Bool.and_eq_true] at hr
    simp [encRelays, encRelay_abs _ _ hc hr.1, ih _ hr.2 hcs]

theorem itemOwners_abs (o : Owners) :
    itemOwners o = Spec.Pool.encSet (ownersTagged o) (o.elems.map .bytes) := by
  cases o with
  | list xs => rfl
  | oset t xs => cases t <;> rfl

theorem itemMetadata_abs (m : Option Metadata) :
    itemMetadata m = Spec.Pool.orNull Spec.Pool.encPoolMetadata (absMetadata m) := by
  cases m <;> rfl

theorem itemsParams_abs (p : PoolParams) (c : Spec.Pool.PoolParams) (h : absParams p = some c)
    (hr : Spec.Pool.rangesOk c = true) : itemsParams p = some (Spec.Pool.encPoolParams c) := by
  revert h
  fun_cases absParams p <;> intro h <;> cases h
  next hneg rs hid hrs cs hcs =>
    simp only [Spec.Pool.rangesOk, Bool.and_eq_true, decide_eq_true_eq] at hr
    obtain ⟨⟨⟨⟨⟨h1, h2⟩, h3⟩, h4⟩, h5⟩, _⟩ := hr
    have e := encRelays_abs rs cs hcs h5
    simp only [itemsParams, hrs, hid, itemRelaysOpt, e, List.append_nil, Spec.Pool.encPoolParams, Option.some.injEq]
    rw [ofInt_uint p.pledge (by omega) h1, ofInt_uint p.cost (by omega) h2, itemOwners_abs, itemMetadata_abs]
    simp [itemFrac, Spec.Pool.encUnitInterval, ofInt_uint p.margin.n (by omega) h3, ofInt_uint p.margin.d (by omega) h4]

/-! ## sizes: the class invariants of the model give the fixed sizes of the CDDL -/

theorem absRelay_sizes (r : Relay) (c : Spec.Pool.Relay) (h : absRelay r = some c) : Spec.Pool.relaySizes c = true := by
  revert h
  fun_cases absRelay r <;> intro h <;> cases h
  next hb ha _ => simp [Spec.Pool.relaySizes, ipText4.absIp_size _ _ ha, ipText6.absIp_size _ _ hb]
  next => rfl
  next => rfl

theorem absRelays_sizes (rs : List Relay) (cs : List Spec.Pool.Relay) (h : absRelays rs = some cs) :
    cs.all Spec.Pool.relaySizes = true := by
  revert h
  fun_induction absRelays rs generalizing cs <;> intro h <;> cases h
  next => rfl
  next hcs hc ih => simp [absRelay_sizes _ _ hc, ih _ hcs]

theorem ownersOk_elems (o : Owners) (h : ownersOk o = true) : o.elems.all (fun x => x.length == 28) = true := by
  cases o with
  | list xs => exact h
  | oset t xs => simp only [ownersOk, Bool.and_eq_true] at h; exact h.1

theorem absParams_sizes (p : PoolParams) (c : Spec.Pool.PoolParams) (hw : paramsOkW p = true) (h : absParams p = some c) :
    Spec.Pool.sizesOk c = true := by
  obtain ⟨hop, hvrf, _, _, how, hmd, _⟩ := (paramsOkW_iff p).mp hw
  revert h
  fun_cases absParams p <;> intro h <;> cases h
  next rs _ _ cs hcs =>
    have hm : Spec.Pool.mdSizes (absMetadata p.metadata) = true := by
      cases hmm : p.metadata with
      | none => rfl
      | some m => rw [hmm] at hmd; simpa [absMetadata, metadataOk, Spec.Pool.mdSizes] using hmd
    simp [Spec.Pool.sizesOk, hop, hvrf, ownersOk_elems p.owners how, absRelays_sizes rs cs hcs, hm]

/-! ## which objects have spec content: the value ranges of the CDDL, and the three structural conditions -/

def portIn : Port → Bool
  | .none => true
  | .int i => decide (0 ≤ i ∧ i ≤ 65535)
  | .junk _ => false

def nameIn : Name → Bool
  | .none => true
  | .text d => decide (d.length ≤ 128)
  | .junk _ => false

/-- the value ranges of the CDDL on a well-typed relay (`port = uint .le 65535`, `dns_name = text .size (0 .. 128)`) -/
def relayIn : Relay → Bool
  | .addr p _ _ => portIn p
  | .name p d => portIn p && nameIn d
  | .multi d => nameIn d

/-- the value ranges of the CDDL on well-typed pool parameters: coins and margin components are `uint`s, ports and text
sizes as above -/
def valuesIn (p : PoolParams) : Bool :=
  decide (0 ≤ p.pledge ∧ p.pledge < 2^64) && decide (0 ≤ p.cost ∧ p.cost < 2^64) &&
  decide (0 ≤ p.margin.n ∧ p.margin.n < 2^64) && decide (p.margin.d < 2^64) &&
  (match p.relays with | some rs => rs.all relayIn | Option.none => true) &&
  (match p.metadata with | some m => decide (m.url.length ≤ 128) | Option.none => true)

def hasDns : Relay → Bool
  | .addr _ _ _ => true
  | .name _ (.text _) => true
  | .multi (.text _) => true
  | _ => false

/-- what the Python annotations allow and the CDDL does not: `relays=None`, a `dns_name=None`, a trailing `id` -/
def structIn (p : PoolParams) : Bool :=
  (match p.relays with | some rs => rs.all hasDns | Option.none => false) && p.id.isNone

theorem absPort_in (p : Port) (h : portIn p = true) : ∃ p', absPort p = some p' ∧ Spec.Pool.portIn p' = true := by
  cases p with
  | none => exact ⟨Option.none, rfl, rfl⟩
  | int i =>
    simp only [portIn, decide_eq_true_eq] at h
    exact ⟨some i.toNat, by simp [absPort, h.1], by simp [Spec.Pool.portIn]; omega⟩
  | junk i => simp [portIn] at h

theorem absRelay_in (r : Relay) (hok : relayOk r = true) (hv : relayIn r = true) (hd : hasDns r = true) :
    ∃ c, absRelay r = some c ∧ Spec.Pool.relayRanges c = true := by
  revert hd
  fun_cases hasDns r <;> intro hd <;> cases hd
  next p a b =>
    simp only [relayOk, Bool.and_eq_true] at hok
    obtain ⟨p', hp1, hp2⟩ := absPort_in p hv
    obtain ⟨a', ha⟩ := ipText4.absIp_canon a hok.1.2
    obtain ⟨b', hb⟩ := ipText6.absIp_canon b hok.2
    exact ⟨.singleHostAddr p' a' b', by simp [absRelay, hp1, ha, hb], by simpa [Spec.Pool.relayRanges] using hp2⟩
  next p t =>
    simp only [relayIn, Bool.and_eq_true, nameIn, decide_eq_true_eq] at hv
    obtain ⟨p', hp1, hp2⟩ := absPort_in p hv.1
    exact ⟨.singleHostName p' t, by simp [absRelay, hp1], by simp [Spec.Pool.relayRanges, hp2, hv.2]⟩
  next t =>
    simp only [relayIn, nameIn, decide_eq_true_eq] at hv
    exact ⟨.multiHostName t, rfl, by simp [Spec.Pool.relayRanges, hv]⟩

theorem absRelays_in (rs : List Relay) (hok : rs.all relayOk = true) (hv : rs.all relayIn = true) (hd : rs.all hasDns = true) :
    ∃ cs, absRelays rs = some cs ∧ cs.all Spec.Pool.relayRanges = true := by
  induction rs with
  | nil => exact ⟨[], rfl, rfl⟩
  | cons r rs ih =>
    simp only [List.all_cons, Bool.and_eq_true] at hok hv hd
    obtain ⟨c, hc1, hc2⟩ := absRelay_in r hok.1 hv.1 hd.1
    obtain ⟨cs, hcs1, hcs2⟩ := ih hok.2 hv.2 hd.2
    exact ⟨c :: cs, by simp [absRelays, hc1, hcs1], by simp [hc2, hcs2]⟩

theorem absParams_defined (p : PoolParams) (hok : paramsOk p = true) (hv : valuesIn p = true) (hs : structIn p = true) :
    ∃ c, absParams p = some c ∧ Spec.Pool.rangesOk c = true := by
  simp only [valuesIn, Bool.and_eq_true, decide_eq_true_eq] at hv
  obtain ⟨⟨⟨⟨⟨hpl, hco⟩, hmn⟩, hmdn⟩, hrl⟩, hmd⟩ := hv
  simp only [structIn, Bool.and_eq_true] at hs
  simp only [paramsOk, Bool.and_eq_true] at hok
  have hfr := ((paramsOkW_iff p).mp hok.1).2.2.1
  simp only [fracOk, Bool.and_eq_true, decide_eq_true_eq] at hfr
  cases hrs : p.relays with
  | none => rw [hrs] at hs; simp at hs
  | some rs =>
    rw [hrs] at hs hrl
    obtain ⟨cs, hcs1, hcs2⟩ := absRelays_in rs (hrs ▸ hok.2 : relaysOk (some rs) = true) hrl hs.1
    have hid : p.id = Option.none := Option.isNone_iff_eq_none.mp hs.2
    have hneg : ¬ (p.pledge < 0 ∨ p.cost < 0 ∨ p.margin.n < 0 ∨ p.margin.d < 0) := by omega
    refine ⟨_, by simp only [absParams, hneg, if_false, hrs, hid, hcs1]; rfl, ?_⟩
    have hm : Spec.Pool.mdRanges (absMetadata p.metadata) = true := by
      cases hmm : p.metadata with
      | none => rfl
      | some m => rw [hmm] at hmd; simpa [absMetadata, Spec.Pool.mdRanges] using hmd
    simp only [Spec.Pool.rangesOk, Bool.and_eq_true, decide_eq_true_eq, hcs2, hm, and_true]
    omega

/-! ## the two formulations of the grammar agree: what `enc…` writes, `is…` recognises -/

theorem isPort_enc (p : Option Nat) (h : Spec.Pool.portIn p = true) :
    Spec.Pool.orNullB (Spec.Pool.isUint 65535) (Spec.Pool.orNull .uint p) = true := by
  cases p with
  | none => rfl
  | some n => simpa [Spec.Pool.orNull, Spec.Pool.orNullB, Spec.Pool.isNull, Spec.Pool.isUint, Spec.Pool.portIn] using h

theorem isIp_enc (k : Nat) (a : Option Bytes) (h : Spec.Pool.sizeIs k a = true) :
    Spec.Pool.orNullB (Spec.Pool.isBytesOf k) (Spec.Pool.orNull .bytes a) = true := by
  cases a with
  | none => rfl
  | some x => simpa [Spec.Pool.orNull, Spec.Pool.orNullB, Spec.Pool.isNull, Spec.Pool.isBytesOf, Spec.Pool.sizeIs] using h

theorem isRelay_enc (r : Spec.Pool.Relay) (h : Spec.Pool.relayOk r = true) : Spec.Pool.isRelay (Spec.Pool.encRelay r) = true := by
  simp only [Spec.Pool.relayOk, Bool.and_eq_true] at h
  cases r with
  | singleHostAddr p a b =>
    simp only [Spec.Pool.relaySizes, Spec.Pool.relayRanges, Bool.and_eq_true] at h
    simp [Spec.Pool.encRelay, Spec.Pool.isRelay, isPort_enc p h.2, isIp_enc 4 a h.1.1, isIp_enc 16 b h.1.2]
  | singleHostName p d =>
    simp only [Spec.Pool.relaySizes, Spec.Pool.relayRanges, Bool.and_eq_true, decide_eq_true_eq] at h
    simp [Spec.Pool.encRelay, Spec.Pool.isRelay, isPort_enc p h.2.1, Spec.Pool.isTextUpTo, h.2.2]
  | multiHostName d =>
    simp only [Spec.Pool.relaySizes, Spec.Pool.relayRanges, decide_eq_true_eq] at h
    simp [Spec.Pool.encRelay, Spec.Pool.isRelay, Spec.Pool.isTextUpTo, h.2]

theorem isPoolRegistration_enc (c : Spec.Pool.PoolParams) (h : Spec.Pool.paramsOk c = true) :
    Spec.Pool.isPoolRegistration (Spec.Pool.encPoolRegistration c) = true := by
  simp only [Spec.Pool.paramsOk, Spec.Pool.sizesOk, Spec.Pool.rangesOk, Bool.and_eq_true, beq_iff_eq, decide_eq_true_eq] at h
  obtain ⟨⟨⟨⟨⟨hop, hvrf⟩, how⟩, hrs⟩, hms⟩, ⟨⟨⟨⟨⟨h1, h2⟩, h3⟩, h4⟩, hrr⟩, hmr⟩⟩ := h
  have hrel : (c.relays.map Spec.Pool.encRelay).all Spec.Pool.isRelay = true := by
    simp only [List.all_map, List.all_eq_true] at hrs hrr ⊢
    exact fun r hr => isRelay_enc r (by simp [Spec.Pool.relayOk, hrs r hr, hrr r hr])
  have hown : Spec.Pool.isSetOf (Spec.Pool.isBytesOf 28) (Spec.Pool.encSet c.ownersTagged (c.poolOwners.map .bytes)) = true := by
    have : (c.poolOwners.map Item.bytes).all (Spec.Pool.isBytesOf 28) = true := by
      simp only [List.all_map, List.all_eq_true] at how ⊢
      exact fun x hx => by simpa [Spec.Pool.isBytesOf] using how x hx
    cases c.ownersTagged <;> simp [Spec.Pool.encSet, Spec.Pool.isSetOf, this]
  have hmd : Spec.Pool.orNullB Spec.Pool.isPoolMetadata (Spec.Pool.orNull Spec.Pool.encPoolMetadata c.poolMetadata) = true := by
    cases hm : c.poolMetadata with
    | none => simp [Spec.Pool.orNull, Spec.Pool.orNullB, Spec.Pool.isNull, Spec.Pool.nil]
    | some m =>
      rw [hm] at hms hmr
      simp only [Spec.Pool.mdSizes, beq_iff_eq] at hms
      simp only [Spec.Pool.mdRanges, decide_eq_true_eq] at hmr
      simp [Spec.Pool.orNull, Spec.Pool.orNullB, Spec.Pool.encPoolMetadata, Spec.Pool.isPoolMetadata, Spec.Pool.isTextUpTo,
        Spec.Pool.isBytesOf, hms, hmr]
  simp only [Spec.Pool.isPoolRegistration, Spec.Pool.encPoolRegistration, Spec.Pool.encPoolParams, Spec.Pool.isPoolParams,
    hrel, hown, hmd, Bool.and_true, Bool.and_eq_true]
  simp [Spec.Pool.isBytesOf, Spec.Pool.isUint, Spec.Pool.isUnitInterval, Spec.Pool.encUnitInterval, Spec.Pool.isRewardAccount, hop, hvrf]
  omega

end Pyc.Pool
