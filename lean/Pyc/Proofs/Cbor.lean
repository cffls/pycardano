import Pyc.Model.Cbor
import Pyc.Proofs.Basic

/-! The CBOR item model: length of heads, round trip `decode fuel (encode x ++ rest) = some (x, rest)` for items that are
`WF` (arguments and lengths below 2^64) with fuel at least `depth` (both defined here; `depth` bounds the decoder's
recursion, so it grows with the length of a list as well as with nesting), the whole-input decoder `decodeAll`,
injectivity of `encode`. -/

namespace Pyc.Cbor

/-- case analysis on the five widths of a head, each with the range of the argument it is written for -/
theorem head_cases {P : Bytes → Prop} (m a : Nat)
    (h0 : a < 24 → P [UInt8.ofNat (m * 32 + a)])
    (h1 : 24 ≤ a → a < 256 → P (UInt8.ofNat (m * 32 + 24) :: beBytes 1 a))
    (h2 : 256 ≤ a → a < 65536 → P (UInt8.ofNat (m * 32 + 25) :: beBytes 2 a))
    (h4 : 65536 ≤ a → a < 4294967296 → P (UInt8.ofNat (m * 32 + 26) :: beBytes 4 a))
    (h8 : 4294967296 ≤ a → P (UInt8.ofNat (m * 32 + 27) :: beBytes 8 a)) : P (head m a) := by
  unfold head
  by_cases c0 : a < 24
  · simp only [if_pos c0]; exact h0 c0
  by_cases c1 : a < 256
  · simp only [if_neg c0, if_pos c1]; exact h1 (Nat.le_of_not_lt c0) c1
  by_cases c2 : a < 65536
  · simp only [if_neg c0, if_neg c1, if_pos c2]; exact h2 (Nat.le_of_not_lt c1) c2
  by_cases c4 : a < 4294967296
  · simp only [if_neg c0, if_neg c1, if_neg c2, if_pos c4]; exact h4 (Nat.le_of_not_lt c2) c4
  · simp only [if_neg c0, if_neg c1, if_neg c2, if_neg c4]; exact h8 (Nat.le_of_not_lt c4)

/-- the length of a head by ranges of its argument, in the form `omega` takes as a hypothesis -/
theorem head_length_cases (m a : Nat) :
    a < 24 ∧ (head m a).length = 1 ∨ 24 ≤ a ∧ a < 256 ∧ (head m a).length = 2 ∨
    256 ≤ a ∧ a < 65536 ∧ (head m a).length = 3 ∨ 65536 ≤ a ∧ a < 4294967296 ∧ (head m a).length = 5 ∨
    4294967296 ≤ a ∧ (head m a).length = 9 :=
  head_cases (P := fun l => a < 24 ∧ l.length = 1 ∨ 24 ≤ a ∧ a < 256 ∧ l.length = 2 ∨
      256 ≤ a ∧ a < 65536 ∧ l.length = 3 ∨ 65536 ≤ a ∧ a < 4294967296 ∧ l.length = 5 ∨ 4294967296 ≤ a ∧ l.length = 9) m a
    (fun h => .inl ⟨h, rfl⟩) (fun h h' => .inr (.inl ⟨h, h', rfl⟩)) (fun h h' => .inr (.inr (.inl ⟨h, h', rfl⟩)))
    (fun h h' => .inr (.inr (.inr (.inl ⟨h, h', rfl⟩)))) (fun h => .inr (.inr (.inr (.inr ⟨h, rfl⟩))))

theorem head_length_pos (m a : Nat) : 1 ≤ (head m a).length := by
  have := head_length_cases m a
  omega

theorem head_length_le (m a : Nat) : (head m a).length ≤ 9 := by
  have := head_length_cases m a
  omega

theorem head_length_mono (m : Nat) {a b : Nat} (h : a ≤ b) : (head m a).length ≤ (head m b).length := by
  have := head_length_cases m a
  have := head_length_cases m b
  omega

theorem head_length_of_lt {m a : Nat} (h : a < 24) : (head m a).length = 1 := by
  rw [head, if_pos h]; rfl

theorem head_small (m a : Nat) (h : a < 24) : head m a = [UInt8.ofNat (m * 32 + a)] := by
  rw [head]; exact if_pos h

theorem head_byte (m a : Nat) (h1 : ¬ a < 24) (h2 : a < 256) :
    head m a = [UInt8.ofNat (m * 32 + 24), UInt8.ofNat a] := by
  rw [head, if_neg h1, if_pos h2, beBytes, beBytes, Nat.pow_zero, Nat.div_one, Nat.mod_eq_of_lt h2]

theorem decodeHead_head (m a : Nat) (rest : Bytes) (hm : m < 8) (ha : a < 2^64) :
    decodeHead (head m a ++ rest) = some (m, some a, rest) := by
  have hv : ∀ k, a < 256 ^ k → some (m, some (fromBE (beBytes k a) 0), rest) = some (m, some a, rest) := fun k h => by
    rw [fromBE_beBytes, Nat.mod_eq_of_lt h, Nat.zero_mul, Nat.zero_add]
  -- the initial byte splits back into major type and additional information
  have hb : ∀ i, i < 28 → (UInt8.ofNat (m * 32 + i)).toNat / 32 = m ∧ (UInt8.ofNat (m * 32 + i)).toNat % 32 = i := by
    intro i hi; rw [u8_toNat_ofNat _ (by omega)]; omega
  refine head_cases (P := fun l => decodeHead (l ++ rest) = some (m, some a, rest)) m a (fun h => ?_)
    (fun _ h => Eq.trans ?_ (hv 1 h)) (fun _ h => Eq.trans ?_ (hv 2 h)) (fun _ h => Eq.trans ?_ (hv 4 h))
    (fun _ => Eq.trans ?_ (hv 8 ha))
  all_goals rw [List.cons_append, decodeHead.eq_def]; dsimp only
  -- the decoder's tests on the additional information are now between numerals, and the argument bytes it takes are
  -- those of `beBytes`: both by evaluation
  · rw [(hb a (by omega)).1, (hb a (by omega)).2, if_pos h]; rfl
  · rw [(hb 24 (by omega)).1, (hb 24 (by omega)).2]; rfl
  · rw [(hb 25 (by omega)).1, (hb 25 (by omega)).2]; rfl
  · rw [(hb 26 (by omega)).1, (hb 26 (by omega)).2]; rfl
  · rw [(hb 27 (by omega)).1, (hb 27 (by omega)).2]; rfl

mutual
def depth : Item → Nat
  | .uint _ | .nint _ | .bytes _ | .text _ | .simple _ => 1
  | .bytesChunked cs => 2 + cs.length
  | .array xs => 1 + depthList xs
  | .arrayIndef xs => 1 + depthList xs
  | .map kvs => 1 + depthPairs kvs
  | .tag _ x => 1 + depth x
def depthList : List Item → Nat
  | [] => 1
  | x :: xs => 1 + max (depth x) (depthList xs)
def depthPairs : List (Item × Item) → Nat
  | [] => 1
  | (k, v) :: xs => 1 + max (max (depth k) (depth v)) (depthPairs xs)
end

mutual
def WF : Item → Prop
  | .uint n => n < 2^64
  | .nint n => n < 2^64
  | .bytes b => b.length < 2^64
  | .text b => b.length < 2^64
  | .bytesChunked cs => ∀ c ∈ cs, c.length < 2^64
  | .simple n => n < 24
  | .array xs => xs.length < 2^64 ∧ WFList xs
  | .arrayIndef xs => WFList xs
  | .map kvs => kvs.length < 2^64 ∧ WFPairs kvs
  | .tag t x => t < 2^64 ∧ WF x
def WFList : List Item → Prop
  | [] => True
  | x :: xs => WF x ∧ WFList xs
def WFPairs : List (Item × Item) → Prop
  | [] => True
  | (k, v) :: xs => WF k ∧ WF v ∧ WFPairs xs
end

theorem head_first (m a : Nat) (hm : m < 8) : ∃ b t, head m a = b :: t ∧ b ≠ 0xff := by
  -- the initial byte is at most `7 * 32 + 27`
  have key : ∀ n : Nat, n < 255 → UInt8.ofNat n ≠ 0xff := fun n hn h => by
    have h' : (UInt8.ofNat n).toNat = 255 := congrArg UInt8.toNat h
    rw [u8_toNat_ofNat _ (by omega)] at h'
    omega
  refine head_cases (P := fun l => ∃ b t, l = b :: t ∧ b ≠ 0xff) m a ?_ ?_ ?_ ?_ ?_
  all_goals intros; exact ⟨_, _, rfl, key _ (by omega)⟩

/-- no item starts with the break byte -/
theorem encode_first (x : Item) : ∃ b t, encode x = b :: t ∧ b ≠ 0xff := by
  have key : ∀ m a (s : Bytes), m < 8 → ∃ b t, head m a ++ s = b :: t ∧ b ≠ 0xff := fun m a s hm => by
    obtain ⟨b, t, e, hne⟩ := head_first m a hm
    exact ⟨b, t ++ s, by rw [e, List.cons_append], hne⟩
  cases x with
  | uint _ | nint _ | simple _ => rw [encode]; exact head_first _ _ (by decide)
  | bytes _ | text _ | array _ | map _ | tag _ _ => rw [encode]; exact key _ _ _ (by decide)
  | arrayIndef xs => exact ⟨0x9f, _, by rw [encode], by decide⟩
  | bytesChunked cs => exact ⟨0x5f, _, by rw [encode], by decide⟩

theorem decodeChunks_encodeChunks (cs : List Bytes) (rest : Bytes) (fuel : Nat) (hf : cs.length < fuel)
    (hw : ∀ c ∈ cs, c.length < 2^64) :
    decodeChunks fuel (encodeChunks cs ++ 0xff :: rest) = some (cs, rest) := by
  induction cs generalizing fuel with
  | nil =>
    cases fuel with
    | zero => exact absurd hf (Nat.not_lt_zero _)
    | succ fuel => rfl
  | cons c cs ih =>
    cases fuel with
    | zero => exact absurd hf (Nat.not_lt_zero _)
    | succ fuel =>
      have hd := decodeHead_head 2 c.length (c ++ (encodeChunks cs ++ 0xff :: rest)) (by decide) (hw c List.mem_cons_self)
      obtain ⟨b, t, hb, hne⟩ := head_first 2 c.length (by decide)
      rw [encodeChunks, List.append_assoc, List.append_assoc]
      rw [hb] at hd ⊢
      rw [List.cons_append, decodeChunks, if_neg hne, ← List.cons_append, hd]
      simp [ih fuel (Nat.lt_of_succ_lt_succ hf) fun x hx => hw x (List.mem_cons_of_mem _ hx)]

mutual
theorem decode_encode (x : Item) (rest : Bytes) (fuel : Nat) (hf : depth x ≤ fuel) (hw : WF x) :
    decode fuel (encode x ++ rest) = some (x, rest) := by
  cases fuel with
  | zero => cases x <;> simp [depth] at hf
  | succ fuel =>
    cases x with
    | uint n | nint n =>
      rw [encode, decode, decodeHead_head _ n rest (by decide) hw]; rfl
    | simple n => rw [encode, decode, decodeHead_head 7 n rest (by omega) (Nat.lt_trans hw (by decide))]; rfl
    | bytes b | text b =>
      rw [encode, List.append_assoc, decode, decodeHead_head _ b.length (b ++ rest) (by decide) hw]
      simp only [List.length_append, Nat.le_add_right, if_true, List.take_left', List.drop_left']
    | bytesChunked cs =>
      rw [depth] at hf
      rw [encode, List.cons_append, List.append_assoc, List.singleton_append, decode]
      have hh : ∀ r, decodeHead ((0x5f : UInt8) :: r) = some (2, none, r) := fun _ => rfl
      rw [hh]
      -- `whnf` selects the decoder's branch for the head just read (here and below)
      conv => lhs; whnf
      rw [decodeChunks_encodeChunks cs rest fuel (by omega) hw]
    | tag t x =>
      rw [depth] at hf
      rw [encode, List.append_assoc, decode, decodeHead_head 6 t _ (by omega) hw.1]
      conv => lhs; whnf
      rw [decode_encode x rest fuel (by omega) hw.2]
    | array xs =>
      rw [depth] at hf
      rw [encode, List.append_assoc, decode, decodeHead_head 4 xs.length _ (by omega) hw.1]
      conv => lhs; whnf
      rw [decodeN_encodeList xs rest fuel (by omega) hw.2]
    | arrayIndef xs =>
      rw [depth] at hf
      rw [encode, List.cons_append, List.append_assoc, List.singleton_append, decode]
      have hh : ∀ r, decodeHead ((0x9f : UInt8) :: r) = some (4, none, r) := fun _ => rfl
      rw [hh]
      conv => lhs; whnf
      rw [decodeBreak_encodeList xs rest fuel (by omega) hw]
    | map kvs =>
      rw [depth] at hf
      rw [encode, List.append_assoc, decode, decodeHead_head 5 kvs.length _ (by omega) hw.1]
      conv => lhs; whnf
      rw [decodePairs_encodePairs kvs rest fuel (by omega) hw.2]
theorem decodeN_encodeList (xs : List Item) (rest : Bytes) (fuel : Nat) (hf : depthList xs ≤ fuel) (hw : WFList xs) :
    decodeN fuel xs.length (encodeList xs ++ rest) = some (xs, rest) := by
  cases fuel with
  | zero => cases xs <;> simp [depthList] at hf
  | succ fuel =>
    cases xs with
    | nil => rfl
    | cons x xs =>
      rw [depthList] at hf
      rw [encodeList, List.append_assoc, List.length_cons, decodeN, decode_encode x _ fuel (by omega) hw.1]
      conv => lhs; whnf
      rw [decodeN_encodeList xs rest fuel (by omega) hw.2]
theorem decodeBreak_encodeList (xs : List Item) (rest : Bytes) (fuel : Nat) (hf : depthList xs ≤ fuel) (hw : WFList xs) :
    decodeUntilBreak fuel (encodeList xs ++ 0xff :: rest) = some (xs, rest) := by
  cases fuel with
  | zero => cases xs <;> simp [depthList] at hf
  | succ fuel =>
    cases xs with
    | nil => rfl
    | cons x xs =>
      rw [depthList] at hf
      have ih := decode_encode x (encodeList xs ++ 0xff :: rest) fuel (by omega) hw.1
      obtain ⟨b, t, hb, hne⟩ := encode_first x
      rw [encodeList, List.append_assoc]
      rw [hb] at ih ⊢
      rw [List.cons_append, decodeUntilBreak, if_neg hne, ← List.cons_append, ih]
      conv => lhs; whnf
      rw [decodeBreak_encodeList xs rest fuel (by omega) hw.2]
theorem decodePairs_encodePairs (xs : List (Item × Item)) (rest : Bytes) (fuel : Nat) (hf : depthPairs xs ≤ fuel) (hw : WFPairs xs) :
    decodePairsN fuel xs.length (encodePairs xs ++ rest) = some (xs, rest) := by
  cases fuel with
  | zero => cases xs with
    | nil => simp [depthPairs] at hf
    | cons p xs => obtain ⟨k, v⟩ := p; simp [depthPairs] at hf
  | succ fuel =>
    cases xs with
    | nil => rfl
    | cons p xs =>
      obtain ⟨k, v⟩ := p
      rw [depthPairs] at hf
      have hd : depth k ≤ fuel ∧ depth v ≤ fuel ∧ depthPairs xs ≤ fuel := by omega
      rw [encodePairs, List.append_assoc, List.append_assoc, List.length_cons, decodePairsN,
        decode_encode k _ fuel hd.1 hw.1]
      conv => lhs; whnf
      rw [decode_encode v _ fuel hd.2.1 hw.2.1]
      conv => lhs; whnf
      rw [decodePairs_encodePairs xs rest fuel hd.2.2 hw.2.2]
end

theorem wf_array2 {a b : Item} (ha : WF a) (hb : WF b) : WF (.array [a, b]) :=
  ⟨(by decide : 2 < 2 ^ 64), ha, hb, trivial⟩

theorem depth_pos (i : Item) : 1 ≤ depth i := by
  cases i <;> simp only [depth] <;> omega

theorem depthList_mem (xs : List Item) : ∀ x ∈ xs, depth x < depthList xs := by
  induction xs with
  | nil => nofun
  | cons x xs ih =>
    intro y hy
    simp only [depthList]
    rcases List.mem_cons.1 hy with rfl | hy
    · omega
    · have := ih y hy; omega

theorem depthPairs_mem (kvs : List (Item × Item)) : ∀ kv ∈ kvs, depth kv.1 < depthPairs kvs := by
  induction kvs with
  | nil => nofun
  | cons x xs ih =>
    intro y hy
    simp only [depthPairs]
    rcases List.mem_cons.1 hy with rfl | hy
    · omega
    · have := ih y hy; omega

/-! ## the whole input: the fuel `decodeAll` derives from the input length always suffices (each nesting level and each
list element costs at least one byte) -/

theorem encodeChunks_len (cs : List Bytes) : cs.length ≤ (encodeChunks cs).length := by
  induction cs with
  | nil => simp [encodeChunks]
  | cons c cs ih =>
    have := head_length_pos 2 c.length
    simp only [encodeChunks, List.length_append, List.length_cons]
    omega

theorem encode_length_pos (x : Item) : 1 ≤ (encode x).length := by
  obtain ⟨b, t, e, _⟩ := encode_first x
  rw [e]; exact Nat.succ_pos _

mutual
theorem depth_le (x : Item) : depth x ≤ 2 * (encode x).length ∧ 1 ≤ (encode x).length := by
  have hp := encode_length_pos x
  refine ⟨?_, hp⟩
  cases x with
  | uint _ | nint _ | simple _ | bytes _ | text _ => rw [depth]; omega
  | bytesChunked cs =>
    have := encodeChunks_len cs
    simp only [depth, encode, List.length_cons, List.length_append, List.length_nil]; omega
  | tag t x =>
    have := head_length_pos 6 t
    have ih := depth_le x
    simp only [depth, encode, List.length_append]; omega
  | array xs =>
    have := head_length_pos 4 xs.length
    have ih := depthList_le xs
    simp only [depth, encode, List.length_append]; omega
  | arrayIndef xs =>
    have ih := depthList_le xs
    simp only [depth, encode, List.length_cons, List.length_append, List.length_nil]; omega
  | map kvs =>
    have := head_length_pos 5 kvs.length
    have ih := depthPairs_le kvs
    simp only [depth, encode, List.length_append]; omega
theorem depthList_le (xs : List Item) : depthList xs ≤ 2 * (encodeList xs).length + 1 := by
  cases xs with
  | nil => simp [depthList, encodeList]
  | cons x xs =>
    have h1 := depth_le x
    have h2 := depthList_le xs
    simp only [depthList, encodeList, List.length_append]; omega
theorem depthPairs_le (kvs : List (Item × Item)) : depthPairs kvs ≤ 2 * (encodePairs kvs).length + 1 := by
  cases kvs with
  | nil => simp [depthPairs, encodePairs]
  | cons p kvs =>
    obtain ⟨k, v⟩ := p
    have h1 := depth_le k
    have h2 := depth_le v
    have h3 := depthPairs_le kvs
    simp only [depthPairs, encodePairs, List.length_append]; omega
end

/-- **CBOR round trip at the byte level**: decoding the encoding of a well-formed item consumes all bytes and
returns the item — definite and indefinite arrays, chunked byte strings, tags and maps keep their framing -/
theorem decodeAll_encode (x : Item) (hw : WF x) : decodeAll (encode x) = some x := by
  unfold decodeAll
  have h := decode_encode x [] (2 * (encode x).length + 2) (by have := depth_le x; omega) hw
  rw [List.append_nil] at h
  rw [h]


theorem encode_prefix_inj {x y : Item} {r s : Bytes} (hx : WF x) (hy : WF y) (h : encode x ++ r = encode y ++ s) :
    x = y ∧ r = s := by
  have h1 := decode_encode x r (max (depth x) (depth y)) (Nat.le_max_left _ _) hx
  have h2 := decode_encode y s (max (depth x) (depth y)) (Nat.le_max_right _ _) hy
  rw [h, h2] at h1
  injection h1 with h1
  exact ⟨((Prod.mk.inj h1).1).symm, ((Prod.mk.inj h1).2).symm⟩

theorem encode_inj {x y : Item} (hx : WF x) (hy : WF y) (h : encode x = encode y) : x = y :=
  (encode_prefix_inj (r := []) (s := []) hx hy (by rw [h])).1

end Pyc.Cbor
