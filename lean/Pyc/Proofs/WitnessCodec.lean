import Pyc.Model.WitnessCodec
import Pyc.Spec.WitnessCodec
import Pyc.Proofs.Ids

/-! Lemmas for the witness-side codecs of `Model/WitnessCodec.lean` (properties: `Props/C01_WitnessCodec.lean`,
`Props/C02_WitnessCodec.lean`).  Each codec gets its round trip on the encoder's image (`dec_item` lemmas); a set-valued
field is handled once for an abstract element codec (`Elem.Lawful`, `decSetField_item`, `decDatums_item`); the witness set
is decoded by one step of the loop per optional field (`decWSLoop_optPair`), which gives `decodedWS`, the object every
statement about decoding, re-encoding and Python equality is about; `Conf` reads the CDDL content off a model value. -/

namespace Pyc.WitnessCodec
open Pyc.Cbor Pyc.Codec Pyc.Custom

/-- the primitives `Prim.ofItem` produces: `other` holds neither an int nor a byte string -/
def Prim.Canon : Prim → Prop
  | .other x => itemInt? x = Option.none ∧ itemBytes? x = Option.none
  | _ => True

theorem Prim.ofItem_toItem (p : Prim) (h : p.Canon) : Prim.ofItem p.toItem = p := by
  cases p with
  | int i => simp only [Prim.toItem, Prim.ofItem, itemInt_ofInt_all]
  | bytes b => simp only [Prim.toItem, Prim.ofItem, itemInt?, itemBytes?]
  | other x =>
    obtain ⟨h1, h2⟩ := h
    simp only [Prim.toItem, Prim.ofItem, h1, h2]

theorem Prim.canon_ofItem (x : Item) : (Prim.ofItem x).Canon := by
  unfold Prim.ofItem
  split
  · trivial
  · split
    · trivial
    · rename_i h1 _ h2
      exact ⟨h1, h2⟩

/-- the `KEY_TYPE` strings of the ten classes that define one, compared by evaluation -/
theorem keyType_nodup : (KeyClass.concrete.map KeyClass.keyType).Nodup := by decide +kernel

theorem pyOr_some (s d : String) : pyOr (some s) d = if s = "" then d else s := rfl
theorem pyOr_none (d : String) : pyOr Option.none d = d := rfl

theorem pyOr_pyOr (a : Option String) (d : String) : pyOr (some (pyOr a d)) d = pyOr a d := by
  cases a with
  | none => rw [pyOr_none, pyOr_some]; simp
  | some s =>
    rw [pyOr_some s]
    by_cases h : s = ""
    · rw [if_pos h, pyOr_some]; simp
    · rw [if_neg h, pyOr_some, if_neg h]

theorem decKey_keyItem (c : KeyClass) (k : KeyObj) : decKey c (keyItem k) = .ok (mkKey c k.payload) := rfl

theorem jobj_get_type (k : KeyObj) : JObj.get? (toJson k) "type" = some (.str k.keyType) := by
  simp only [toJson, JObj.get?, List.foldl]
  simp

theorem jobj_get_description (k : KeyObj) : JObj.get? (toJson k) "description" = some (.str k.description) := by
  simp only [toJson, JObj.get?, List.foldl]
  simp

theorem jobj_get_cborHex (k : KeyObj) : JObj.get? (toJson k) "cborHex" = some (.str (toHex (keyCbor k))) := by
  simp only [toJson, JObj.get?, List.foldl]
  simp

theorem fromJson_toJson (c : KeyClass) (validate : Bool) (k : KeyObj) (hp : k.payload.length < 2 ^ 64)
    (hv : validate = true → k.keyType = c.keyType) :
    fromJson c validate (toJson k) = .ok (mkKey c k.payload (some k.keyType) (some k.description)) := by
  have hd : decodeAll (keyCbor k) = some (.bytes k.payload) := decodeAll_encode (.bytes k.payload) hp
  cases validate with
  | false =>
    simp only [fromJson, jobj_get_type, jobj_get_description, jobj_get_cborHex, ofHex_toHex, hd, decKey, itemBytes?,
      jArg, mkKey, Bool.false_eq_true, if_false]
  | true =>
    have := hv rfl
    simp only [fromJson, jobj_get_type, jobj_get_description, jobj_get_cborHex, ofHex_toHex, hd, decKey, itemBytes?,
      jArg, mkKey, this, if_true]

theorem fromJson_badType (c : KeyClass) (k : KeyObj) (h : k.keyType ≠ c.keyType) :
    fromJson c true (toJson k) = .badType := by
  have h' : ¬ (JVal.str k.keyType = JVal.str c.keyType) := by
    intro e; injection e with e; exact h e
  simp only [fromJson, jobj_get_type, if_true, h', if_false]

theorem decVKW_vkwItem (w : VKW) (h : w.sig.Canon) : decVKW (vkwItem w) = .ok (decodedVKW w) := by
  simp only [vkwItem, decVKW, decKey_keyItem, Res.bind, Prim.ofItem_toItem _ h, mkVKW, decodedVKW, mkKey,
    KeyClass.isExtVerification]
  simp

theorem vkwItem_decodedVKW (w : VKW) : vkwItem (decodedVKW w) = vkwItem w := rfl

theorem decodedVKW_idem (w : VKW) : decodedVKW (decodedVKW w) = decodedVKW w := rfl

theorem decTag_code (t : RTag) : decTag (.uint t.code) = .ok t := by
  cases t <;> rfl

theorem decExUnits_exItem (e : ExUnits) : decExUnits (exItem e) = .ok e := by
  simp only [exItem, decExUnits, listElems?, itemInt_ofInt_all]

theorem decOptEx_none : decOptEx (.simple 22) = .ok Option.none := rfl

theorem decOptEx_exItem (e : ExUnits) : decOptEx (exItem e) = .ok (some e) := by
  simp only [decOptEx, decExUnits_exItem]

theorem decRedeemer_item (L : Leaf R) (hL : L.Lawful) (r : Redeemer R) (t : RTag) (ht : r.tag = some t)
    (hc : r.index.Canon) : decRedeemer L (redeemerItem L r) = .ok r := by
  obtain ⟨tg, ix, d, ex⟩ := r
  cases ht
  cases ex <;> simp only [redeemerItem, decRedeemer, hL.rt, bind_ok, decTag_code, Prim.ofItem_toItem _ hc, decOptEx_none,
    decOptEx_exItem]

theorem decList_map {α : Type} (d : Item → Res α) (enc : α → Item) (nf : α → α) (xs : List α)
    (h : ∀ x ∈ xs, d (enc x) = .ok (nf x)) : decList d (xs.map enc) = .ok (xs.map nf) := by
  induction xs with
  | nil => rfl
  | cons x xs ih =>
    simp only [List.map_cons, decList, h x List.mem_cons_self,
      ih (fun y hy => h y (List.mem_cons_of_mem _ hy))]

/-- what the list form asks of its elements -/
def RedeemerOk (r : Redeemer R) : Prop := r.tag.isSome = true ∧ r.index.Canon

theorem decList_redeemers (L : Leaf R) (hL : L.Lawful) (rs : List (Redeemer R)) (h : ∀ r ∈ rs, RedeemerOk r) :
    decList (decRedeemer L) (rs.map (redeemerItem L)) = .ok rs := by
  have := decList_map (decRedeemer L) (redeemerItem L) id rs fun r hr =>
    have ⟨t, ht⟩ := Option.isSome_iff_exists.1 (h r hr).1
    decRedeemer_item L hL r t ht (h r hr).2
  rwa [List.map_id] at this

theorem decRKeyRaw_item (k : RKey) : decRKeyRaw (rkeyItem k) = .ok (k.tag, .int k.index) := by
  simp only [rkeyItem, decRKeyRaw, decTag_code, Res.bind, Prim.ofItem, itemInt_ofInt_all]

theorem decRValue_item (L : Leaf R) (hL : L.Lawful) (v : RValue R) : decRValue L (rvalueItem L v) = .ok v := by
  simp only [rvalueItem, decRValue, hL.rt, Res.bind, decExUnits_exItem]

theorem rmSet_fresh (m : RMap R) (k : RKey) (v : RValue R) (h : k ∉ m.map (·.1)) : rmSet m k v = m ++ [(k, v)] := by
  have : m.any (fun p => decide (p.1 = k)) = false := by
    rw [List.any_eq_false]
    intro p hp
    simp only [decide_eq_true_eq]
    intro e
    exact h (e ▸ List.mem_map_of_mem hp)
  simp only [rmSet, this, Bool.false_eq_true, if_false]

theorem decRMapLoop_items (L : Leaf R) (hL : L.Lawful) (acc m : RMap R) (hn : ((acc ++ m).map (·.1)).Nodup) :
    decRMapLoop L acc (m.map (fun p => (rkeyItem p.1, rvalueItem L p.2))) = .ok (acc ++ m) := by
  induction m generalizing acc with
  | nil => rw [List.append_nil]; rfl
  | cons p m ih =>
    have hfresh : p.1 ∉ acc.map (·.1) := fun hmem => by
      rw [List.map_append] at hn
      exact (List.nodup_append.1 hn).2.2 p.1 hmem p.1 (List.mem_map_of_mem List.mem_cons_self) rfl
    rw [List.append_cons] at hn ⊢
    simp only [List.map_cons, decRMapLoop, decRKeyRaw_item, decRValue_item L hL, Res.bind, rmSet_fresh acc p.1 p.2 hfresh]
    exact ih (acc ++ [p]) hn

theorem sortPairs_rmap (L : Leaf R) (m : RMap R) :
    sortPairs (m.map (fun p => (rkeyItem p.1, rvalueItem L p.2))) =
      (rmapSorted m).map (fun p => (rkeyItem p.1, rvalueItem L p.2)) := by
  unfold sortPairs rmapSorted
  exact (map_isort (fun (a b : RKey × RValue R) => lenLexLe (encode (rkeyItem a.1)) (encode (rkeyItem b.1)))
    (fun (a b : Item × Item) => lenLexLe (encode a.1) (encode b.1))
    (fun p => (rkeyItem p.1, rvalueItem L p.2)) (fun a b => rfl) m).symm

theorem rmapSorted_perm (m : RMap R) : (rmapSorted m).Perm m := isort_perm _ _

theorem rmapSorted_sorted (m : RMap R) :
    (rmapSorted m).Pairwise (fun a b => lenLexLe (encode (rkeyItem a.1)) (encode (rkeyItem b.1)) = true) := by
  exact isort_pairwise (fun (a b : RKey × RValue R) => lenLexLe (encode (rkeyItem a.1)) (encode (rkeyItem b.1)))
    (fun a b c => lenLexLe_trans _ _ _) (fun a b => lenLexLe_total _ _) m

theorem rmapSorted_idem (m : RMap R) : rmapSorted (rmapSorted m) = rmapSorted m := by
  exact isort_of_sorted _ _ (rmapSorted_sorted m)

theorem decRMap_item (L : Leaf R) (hL : L.Lawful) (m : RMap R) (hn : (m.map (·.1)).Nodup) :
    decRMap L (rmapItem L m) = .ok (rmapSorted m) := by
  have hn' : ((([] : RMap R) ++ rmapSorted m).map (·.1)).Nodup := by
    rw [List.nil_append]
    exact ((rmapSorted_perm m).map _).nodup_iff.2 hn
  have := decRMapLoop_items L hL [] (rmapSorted m) hn'
  simp only [rmapItem, sortPairs_rmap, decRMap]
  exact this

theorem rmapItem_sorted (L : Leaf R) (m : RMap R) : rmapItem L (rmapSorted m) = rmapItem L m := by
  simp only [rmapItem, sortPairs_rmap, rmapSorted_idem]

def RedeemersOk : Redeemers R → Prop
  | .list rs => ∀ r ∈ rs, RedeemerOk r
  | .map m => (m.map (·.1)).Nodup

theorem decRedeemersOpt_item (L : Leaf R) (hL : L.Lawful) (rs : Redeemers R) (h : RedeemersOk rs) :
    decRedeemersOpt L (redeemersItem L rs) = .ok (some (decodedRedeemers rs)) := by
  cases rs with
  | list rs =>
    simp only [redeemersItem, decRedeemersOpt, listElems?, decList_redeemers L hL rs h, decodedRedeemers]
  | map m =>
    have h1 : redeemersItem L (.map m) = .map (sortPairs (m.map (fun p => (rkeyItem p.1, rvalueItem L p.2)))) := rfl
    have h2 := decRMap_item L hL m h
    rw [rmapItem] at h2
    rw [h1]
    simp only [decRedeemersOpt, listElems?, h2, decodedRedeemers]

theorem redeemersItem_decoded (L : Leaf R) (rs : Redeemers R) :
    redeemersItem L (decodedRedeemers rs) = redeemersItem L rs := by
  cases rs with
  | list rs => rfl
  | map m => exact rmapItem_sorted L m

/-! ## `OrderedSet`: first occurrences are kept -/

section dedup
variable {α κ : Type} [DecidableEq κ]

theorem dedupAux_keys_nodup (key : α → κ) (seen : List κ) (xs : List α) :
    ((dedupAux key seen xs).map key).Nodup ∧ ∀ x ∈ dedupAux key seen xs, key x ∉ seen := by
  induction xs generalizing seen with
  | nil => simp [dedupAux]
  | cons x xs ih =>
    unfold dedupAux
    by_cases h : key x ∈ seen
    · rw [if_pos h]; exact ih seen
    · rw [if_neg h]
      obtain ⟨h1, h2⟩ := ih (key x :: seen)
      refine ⟨?_, ?_⟩
      · rw [List.map_cons, List.nodup_cons]
        refine ⟨?_, h1⟩
        intro hm
        obtain ⟨y, hy, hk⟩ := List.mem_map.1 hm
        exact h2 y hy (by rw [hk]; exact List.mem_cons_self)
      · intro y hy
        rcases List.mem_cons.1 hy with rfl | hy
        · exact h
        · intro hs
          exact h2 y hy (List.mem_cons_of_mem _ hs)

theorem dedupAux_of_nodup (key : α → κ) (seen : List κ) (xs : List α) (hn : (xs.map key).Nodup)
    (hs : ∀ x ∈ xs, key x ∉ seen) : dedupAux key seen xs = xs := by
  induction xs generalizing seen with
  | nil => rfl
  | cons x xs ih =>
    unfold dedupAux
    rw [List.map_cons, List.nodup_cons] at hn
    rw [if_neg (hs x List.mem_cons_self)]
    congr 1
    apply ih _ hn.2
    intro y hy hm
    rcases List.mem_cons.1 hm with e | hm
    · exact hn.1 (e ▸ List.mem_map_of_mem hy)
    · exact hs y (List.mem_cons_of_mem _ hy) hm

theorem dedupBy_of_nodup (key : α → κ) (xs : List α) (hn : (xs.map key).Nodup) : dedupBy key xs = xs :=
  dedupAux_of_nodup key [] xs hn (by simp)

theorem dedupBy_nodup (key : α → κ) (xs : List α) : ((dedupBy key xs).map key).Nodup :=
  (dedupAux_keys_nodup key [] xs).1

theorem dedupBy_idem (key : α → κ) (xs : List α) : dedupBy key (dedupBy key xs) = dedupBy key xs :=
  dedupBy_of_nodup key _ (dedupBy_nodup key xs)

theorem dedupBy_ne_nil (key : α → κ) (xs : List α) (h : xs ≠ []) : dedupBy key xs ≠ [] := by
  cases xs with
  | nil => exact absurd rfl h
  | cons x xs => simp [dedupBy, dedupAux]

theorem dedupBy_map_of_key_eq (key : α → κ) (f : α → α) (hf : ∀ x, key (f x) = key x) (xs : List α) :
    dedupBy key (xs.map f) = (dedupBy key xs).map f := by
  have aux : ∀ (seen : List κ), dedupAux key seen (xs.map f) = (dedupAux key seen xs).map f := by
    induction xs with
    | nil => intro seen; rfl
    | cons x xs ih =>
      intro seen
      simp only [List.map_cons, dedupAux, hf]
      by_cases h : key x ∈ seen
      · simp only [if_pos h]; exact ih seen
      · simp only [if_neg h, List.map_cons, ih]
  exact aux []

end dedup

/-- an element codec that restores what it wrote, up to a normal form, on the elements that satisfy `P` -/
structure Elem.Lawful {α κ : Type} (E : Elem α κ) (nf : α → α) (P : α → Prop) : Prop where
  list : ∀ x, P x → E.dList (E.enc x) = .ok (nf x)
  set : ∀ x, P x → E.dSet (E.enc x) = .ok (nf x)

def NonemptyIfTagged {α : Type} : Coll α → Prop
  | .oset true xs => xs ≠ []
  | _ => True

/-- what `decSetField` returns for the encoding of a collection: an untagged set comes back as a list, a tagged one is
rebuilt by the `OrderedSet` constructor -/
def restoredColl {α κ : Type} [DecidableEq κ] (key : α → κ) (nf : α → α) : Coll α → Coll α
  | .list xs => .list (xs.map nf)
  | .oset true xs => .oset true (dedupBy key (xs.map nf))
  | .oset false xs => .list (xs.map nf)

theorem decSetField_item {α κ : Type} [DecidableEq κ] (E : Elem α κ) (nf : α → α) (P : α → Prop)
    (hE : E.Lawful nf P) (c : Coll α) (hP : ∀ x ∈ c.elems, P x) (hne : NonemptyIfTagged c) :
    decSetField E (collItem E.enc c) = .ok (restoredColl E.key nf c) := by
  have untagged (xs : List α) (hxs : ∀ x ∈ xs, P x) : decSetField E (.array (xs.map E.enc)) = .ok (.list (xs.map nf)) := by
    simp only [decSetField, listElems?, decList_map E.dList E.enc nf xs fun x hx => hE.list x (hxs x hx)]
  rcases c with xs | ⟨_ | _, xs⟩
  · exact untagged xs hP
  · exact untagged xs hP
  · have hd : (dedupBy E.key (xs.map nf)).isEmpty = false :=
      List.isEmpty_eq_false_iff.2 (dedupBy_ne_nil _ _ fun e => hne (List.map_eq_nil_iff.1 e))
    simp only [collItem, decSetField, listElems?, decNE, iterItems?, restoredColl, if_true, hd, Bool.false_eq_true, if_false,
      decList_map E.dSet E.enc nf xs fun x hx => hE.set x (hP x hx)]

theorem decDatums_item {α κ : Type} [DecidableEq κ] (E : Elem α κ) (nf : α → α) (P : α → Prop)
    (hE : E.Lawful nf P) (c : Coll α) (hP : ∀ x ∈ c.elems, P x) :
    decDatums E (collItem E.enc c) = .ok (restoredColl E.key nf c) := by
  have untagged (xs : List α) (hxs : ∀ x ∈ xs, P x) : decDatums E (.array (xs.map E.enc)) = .ok (.list (xs.map nf)) := by
    simp only [decDatums, iterItems?, decList_map E.dList E.enc nf xs fun x hx => hE.list x (hxs x hx)]
  rcases c with xs | ⟨_ | _, xs⟩
  · exact untagged xs hP
  · exact untagged xs hP
  · simp only [collItem, decDatums, iterItems?, restoredColl, if_true,
      decList_map E.dSet E.enc nf xs fun x hx => hE.set x (hP x hx)]

theorem toNE_restoredColl {α κ : Type} [DecidableEq κ] (key : α → κ) (nf : α → α) (c : Coll α) :
    toNE key (restoredColl key nf c) = decodedNE key nf c := by
  cases c with
  | list xs => rfl
  | oset t xs =>
    cases t with
    | false => rfl
    | true => simp only [restoredColl, toNE, decodedNE, Coll.elems, dedupBy_idem]

theorem restoredColl_id {α κ : Type} [DecidableEq κ] (key : α → κ) (c : Coll α) :
    restoredColl key id c = decodedPlain key c := by
  cases c with
  | list xs => simp only [restoredColl, decodedPlain, List.map_id]
  | oset t xs =>
    cases t with
    | false => simp only [restoredColl, decodedPlain, List.map_id]
    | true => simp only [restoredColl, decodedPlain, List.map_id]

theorem vkwElem_lawful : vkwElem.Lawful decodedVKW (fun w => w.sig.Canon) :=
  ⟨fun w h => decVKW_vkwItem w h, fun w h => decVKW_vkwItem w h⟩

theorem scriptElem_lawful : scriptElem.Lawful id (fun _ => True) := ⟨fun _ _ => rfl, fun _ _ => rfl⟩

theorem leafElem_lawful {α : Type} (L : Leaf α) (hL : L.Lawful) : (Elem.ofLeaf L).Lawful id (fun _ => True) :=
  ⟨fun x _ => hL.rt x, fun x _ => hL.rt x⟩


variable {N B D : Type}

structure Leaves.Lawful (L : Leaves N B D R) : Prop where
  native : L.native.Lawful
  bootstrap : L.bootstrap.Lawful
  datum : L.datum.Lawful
  rdata : L.rdata.Lawful

/-- **well-formed witness set**: primitives stored in unchecked fields are what a decoder stores (`Prim.Canon`), a set
that uses the tag is not empty, a redeemer of the list form has its tag, the keys of the map form are distinct -/
structure WSOk (x : WS N B D R) : Prop where
  vkeys : ∀ c, x.vkeys = some c → (∀ w ∈ c.elems, w.sig.Canon) ∧ NonemptyIfTagged c
  native : ∀ c, x.native = some c → NonemptyIfTagged c
  bootstrap : ∀ c, x.bootstrap = some c → NonemptyIfTagged c
  v1 : ∀ c, x.v1 = some c → NonemptyIfTagged c
  redeemers : ∀ r, x.redeemers = some r → RedeemersOk r
  v2 : ∀ c, x.v2 = some c → NonemptyIfTagged c
  v3 : ∀ c, x.v3 = some c → NonemptyIfTagged c

def wsPairs (L : Leaves N B D R) (x : WS N B D R) : List (Item × Item) :=
  optPair 0 (collItem vkwItem) x.vkeys ++ optPair 1 (collItem L.native.enc) x.native ++
    optPair 2 (collItem L.bootstrap.enc) x.bootstrap ++ optPair 3 (collItem (fun b => Item.bytes b)) x.v1 ++
    optPair 4 (collItem L.datum.enc) x.datums ++ optPair 5 (redeemersItem L.rdata) x.redeemers ++
    optPair 6 (collItem (fun b => Item.bytes b)) x.v2 ++ optPair 7 (collItem (fun b => Item.bytes b)) x.v3

theorem wsItem_eq (L : Leaves N B D R) (x : WS N B D R) : wsItem L x = .map (wsPairs L x) := rfl

/-- the keyword arguments the decoding loop collects from the encoding of `x` -/
def restoredWS (L : Leaves N B D R) (x : WS N B D R) : WS N B D R :=
  { vkeys := x.vkeys.map (restoredColl vkwKey decodedVKW)
    native := x.native.map (restoredColl (leafKey L.native) id)
    bootstrap := x.bootstrap.map (restoredColl (leafKey L.bootstrap) id)
    v1 := x.v1.map (restoredColl id id)
    datums := x.datums.map (restoredColl (leafKey L.datum) id)
    redeemers := x.redeemers.map decodedRedeemers
    v2 := x.v2.map (restoredColl id id)
    v3 := x.v3.map (restoredColl id id) }

theorem map_toNE_restoredColl {α κ : Type} [DecidableEq κ] (key : α → κ) (nf : α → α) (o : Option (Coll α)) :
    (o.map (restoredColl key nf)).map (toNE key) = o.map (decodedNE key nf) := by
  cases o with
  | none => rfl
  | some c => simp only [Option.map, toNE_restoredColl]

theorem map_restoredColl_id {α κ : Type} [DecidableEq κ] (key : α → κ) (o : Option (Coll α)) :
    o.map (restoredColl key id) = o.map (decodedPlain key) := by
  cases o with
  | none => rfl
  | some c => simp only [Option.map, restoredColl_id]

theorem mkWS_restoredWS (L : Leaves N B D R) (x : WS N B D R) : mkWS L (restoredWS L x) = decodedWS L x := by
  simp only [mkWS, restoredWS, decodedWS, map_toNE_restoredColl, map_restoredColl_id (leafKey L.bootstrap),
    map_restoredColl_id (leafKey L.datum)]

/-- one optional field in front of the rest of the struct map, for any of the eight keys: `hk` is the loop's equation for
the key (`wrap` is `some`, or the identity for the `redeemer` field, whose decoder returns an option) -/
theorem decWSLoop_optPair {α β γ : Type} (L : Leaves N B D R) (k : Nat) (enc : α → Item) {dec : Item → Res β}
    (set : WS N B D R → Option γ → WS N B D R) (wrap : β → Option γ)
    (hk : ∀ acc x r, decWSLoop L acc ((.uint k, x) :: r) = Res.bind (dec x) fun c => decWSLoop L (set acc (wrap c)) r)
    {o : Option α} {g : α → γ} {b : α → β} (hdec : ∀ c, o = some c → dec (enc c) = .ok (b c) ∧ wrap (b c) = some (g c))
    (acc : WS N B D R) (rest : List (Item × Item)) (hnone : set acc Option.none = acc) :
    decWSLoop L acc (optPair k enc o ++ rest) = decWSLoop L (set acc (o.map g)) rest := by
  cases o with
  | none => rw [Option.map, hnone]; rfl
  | some c => rw [optPair, List.singleton_append, hk, (hdec c rfl).1, bind_ok, (hdec c rfl).2]; rfl

theorem decWSLoop_wsPairs (L : Leaves N B D R) (hL : L.Lawful) (x : WS N B D R) (h : WSOk x) :
    decWSLoop L {} (wsPairs L x) = .ok (restoredWS L x) := by
  have leaf {α : Type} (F : Leaf α) (hF : F.Lawful) (c : Coll α) (hc : NonemptyIfTagged c) :
      decSetField (Elem.ofLeaf F) (collItem F.enc c) = .ok (restoredColl (leafKey F) id c) :=
    decSetField_item (Elem.ofLeaf F) id _ (leafElem_lawful F hF) c (fun _ _ => trivial) hc
  have script (c : Coll Bytes) (hc : NonemptyIfTagged c) :
      decSetField scriptElem (collItem (fun b => Item.bytes b) c) = .ok (restoredColl id id c) :=
    decSetField_item scriptElem id _ scriptElem_lawful c (fun _ _ => trivial) hc
  rw [wsPairs, ← List.append_nil (optPair 7 _ _)]
  simp only [List.append_assoc]
  rw [decWSLoop_optPair L 0 (collItem vkwItem) (fun a v => { a with vkeys := v }) some (fun _ _ _ => rfl) (fun c hc =>
      ⟨decSetField_item vkwElem decodedVKW _ vkwElem_lawful c (h.vkeys c hc).1 (h.vkeys c hc).2, rfl⟩) _ _ rfl,
    decWSLoop_optPair L 1 (collItem L.native.enc) (fun a v => { a with native := v }) some (fun _ _ _ => rfl)
      (fun c hc => ⟨leaf L.native hL.native c (h.native c hc), rfl⟩) _ _ rfl,
    decWSLoop_optPair L 2 (collItem L.bootstrap.enc) (fun a v => { a with bootstrap := v }) some (fun _ _ _ => rfl)
      (fun c hc => ⟨leaf L.bootstrap hL.bootstrap c (h.bootstrap c hc), rfl⟩) _ _ rfl,
    decWSLoop_optPair L 3 (collItem fun b => Item.bytes b) (fun a v => { a with v1 := v }) some (fun _ _ _ => rfl)
      (fun c hc => ⟨script c (h.v1 c hc), rfl⟩) _ _ rfl,
    decWSLoop_optPair L 4 (collItem L.datum.enc) (fun a v => { a with datums := v }) some (fun _ _ _ => rfl) (fun c _ =>
      ⟨decDatums_item (Elem.ofLeaf L.datum) id _ (leafElem_lawful _ hL.datum) c (fun _ _ => trivial), rfl⟩) _ _ rfl,
    decWSLoop_optPair L 5 (redeemersItem L.rdata) (fun a v => { a with redeemers := v }) id (fun _ _ _ => rfl)
      (fun r hr => ⟨decRedeemersOpt_item L.rdata hL.rdata r (h.redeemers r hr), rfl⟩) _ _ rfl,
    decWSLoop_optPair L 6 (collItem fun b => Item.bytes b) (fun a v => { a with v2 := v }) some (fun _ _ _ => rfl)
      (fun c hc => ⟨script c (h.v2 c hc), rfl⟩) _ _ rfl,
    decWSLoop_optPair L 7 (collItem fun b => Item.bytes b) (fun a v => { a with v3 := v }) some (fun _ _ _ => rfl)
      (fun c hc => ⟨script c (h.v3 c hc), rfl⟩) _ _ rfl]
  rfl

theorem decWS_wsItem (L : Leaves N B D R) (hL : L.Lawful) (x : WS N B D R) (h : WSOk x) :
    decWS L (wsItem L x) = .ok (decodedWS L x) := by
  simp only [wsItem_eq, decWS, decWSLoop_wsPairs L hL x h, Res.bind, mkWS_restoredWS]

/-- the five fields `__post_init__` rebuilds hold tagged sets -/
def Tagged5 (x : WS N B D R) : Prop :=
  (∀ c, x.vkeys = some c → ∃ xs, c = .oset true xs) ∧ (∀ c, x.native = some c → ∃ xs, c = .oset true xs) ∧
  (∀ c, x.v1 = some c → ∃ xs, c = .oset true xs) ∧ (∀ c, x.v2 = some c → ∃ xs, c = .oset true xs) ∧
  (∀ c, x.v3 = some c → ∃ xs, c = .oset true xs)

def CollDistinct {α κ : Type} (key : α → κ) (c : Coll α) : Prop := (c.elems.map key).Nodup

/-- no set holds two elements that are written alike (an `OrderedSet` never does, except two vkey witnesses that
differ in the type / description of their key only) -/
structure WSDistinct (L : Leaves N B D R) (x : WS N B D R) : Prop where
  vkeys : ∀ c, x.vkeys = some c → CollDistinct (fun w => vkwKey (decodedVKW w)) c
  native : ∀ c, x.native = some c → CollDistinct (leafKey L.native) c
  bootstrap : ∀ t xs, x.bootstrap = some (.oset t xs) → CollDistinct (leafKey L.bootstrap) (.oset t xs)
  v1 : ∀ c, x.v1 = some c → CollDistinct id c
  datums : ∀ t xs, x.datums = some (.oset t xs) → CollDistinct (leafKey L.datum) (.oset t xs)
  v2 : ∀ c, x.v2 = some c → CollDistinct id c
  v3 : ∀ c, x.v3 = some c → CollDistinct id c

theorem optPair_map_congr {α : Type} (k : Nat) (f : α → Item) (g : α → α) (o : Option α)
    (h : ∀ c, o = some c → f (g c) = f c) : optPair k f (o.map g) = optPair k f o := by
  cases o with
  | none => rfl
  | some c => simp only [Option.map, optPair, h c rfl]

theorem collItem_decodedNE {α κ : Type} [DecidableEq κ] (enc : α → Item) (key : α → κ) (nf : α → α) (c : Coll α)
    (ht : ∃ xs, c = .oset true xs) (hd : CollDistinct (fun w => key (nf w)) c) (he : ∀ x, enc (nf x) = enc x) :
    collItem enc (decodedNE key nf c) = collItem enc c := by
  obtain ⟨xs, rfl⟩ := ht
  have hn : ((xs.map nf).map key).Nodup := by
    rw [List.map_map]; exact hd
  have hm : (xs.map nf).map enc = xs.map enc := by
    rw [List.map_map]; exact List.map_congr_left (fun x _ => he x)
  simp only [decodedNE, Coll.elems, dedupBy_of_nodup key _ hn, collItem, if_true, hm]

theorem collItem_decodedPlain {α κ : Type} [DecidableEq κ] (enc : α → Item) (key : α → κ) (c : Coll α)
    (hd : ∀ xs, c = .oset true xs → (xs.map key).Nodup) : collItem enc (decodedPlain key c) = collItem enc c := by
  cases c with
  | list xs => rfl
  | oset t xs =>
    cases t with
    | false => rfl
    | true => rw [decodedPlain, dedupBy_of_nodup key xs (hd xs rfl)]

/-- a tagged set in `bootstrap_witness` / `plutus_data` holds no element twice (it is an `OrderedSet`) -/
def PlainSetsDistinct (L : Leaves N B D R) (x : WS N B D R) : Prop :=
  (∀ xs, x.bootstrap = some (.oset true xs) → (xs.map (leafKey L.bootstrap)).Nodup) ∧
  (∀ xs, x.datums = some (.oset true xs) → (xs.map (leafKey L.datum)).Nodup)

/-- re-encoding field by field: each of the five rebuilt sets is written back as it was, and a tagged set in the two
other set-valued fields holds no element twice -/
theorem wsItem_decodedWS_of (L : Leaves N B D R) (x : WS N B D R)
    (h0 : ∀ c, x.vkeys = some c → collItem vkwItem (decodedNE vkwKey decodedVKW c) = collItem vkwItem c)
    (h1 : ∀ c, x.native = some c → collItem L.native.enc (decodedNE (leafKey L.native) id c) = collItem L.native.enc c)
    (h3 : ∀ c, x.v1 = some c → collItem (fun b => Item.bytes b) (decodedNE id id c) = collItem (fun b => Item.bytes b) c)
    (h6 : ∀ c, x.v2 = some c → collItem (fun b => Item.bytes b) (decodedNE id id c) = collItem (fun b => Item.bytes b) c)
    (h7 : ∀ c, x.v3 = some c → collItem (fun b => Item.bytes b) (decodedNE id id c) = collItem (fun b => Item.bytes b) c)
    (hd : PlainSetsDistinct L x) : wsItem L (decodedWS L x) = wsItem L x := by
  simp only [wsItem, decodedWS, optPair_map_congr _ _ _ _ h0, optPair_map_congr _ _ _ _ h1, optPair_map_congr _ _ _ _ h3,
    optPair_map_congr _ _ _ _ h6, optPair_map_congr _ _ _ _ h7,
    optPair_map_congr 2 _ _ x.bootstrap fun c hc => collItem_decodedPlain _ _ c fun xs e => hd.1 xs (e ▸ hc),
    optPair_map_congr 4 _ _ x.datums fun c hc => collItem_decodedPlain _ _ c fun xs e => hd.2 xs (e ▸ hc),
    optPair_map_congr 5 _ _ x.redeemers fun r _ => redeemersItem_decoded L.rdata r]

theorem map_toNE_tagged {α κ : Type} [DecidableEq κ] (key : α → κ) (o : Option (Coll α)) (c : Coll α)
    (h : o.map (toNE key) = some c) : ∃ xs, c = .oset true xs := by
  cases o with
  | none => simp at h
  | some c' =>
    simp only [Option.map, Option.some.injEq] at h
    exact ⟨_, h.symm⟩

theorem toNE_idem {α κ : Type} [DecidableEq κ] (key : α → κ) (c : Coll α) : toNE key (toNE key c) = toNE key c := by
  simp only [toNE, Coll.elems, dedupBy_idem]

theorem map_toNE_idem {α κ : Type} [DecidableEq κ] (key : α → κ) (o : Option (Coll α)) :
    (o.map (toNE key)).map (toNE key) = o.map (toNE key) := by
  cases o with
  | none => rfl
  | some c => simp only [Option.map, toNE_idem]

theorem map_toNE_decodedNE {α κ : Type} [DecidableEq κ] (key : α → κ) (nf : α → α) (o : Option (Coll α)) :
    (o.map (decodedNE key nf)).map (toNE key) = o.map (decodedNE key nf) := by
  cases o with
  | none => rfl
  | some c => simp only [Option.map, toNE, decodedNE, Coll.elems, dedupBy_idem]

theorem mkWS_tagged5 (L : Leaves N B D R) (a : WS N B D R) : Tagged5 (mkWS L a) := by
  exact ⟨fun c h => map_toNE_tagged _ _ c h, fun c h => map_toNE_tagged _ _ c h, fun c h => map_toNE_tagged _ _ c h,
    fun c h => map_toNE_tagged _ _ c h, fun c h => map_toNE_tagged _ _ c h⟩

/-! ## constructed witnesses hold the plain key: the round trip returns the object itself -/

/-- the key is what the decoder builds: a `VerificationKey` with the default envelope -/
def VKW.Plain (w : VKW) : Prop := w.vkey = mkKey .verification w.vkey.payload

theorem decodedVKW_of_plain (w : VKW) (h : w.Plain) : decodedVKW w = w := by
  cases w with
  | mk vkey sig =>
    simp only [VKW.Plain] at h
    simp only [decodedVKW]
    rw [← h]

/-- **every constructed witness that `validate` accepts holds the plain key** — whatever class (`VerificationKey`,
payment / stake / pool, extended or not) and envelope the key was handed over with -/
theorem mkVKW_plain (k : KeyObj) (s : Prim) (h : vkwValid (mkVKW k s) = true) : (mkVKW k s).Plain := by
  unfold VKW.Plain
  by_cases h1 : k.cls.isExtVerification = true
  · simp only [mkVKW, h1, if_true]; rfl
  · by_cases h2 : k.cls.isVerification = true
    · simp only [mkVKW, h1, h2, if_true]; rfl
    · simp only [vkwValid, mkVKW, h1, h2, Bool.and_eq_true, Bool.or_eq_true] at h
      rcases h.1 with h | h
      · exact absurd h h2
      · exact absurd h h1

theorem valid_canon (w : VKW) (h : vkwValid w = true) : w.sig.Canon := by
  simp only [vkwValid, Bool.and_eq_true] at h
  cases hs : w.sig with
  | int i => trivial
  | bytes b => trivial
  | other x => rw [hs] at h; simp [Prim.isBytes] at h

theorem vkwKey_decodedVKW_of_plain (w : VKW) (h : w.Plain) : vkwKey (decodedVKW w) = vkwKey w := by
  rw [decodedVKW_of_plain w h]

/-- `list == OrderedSet` / `OrderedSet.__eq__`: the same elements in the same order -/
def Coll.sameElems {α : Type} (a b : Coll α) : Prop := a.elems = b.elems

/-- `==` of the `redeemer` field: lists element by element, `RedeemerMap`s as dicts (same entries, keys distinct) -/
def Redeemers.pyEq : Redeemers R → Redeemers R → Prop
  | .list a, .list b => a = b
  | .map a, .map b => a.Perm b
  | _, _ => False

def optRel {α : Type} (r : α → α → Prop) : Option α → Option α → Prop
  | Option.none, Option.none => True
  | some a, some b => r a b
  | _, _ => False

/-- `dataclass.__eq__` of two witness sets, field by field (the five rebuilt fields: the very same sets) -/
structure WS.PyEq (y x : WS N B D R) : Prop where
  vkeys : y.vkeys = x.vkeys
  native : y.native = x.native
  bootstrap : optRel Coll.sameElems y.bootstrap x.bootstrap
  v1 : y.v1 = x.v1
  datums : optRel Coll.sameElems y.datums x.datums
  redeemers : optRel Redeemers.pyEq y.redeemers x.redeemers
  v2 : y.v2 = x.v2
  v3 : y.v3 = x.v3

theorem map_decodedNE_toNE {α κ : Type} [DecidableEq κ] (key : α → κ) (nf : α → α) (o : Option (Coll α))
    (h : ∀ c, o = some c → ∀ x ∈ dedupBy key c.elems, nf x = x) :
    (o.map (toNE key)).map (decodedNE key nf) = o.map (toNE key) := by
  cases o with
  | none => rfl
  | some c =>
    have hm : (dedupBy key c.elems).map nf = dedupBy key c.elems := by
      conv => rhs; rw [← List.map_id (dedupBy key c.elems)]
      exact List.map_congr_left (fun x hx => h c rfl x hx)
    show some (Coll.oset true (dedupBy key ((dedupBy key c.elems).map nf))) = some (Coll.oset true (dedupBy key c.elems))
    rw [hm, dedupBy_idem]

theorem optRel_decodedPlain {α κ : Type} [DecidableEq κ] (key : α → κ) (o : Option (Coll α))
    (h : ∀ xs, o = some (.oset true xs) → (xs.map key).Nodup) :
    optRel Coll.sameElems (o.map (decodedPlain key)) o := by
  cases o with
  | none => trivial
  | some c =>
    cases c with
    | list xs => simp [Option.map, optRel, decodedPlain, Coll.sameElems]
    | oset t xs =>
      cases t with
      | false => simp [Option.map, optRel, decodedPlain, Coll.sameElems, Coll.elems]
      | true => simp [Option.map, optRel, decodedPlain, Coll.sameElems, Coll.elems, dedupBy_of_nodup key xs (h xs rfl)]

theorem optRel_decodedRedeemers (o : Option (Redeemers R)) : optRel Redeemers.pyEq (o.map decodedRedeemers) o := by
  cases o with
  | none => trivial
  | some r =>
    cases r with
    | list rs => simp [Option.map, optRel, decodedRedeemers, Redeemers.pyEq]
    | map m => simp only [Option.map, optRel, decodedRedeemers, Redeemers.pyEq]; exact rmapSorted_perm m

/-- what decoding the encoding of a CONSTRUCTED witness set returns is `==` the witness set -/
theorem decodedWS_pyEq (L : Leaves N B D R) (a : WS N B D R)
    (hv : ∀ c, (mkWS L a).vkeys = some c → ∀ w ∈ c.elems, w.Plain) (hd : PlainSetsDistinct L (mkWS L a)) :
    WS.PyEq (decodedWS L (mkWS L a)) (mkWS L a) := by
  have id_fix {α κ : Type} [DecidableEq κ] (key : α → κ) (o : Option (Coll α)) :
      (o.map (toNE key)).map (decodedNE key id) = o.map (toNE key) :=
    map_decodedNE_toNE key id o fun _ _ _ _ => rfl
  refine ⟨map_decodedNE_toNE vkwKey decodedVKW a.vkeys fun c hc x hx => ?_, id_fix _ _, optRel_decodedPlain _ _ hd.1,
    id_fix _ _, optRel_decodedPlain _ _ hd.2, optRel_decodedRedeemers _, id_fix _ _, id_fix _ _⟩
  exact decodedVKW_of_plain x (hv (toNE vkwKey c) (congrArg (Option.map (toNE vkwKey)) hc) x hx)

/-! ## conformance to the CDDL (`Spec/WitnessCodec.lean`) -/

namespace Conf
open Pyc.Spec.WitnessCodec

def specTag : RTag → RedeemerTag
  | .spend => .spend | .mint => .mint | .cert => .cert | .reward => .reward | .voting => .voting | .proposing => .proposing

def absColl {α β : Type} (f : α → β) : Coll α → SetForm × List β
  | .list xs => (.bare, xs.map f)
  | .oset t xs => (if t then .tagged else .bare, xs.map f)

def absVKW (w : VKW) : VKeyWitness := ⟨w.vkey.payload, match w.sig with | .bytes b => b | _ => []⟩

def absEntry (L : Leaf R) (t : RTag) (i : Int) (d : R) (e : ExUnits) : RedeemerEntry :=
  ⟨specTag t, i.toNat, L.enc d, ⟨e.mem.toNat, e.steps.toNat⟩⟩

def absRedeemer (L : Leaf R) (r : Redeemer R) : RedeemerEntry :=
  absEntry L (r.tag.getD .spend) (match r.index with | .int i => i | _ => 0) r.data (r.exUnits.getD ⟨0, 0⟩)

def absRedeemers (L : Leaf R) : Redeemers R → RedeemersForm × List RedeemerEntry
  | .list rs => (.array, rs.map (absRedeemer L))
  | .map m => (.map, (rmapSorted m).map (fun p => absEntry L p.1.tag p.1.index p.2.data p.2.exUnits))

def absWS (L : Leaves N B D R) (x : WS N B D R) : WitnessSet :=
  { vkeys := x.vkeys.map (absColl absVKW)
    native := x.native.map (absColl L.native.enc)
    bootstrap := x.bootstrap.map (absColl L.bootstrap.enc)
    v1 := x.v1.map (absColl id)
    data := x.datums.map (absColl L.datum.enc)
    redeemers := x.redeemers.map (absRedeemers L.rdata)
    v2 := x.v2.map (absColl id)
    v3 := x.v3.map (absColl id) }

def ExCddl (e : ExUnits) : Prop := 0 ≤ e.mem ∧ e.mem < 2 ^ 64 ∧ 0 ≤ e.steps ∧ e.steps < 2 ^ 64

/-- a redeemer of the list form with the content the CDDL names: a tag, `index : uint .size 4`, execution units in
`uint` -/
def RedeemerCddl (r : Redeemer R) : Prop :=
  r.tag.isSome = true ∧ (∃ i : Int, r.index = .int i ∧ 0 ≤ i ∧ i < 2 ^ 32) ∧ ∃ e, r.exUnits = some e ∧ ExCddl e

def RedeemersCddl : Redeemers R → Prop
  | .list rs => rs ≠ [] ∧ ∀ r ∈ rs, RedeemerCddl r
  | .map m => m ≠ [] ∧ ∀ p ∈ m, (0 ≤ p.1.index ∧ p.1.index < 2 ^ 32) ∧ ExCddl p.2.exUnits

/-- the content is within the CDDL: sets not empty, 32-byte keys, 64-byte signatures, indices and execution units in
range -/
structure WSCddl (x : WS N B D R) : Prop where
  vkeys : ∀ c, x.vkeys = some c → c.elems ≠ [] ∧ ∀ w ∈ c.elems, w.vkey.payload.length = 32 ∧ ∃ s, w.sig = .bytes s ∧ s.length = 64
  native : ∀ c, x.native = some c → c.elems ≠ []
  bootstrap : ∀ c, x.bootstrap = some c → c.elems ≠ []
  v1 : ∀ c, x.v1 = some c → c.elems ≠ []
  datums : ∀ c, x.datums = some c → c.elems ≠ []
  redeemers : ∀ r, x.redeemers = some r → RedeemersCddl r
  v2 : ∀ c, x.v2 = some c → c.elems ≠ []
  v3 : ∀ c, x.v3 = some c → c.elems ≠ []

theorem vkwItem_spec (w : VKW) (s : Bytes) (h : w.sig = .bytes s) : vkwItem w = vkeywitness (absVKW w) := by
  obtain ⟨k, sg⟩ := w
  simp only at h
  subst h
  rfl

theorem exItem_spec (e : ExUnits) (h : ExCddl e) : exItem e = exUnits ⟨e.mem.toNat, e.steps.toNat⟩ := by
  obtain ⟨h1, h2, h3, h4⟩ := h
  simp only [exItem, exUnits, Ids.ofInt_nonneg _ h1 h2, Ids.ofInt_nonneg _ h3 h4]

theorem tag_spec (t : RTag) : Item.uint t.code = redeemerTag (specTag t) := by
  cases t <;> rfl

theorem two32_lt : (2 : Int) ^ 32 < 2 ^ 64 := by decide

theorem redeemerItem_spec (L : Leaf R) (r : Redeemer R) (h : RedeemerCddl r) :
    redeemerItem L r = redeemerArrayEntry (absRedeemer L r) := by
  obtain ⟨tg, ix, d, ex⟩ := r
  obtain ⟨h1, ⟨i, hi, hi0, hi1⟩, ⟨e, he, hex⟩⟩ := h
  simp only at h1 hi he
  obtain ⟨t, ht⟩ := Option.isSome_iff_exists.1 h1
  subst ht hi he
  have hi2 : i < 2 ^ 64 := Int.lt_trans hi1 two32_lt
  simp only [redeemerItem, redeemerArrayEntry, absRedeemer, absEntry, Option.getD, Prim.toItem, tag_spec,
    Ids.ofInt_nonneg i hi0 hi2, exItem_spec e hex]

theorem redeemersItem_spec (L : Leaf R) (rs : Redeemers R) (h : RedeemersCddl rs) :
    redeemersItem L rs = redeemers (absRedeemers L rs).1 (absRedeemers L rs).2 := by
  cases rs with
  | list rs =>
    obtain ⟨_, h2⟩ := h
    simp only [redeemersItem, absRedeemers, redeemers, List.map_map]
    congr 1
    exact List.map_congr_left (fun r hr => redeemerItem_spec L r (h2 r hr))
  | map m =>
    obtain ⟨_, h2⟩ := h
    have h1 : redeemersItem L (.map m) = .map (sortPairs (m.map (fun p => (rkeyItem p.1, rvalueItem L p.2)))) := rfl
    rw [h1, sortPairs_rmap]
    simp only [absRedeemers, redeemers, List.map_map]
    congr 1
    apply List.map_congr_left
    intro p hp
    have hp' : p ∈ m := (rmapSorted_perm m).mem_iff.1 hp
    obtain ⟨⟨hi0, hi1⟩, hex⟩ := h2 p hp'
    have hi2 : p.1.index < 2 ^ 64 := Int.lt_trans hi1 two32_lt
    simp only [Function.comp, rkeyItem, rvalueItem, redeemerMapEntry, absEntry, tag_spec,
      Ids.ofInt_nonneg _ hi0 hi2, exItem_spec _ hex]

theorem collItem_spec {α β : Type} (enc : α → Item) (f : α → β) (g : β → Item) (c : Coll α)
    (h : ∀ x ∈ c.elems, enc x = g (f x)) :
    collItem enc c = nonemptySet (absColl f c).1 ((absColl f c).2.map g) := by
  cases c with
  | list xs =>
    simp only [collItem, absColl, nonemptySet, List.map_map]
    congr 1
    exact List.map_congr_left (fun x hx => h x hx)
  | oset t xs =>
    cases t with
    | false =>
      simp only [collItem, absColl, nonemptySet, List.map_map, Bool.false_eq_true, if_false]
      congr 1
      exact List.map_congr_left (fun x hx => h x hx)
    | true =>
      simp only [collItem, absColl, nonemptySet, List.map_map, if_true]
      congr 2
      exact List.map_congr_left (fun x hx => h x hx)

theorem filterMap_struct_cons (k : Nat) (v : Option Item) (t : List (Nat × Option Item)) :
    ((k, v) :: t).filterMap (fun e => e.2.map (fun v => (Item.uint e.1, v))) =
      optPair k id v ++ t.filterMap (fun e => e.2.map (fun v => (Item.uint e.1, v))) := by
  cases v with
  | none => rfl
  | some v => rfl

theorem optPair_setOf {α β : Type} (k : Nat) (enc : α → Item) (f : α → β) (g : β → Item) (o : Option (Coll α))
    (h : ∀ c, o = some c → ∀ x ∈ c.elems, enc x = g (f x)) :
    optPair k id (setOf g (o.map (absColl f))) = optPair k (collItem enc) o := by
  cases o with
  | none => rfl
  | some c => simp only [Option.map, setOf, optPair, id, collItem_spec enc f g c (h c rfl)]

theorem optPair_redeemers (L : Leaf R) (k : Nat) (o : Option (Redeemers R)) (h : ∀ r, o = some r → RedeemersCddl r) :
    optPair k id ((o.map (absRedeemers L)).map (fun p => redeemers p.1 p.2)) = optPair k (redeemersItem L) o := by
  cases o with
  | none => rfl
  | some r => simp only [Option.map, optPair, id, redeemersItem_spec L r (h r rfl)]

theorem wsItem_spec (L : Leaves N B D R) (x : WS N B D R) (h : WSCddl x) :
    wsItem L x = transactionWitnessSet (absWS L x) := by
  have vk := optPair_setOf 0 vkwItem absVKW vkeywitness x.vkeys fun c hc w hw =>
    have ⟨_, s, hs, _⟩ := (h.vkeys c hc).2 w hw
    vkwItem_spec w s hs
  have leaf {α : Type} (k : Nat) (F : Leaf α) (o : Option (Coll α)) := optPair_setOf k F.enc F.enc id o fun _ _ _ _ => rfl
  have script (k : Nat) (o : Option (Coll Bytes)) :=
    optPair_setOf k (fun b => Item.bytes b) id Item.bytes o fun _ _ _ _ => rfl
  simp only [transactionWitnessSet, structMap, absWS, filterMap_struct_cons, List.filterMap_nil, List.append_nil, vk, leaf,
    script, optPair_redeemers L.rdata 5 x.redeemers h.redeemers, wsItem, List.append_assoc]

theorem absColl_snd {α β : Type} (f : α → β) (c : Coll α) : (absColl f c).2 = c.elems.map f := by
  cases c <;> rfl

theorem absColl_ne_nil {α β : Type} (f : α → β) (o : Option (Coll α)) (h : ∀ c, o = some c → c.elems ≠ [])
    (p : SetForm × List β) (hp : o.map (absColl f) = some p) : p.2 ≠ [] := by
  obtain ⟨c, hc, rfl⟩ := Option.map_eq_some_iff.1 hp
  rw [absColl_snd]
  exact fun e => h c hc (List.map_eq_nil_iff.1 e)

theorem toNat_lt_two_pow {i : Int} {k : Nat} (h0 : 0 ≤ i) (h1 : i < 2 ^ k) : i.toNat < 2 ^ k :=
  (Int.toNat_lt h0).2 (by rw [Int.natCast_pow]; exact h1)

theorem exUnits_ok (e : ExUnits) (h : ExCddl e) : e.mem.toNat < 2 ^ 64 ∧ e.steps.toNat < 2 ^ 64 :=
  ⟨toNat_lt_two_pow h.1 h.2.1, toNat_lt_two_pow h.2.2.1 h.2.2.2⟩

theorem absWS_ok (L : Leaves N B D R) (x : WS N B D R) (h : WSCddl x) : (absWS L x).Ok := by
  refine ⟨?_, absColl_ne_nil _ _ h.native, absColl_ne_nil _ _ h.bootstrap, absColl_ne_nil _ _ h.v1,
    absColl_ne_nil _ _ h.datums, ?_, absColl_ne_nil _ _ h.v2, absColl_ne_nil _ _ h.v3⟩
  · intro p hp
    refine ⟨absColl_ne_nil _ _ (fun c hc => (h.vkeys c hc).1) p hp, ?_⟩
    obtain ⟨c, hc, rfl⟩ := Option.map_eq_some_iff.1 hp
    rw [absColl_snd]
    intro w hw
    obtain ⟨v, hv, rfl⟩ := List.mem_map.1 hw
    obtain ⟨hl, s, hs, hsl⟩ := (h.vkeys c hc).2 v hv
    exact ⟨hl, by rw [absVKW, hs]; exact hsl⟩
  · intro p hp
    obtain ⟨r, hr, rfl⟩ := Option.map_eq_some_iff.1 hp
    cases r with
    | list rs =>
      obtain ⟨hne, hall⟩ := h.redeemers _ hr
      refine ⟨fun e => hne (List.map_eq_nil_iff.1 e), ?_⟩
      intro q hq
      obtain ⟨r, hr, rfl⟩ := List.mem_map.1 hq
      obtain ⟨_, ⟨i, hi, hi0, hi1⟩, ⟨e, he, hex⟩⟩ := hall r hr
      simp only [absRedeemer, absEntry, hi, he, Option.getD]
      exact ⟨toNat_lt_two_pow hi0 hi1, exUnits_ok e hex⟩
    | map m =>
      obtain ⟨hne, hall⟩ := h.redeemers _ hr
      refine ⟨fun e => hne (List.Perm.eq_nil (List.map_eq_nil_iff.1 e ▸ (rmapSorted_perm m).symm)), ?_⟩
      intro q hq
      obtain ⟨p, hp, rfl⟩ := List.mem_map.1 hq
      obtain ⟨⟨hi0, hi1⟩, hex⟩ := hall p ((rmapSorted_perm m).mem_iff.1 hp)
      exact ⟨toNat_lt_two_pow hi0 hi1, exUnits_ok _ hex⟩

theorem optPair_keys_sublist {α : Type} (k : Nat) (f : α → Item) (o : Option α) :
    ((optPair k f o).map (·.1)).Sublist [Item.uint k] := by
  cases o with
  | none => exact List.nil_sublist _
  | some _ => exact List.Sublist.refl _

/-- the keys of the struct map are a sublist of 0 … 7: written in strictly ascending order -/
theorem wsPairs_ascending (L : Leaves N B D R) (x : WS N B D R) :
    ∃ ks : List Nat, (wsPairs L x).map (·.1) = ks.map Item.uint ∧ ks.Pairwise (· < ·) := by
  have hs : ((wsPairs L x).map (·.1)).Sublist ([0, 1, 2, 3, 4, 5, 6, 7].map Item.uint) := by
    simp only [wsPairs, List.map_append]
    exact (((((((optPair_keys_sublist 0 _ _).append (optPair_keys_sublist 1 _ _)).append
      (optPair_keys_sublist 2 _ _)).append (optPair_keys_sublist 3 _ _)).append (optPair_keys_sublist 4 _ _)).append
      (optPair_keys_sublist 5 _ _)).append (optPair_keys_sublist 6 _ _)).append (optPair_keys_sublist 7 _ _)
  obtain ⟨ks, hks, e⟩ := List.sublist_map_iff.1 hs
  exact ⟨ks, e, List.Pairwise.sublist hks (by decide)⟩

end Conf

end Pyc.WitnessCodec
