import Pyc.Model.Cip8
import Pyc.Proofs.Cbor

/-! Lemmas for C19: parse ∘ render on the COSE_Sign1 envelope, the protected header and the COSE_Key (from
`Cbor.decode_encode`), injectivity of the encodings that enter `Sig_structure`, the address round trip for the two
address kinds `sign` embeds. -/


namespace Pyc.Cip8
open Pyc.Cbor

/-! ## CBOR: `loads` reads back the first item -/

/-- `parseFuel` suffices for every item: its depth is at most twice the length of its encoding (`depth_le`) -/
theorem loads_trailing (x : Item) (rest : Bytes) (hw : WF x) : loads (encode x ++ rest) = some x := by
  unfold loads
  rw [decode_encode x rest _ (by have := (depth_le x).1; simp only [parseFuel, List.length_append]; omega) hw]

theorem loads_encode (x : Item) (hw : WF x) : loads (encode x) = some x := by
  simpa using loads_trailing x [] hw

/-! ## protected header -/

def HdrEntry.Sized : HdrEntry → Prop
  | .alg => True
  | .address a => a.length < 2^64
  | .kid v => v.length < 2^64

def EntriesSized (es : List HdrEntry) : Prop := ∀ e ∈ es, e.Sized

theorem entryOf_toItem (e : HdrEntry) : entryOf e.toItem = some e := by
  cases e <;> simp [entryOf, HdrEntry.toItem, asBytes]

theorem parseEntries_toItem (es : List HdrEntry) : parseEntries (es.map HdrEntry.toItem) = some es := by
  induction es with
  | nil => rfl
  | cons e r ih => simp [parseEntries, entryOf_toItem, ih]

/-- injective, because `parseEntries` is a left inverse -/
theorem map_toItem_inj (xs ys : List HdrEntry) (h : xs.map HdrEntry.toItem = ys.map HdrEntry.toItem) : xs = ys := by
  have := parseEntries_toItem xs
  rw [h, parseEntries_toItem] at this
  exact (Option.some.inj this).symm

theorem wfPairs_toItem (es : List HdrEntry) (hs : EntriesSized es) : WFPairs (es.map HdrEntry.toItem) := by
  induction es with
  | nil => simp [WFPairs]
  | cons e r ih =>
    have he : e.Sized := hs e (by simp)
    have hr : EntriesSized r := fun x hx => hs x (by simp [hx])
    cases e with
    | alg => simp [HdrEntry.toItem, WFPairs, WF, ih hr]
    | address a => simp only [HdrEntry.Sized] at he; simp [HdrEntry.toItem, WFPairs, WF, ih hr, he, lblAddress]
    | kid v => simp only [HdrEntry.Sized] at he; simp [HdrEntry.toItem, WFPairs, WF, ih hr, he]

theorem wf_header (es : List HdrEntry) (hs : EntriesSized es) (hl : es.length < 2^64) :
    WF (.map (es.map HdrEntry.toItem)) := by
  simp only [WF, List.length_map]
  exact ⟨hl, wfPairs_toItem es hs⟩

theorem encodeHeader_inj (xs ys : List HdrEntry) (hx : EntriesSized xs) (hy : EntriesSized ys)
    (lx : xs.length < 2^64) (ly : ys.length < 2^64) (h : encodeHeader xs = encodeHeader ys) : xs = ys := by
  have := encode_inj (wf_header xs hx lx) (wf_header ys hy ly) h
  simp only [Item.map.injEq] at this
  exact map_toItem_inj xs ys this

theorem labelsDistinct_iff_nodup (l : List Nat) : labelsDistinct l = true ↔ l.Nodup := by
  induction l with
  | nil => simp [labelsDistinct]
  | cons x r ih => simp [labelsDistinct, List.nodup_cons, ih]

/-- pigeonhole: distinct labels below `n` are at most `n` -/
theorem labelsDistinct_length_le {l : List Nat} {n : Nat} (hd : labelsDistinct l = true) (hl : ∀ x ∈ l, x < n) :
    l.length ≤ n := by
  have := ((labelsDistinct_iff_nodup l).1 hd).length_le_of_subset (l₂ := List.range n)
    fun x hx => List.mem_range.2 (hl x hx)
  rwa [List.length_range] at this

theorem distinct_length_le (es : List HdrEntry) (h : labelsDistinct (es.map HdrEntry.labelId) = true) :
    es.length ≤ 3 := by
  rw [← List.length_map (f := HdrEntry.labelId)]
  refine labelsDistinct_length_le h fun x hx => ?_
  obtain ⟨e, _, rfl⟩ := List.mem_map.1 hx
  cases e <;> simp [HdrEntry.labelId]

theorem parseHeader_encodeHeader (es : List HdrEntry) (hs : EntriesSized es)
    (hd : labelsDistinct (es.map HdrEntry.labelId) = true) : parseHeader (encodeHeader es) = some es := by
  have hl := distinct_length_le es hd
  unfold parseHeader encodeHeader
  rw [loads_encode _ (wf_header es hs (by omega))]
  simp [parseEntries_toItem, hd]

theorem parseHeader_distinct (pb : Bytes) (es : List HdrEntry) (h : parseHeader pb = some es) :
    labelsDistinct (es.map HdrEntry.labelId) = true := by
  unfold parseHeader at h
  split at h
  · split at h
    · split at h
      · simp only [Option.some.injEq] at h; subst h; assumption
      · simp at h
    · simp at h
  · simp at h

/-! ## envelope, COSE key -/

theorem wf_unprotected : WF unprotected := by
  simp [unprotected, WF, WFPairs, lblHashed]

/-- `cbor2.loads` ignores what follows the COSE_Sign1 array -/
theorem parseEnvelope_render_trailing (es : List HdrEntry) (payload sig rest : Bytes)
    (hph : (encodeHeader es).length < 2^64) (hp : payload.length < 2^64) (hsg : sig.length < 2^64) :
    parseEnvelope (render es payload sig ++ rest) = some (encodeHeader es, unprotected, payload, sig) := by
  unfold parseEnvelope render
  rw [loads_trailing]
  · simp [arrayElems, asBytes]
  · simp [WF, WFList, wf_unprotected, hph, hp, hsg]

theorem parseEnvelope_render (es : List HdrEntry) (payload sig : Bytes) (hph : (encodeHeader es).length < 2^64)
    (hp : payload.length < 2^64) (hsg : sig.length < 2^64) :
    parseEnvelope (render es payload sig) = some (encodeHeader es, unprotected, payload, sig) := by
  simpa using parseEnvelope_render_trailing es payload sig [] hph hp hsg

theorem plan_trailing (es : List HdrEntry) (payload sig rest : Bytes) (key : Option Bytes)
    (hph : (encodeHeader es).length < 2^64) (hp : payload.length < 2^64) (hsg : sig.length < 2^64) :
    plan ⟨render es payload sig ++ rest, key⟩ = plan ⟨render es payload sig, key⟩ := by
  simp only [plan, parseEnvelope_render_trailing es payload sig rest hph hp hsg,
    parseEnvelope_render es payload sig hph hp hsg]

theorem coseKeyX_encode (vk : Bytes) (hvk : vk.length < 2^64) (hne : vk ≠ []) :
    coseKeyX (encode (coseKeyItem vk)) = some vk := by
  unfold coseKeyX coseKeyItem
  rw [loads_encode]
  · cases vk with
    | nil => exact absurd rfl hne
    | cons b t =>
      simp [parseCkEntries, ckEntryOf, asBytes, labelsDistinct, CkEntry.labelId, findX]
  · simp [WF, WFPairs, hvk]

/-! ## the address `sign` embeds -/

theorem addressBytes_signer (role : Role) (net : Addr.Network) (h : Bytes) :
    addressBytes (signerAddress role net h) =
      Addr.headerByte (match role with | .payment => .keyNone | .stake => .noneKey) net :: h := by
  cases role <;> simp [addressBytes, signerAddress, Addr.toBytes, Addr.inferType, Addr.Part.bytes]

theorem addressBytes_length (role : Role) (net : Addr.Network) (h : Bytes) (hh : h.length = 28) :
    (addressBytes (signerAddress role net h)).length = 29 := by
  rw [addressBytes_signer]; simp [hh]

theorem fromBytes_signer (role : Role) (net : Addr.Network) (h : Bytes) (hh : h.length = 28) :
    Addr.fromBytes (addressBytes (signerAddress role net h)) = .ok (signerAddress role net h) := by
  rw [addressBytes_signer]
  cases role <;> cases net <;>
    simp [Addr.fromBytes, Addr.headerByte, Addr.AddressType.value, Addr.Network.value, Addr.AddressType.ofValue,
      Addr.Network.ofValue, Addr.mkVkh, hh, signerAddress] <;> rfl

theorem credentialOf_signer (role : Role) (net : Addr.Network) (h : Bytes) :
    credentialOf (signerAddress role net h) = some h := by
  cases role <;> simp [credentialOf, signerAddress, partPayload]

/-! ## plan ∘ render -/

theorem plan_render (es : List HdrEntry) (payload sig : Bytes) (key : Option Bytes) (vk a : Bytes)
    (addr : Addr.Address)
    (hs : EntriesSized es) (hd : labelsDistinct (es.map HdrEntry.labelId) = true)
    (hph : (encodeHeader es).length < 2^64) (hp : payload.length < 2^64) (hsg : sig.length < 2^64)
    (hu : utf8Valid payload = true)
    (hvk : (match key with
            | none => findKid es
            | some kb => coseKeyX kb) = some vk)
    (ha : findAddress es = some a) (haddr : Addr.fromBytes a = .ok addr)
    (hlen : 32 < vk.length ∨ (hasAlg es = true ∧ vk.length = 32)) :
    plan ⟨render es payload sig, key⟩ = some ⟨es, payload, sig, vk, a, addr⟩ := by
  have hlen' : (decide (32 < vk.length) || (hasAlg es && vk.length == 32)) = true := by
    rcases hlen with h | ⟨h1, h2⟩
    · simp [h]
    · simp [h1, h2]
  have hu' : uhdrOk unprotected = true := by simp [uhdrOk, unprotected]
  unfold plan
  simp only [parseEnvelope_render es payload sig hph hp hsg, parseHeader_encodeHeader es hs hd, hu', hu,
    Bool.and_self, if_true]
  -- the key lookup of `plan` and the one in `hvk` are the same `match` under two names
  cases key <;> (simp only [] at hvk ⊢; simp only [hvk, ha, haddr, hlen', if_true])

theorem plan_spec (w : Signed) (p : Plan) (h : plan w = some p) :
    (∃ pb u, parseEnvelope w.signature = some (pb, u, p.payload, p.sig) ∧ parseHeader pb = some p.entries) ∧
    findAddress p.entries = some p.addrBytes ∧ Addr.fromBytes p.addrBytes = .ok p.address ∧
    (match w.key with
     | none => findKid p.entries
     | some kb => coseKeyX kb) = some p.vk ∧
    utf8Valid p.payload = true ∧
    (32 < p.vk.length ∨ (hasAlg p.entries = true ∧ p.vk.length = 32)) := by
  unfold plan at h
  split at h
  · simp at h
  · rename_i pb u payload sig henv
    split at h
    · simp at h
    · rename_i es hhdr
      split at h
      · rename_i hc
        split at h
        · rename_i vk a hvk ha
          split at h
          · rename_i addr haddr
            split at h
            · rename_i hlen
              simp only [Option.some.injEq] at h
              subst h
              simp only [Bool.and_eq_true] at hc
              simp only [Bool.or_eq_true, Bool.and_eq_true, decide_eq_true_eq, beq_iff_eq] at hlen
              exact ⟨⟨pb, u, henv, hhdr⟩, ha, haddr, hvk, hc.2, hlen⟩
            · simp at h
          · simp at h
        · simp at h
      · simp at h

/-! ## the header `sign` writes, Sig_structure -/

theorem honestEntries_sized (addr vk : Bytes) (attach : Bool) (ha : addr.length < 2^64) (hv : vk.length < 2^64) :
    EntriesSized (honestEntries addr vk attach) := by
  cases attach <;> simp [honestEntries, EntriesSized, HdrEntry.Sized, ha, hv]

theorem honestEntries_distinct (addr vk : Bytes) (attach : Bool) :
    labelsDistinct ((honestEntries addr vk attach).map HdrEntry.labelId) = true := by
  cases attach <;> rfl

theorem findAddress_honest (addr vk : Bytes) (attach : Bool) :
    findAddress (honestEntries addr vk attach) = some addr := by
  cases attach <;> rfl

/-- map head, `1: -8`, `"address"` with its head, the heads of the two byte strings (at most 9 bytes each), `4` -/
theorem encodeHeader_honest_length (addr vk : Bytes) (attach : Bool) :
    (encodeHeader (honestEntries addr vk attach)).length ≤ addr.length + vk.length + 30 := by
  have h1 := head_length_le 2 addr.length
  have h2 := head_length_le 2 vk.length
  cases attach <;>
    simp only [encodeHeader, honestEntries, Bool.false_eq_true, if_true, if_false, List.map_cons, List.map_nil,
      HdrEntry.toItem, encode, encodePairs, lblAddress, List.length_append, List.length_cons, List.length_nil,
      head_length_of_lt, Nat.reduceLT, Nat.reduceAdd] <;> omega

theorem plan_honest (addr vk payload sig : Bytes) (attach : Bool) (a : Addr.Address)
    (haddr : Addr.fromBytes addr = .ok a) (hal : addr.length < 2^32) (hvk : vk.length = 32)
    (hp : payload.length < 2^64) (hu : utf8Valid payload = true) (hsg : sig.length < 2^64) :
    plan ⟨render (honestEntries addr vk attach) payload sig,
        if attach then some (encode (coseKeyItem vk)) else none⟩ =
      some ⟨honestEntries addr vk attach, payload, sig, vk, addr, a⟩ := by
  have hph := encodeHeader_honest_length addr vk attach
  apply plan_render (hs := honestEntries_sized addr vk attach (by omega) (by omega))
    (hd := honestEntries_distinct addr vk attach) (hph := by omega) (hp := hp) (hsg := hsg) (hu := hu)
    (ha := findAddress_honest addr vk attach) (haddr := haddr) (hlen := Or.inr ⟨by cases attach <;> rfl, hvk⟩)
  cases attach with
  | false => rfl
  | true => exact coseKeyX_encode vk (by omega) (List.ne_nil_of_length_pos (by omega))

theorem toBeSigned_length (ph m : Bytes) : (toBeSigned ph m).length ≤ ph.length + m.length + 31 := by
  have h1 := head_length_le 2 ph.length
  have h2 := head_length_le 2 m.length
  simp only [toBeSigned, sigStructure, encode, encodeList, ctxSignature1, List.length_append, List.length_cons,
    List.length_nil, head_length_of_lt, Nat.reduceLT, Nat.reduceAdd]
  omega

theorem toBeSigned_inj (ph m ph' m' : Bytes) (h1 : ph.length < 2^64) (h2 : m.length < 2^64)
    (h1' : ph'.length < 2^64) (h2' : m'.length < 2^64) (h : toBeSigned ph m = toBeSigned ph' m') :
    ph = ph' ∧ m = m' := by
  have wf : ∀ ph m : Bytes, ph.length < 2^64 → m.length < 2^64 → WF (sigStructure ph m) := fun ph m h1 h2 => by
    simp [sigStructure, WF, WFList, ctxSignature1, h1, h2]
  simpa [sigStructure] using encode_inj (wf ph m h1 h2) (wf ph' m' h1' h2') h

end Pyc.Cip8
