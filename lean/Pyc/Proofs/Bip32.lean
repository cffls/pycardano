import Pyc.Model.Bip32
import Pyc.Spec.Bip32Ed25519
import Pyc.Proofs.Basic

/-! # Lemmas for C16 (HD wallet derivation): little-endian arithmetic, `_tweak_bits`, refinement of the byte-level
model of bip32.py to the integer-level BIP32-Ed25519 / CIP-3 specification, public/private agreement, path
invariants, path strings, extended signatures, and a toy instance of the primitives (non-vacuity).

Core Lean only (no Mathlib needed).  Hypotheses about the primitives are the structures `HashLen` and `GroupLaws`,
always passed explicitly. -/

namespace Pyc.Bip32

/-! ## arithmetic of base-256 digits -/

theorem byte_div {x : Nat} (y : Nat) (h : x < 256) : (x + 256 * y) / 256 = y := by
  rw [Nat.add_mul_div_left _ _ (by decide), Nat.div_eq_of_lt h, Nat.zero_add]

theorem byte_mod {x : Nat} (y : Nat) (h : x < 256) : (x + 256 * y) % 256 = x := by
  rw [Nat.add_mul_mod_self_left, Nat.mod_eq_of_lt h]

/-- `low_digit`, `top_digit`: a changed digit in the shape in which `fromLE_set` and `getD_toNat` deliver it -/
theorem low_digit {n n' : Nat} (e : n' + n % 256 = n + n % 256 / 8 * 8) : n' = n / 8 * 8 := by
  omega

theorem top_digit {T n n' : Nat} (lt : n < T * 256)
    (e : n' + n / T % 256 * T = n + (n / T % 256 % 32 + 64) * T) : n' = n % (T * 32) + 64 * T := by
  have h1 := Nat.mod_add_div n T
  rw [Nat.mod_eq_of_lt (Nat.div_lt_of_lt_mul lt)] at e
  rw [Nat.mod_mul]
  generalize n / T % 32 = r at *
  generalize n / T = h at *
  generalize n % T = l at *
  subst h1
  simp only [Nat.add_mul, Nat.mul_comm T] at e ⊢
  omega

theorem length_leBytes (k n : Nat) : (leBytes k n).length = k := by
  induction k generalizing n with
  | zero => rfl
  | succ k ih => simp [leBytes, ih]

theorem fromLE_lt (b : Bytes) : fromLE b < 256 ^ b.length := by
  induction b with
  | nil => simp [fromLE]
  | cons x xs ih =>
    have := x.toNat_lt
    simp only [fromLE, List.length_cons, Nat.pow_succ]
    omega

theorem fromLE_leBytes (k n : Nat) : fromLE (leBytes k n) = n % 256 ^ k := by
  induction k generalizing n with
  | zero => simp [leBytes, fromLE, Nat.mod_one]
  | succ k ih =>
    simp only [leBytes, fromLE, ih, u8_toNat_ofNat _ (Nat.mod_lt n (by decide : 0 < 256))]
    rw [Nat.pow_succ, Nat.mul_comm (256 ^ k) 256, Nat.mod_mul]

theorem fromLE_leBytes_of_lt {k n : Nat} (h : n < 256 ^ k) : fromLE (leBytes k n) = n := by
  rw [fromLE_leBytes, Nat.mod_eq_of_lt h]

theorem leBytes_fromLE (b : Bytes) : leBytes b.length (fromLE b) = b := by
  induction b with
  | nil => rfl
  | cons x xs ih =>
    simp only [List.length_cons, leBytes, fromLE, byte_mod _ x.toNat_lt, byte_div _ x.toNat_lt, ih,
      UInt8.ofNat_toNat]

theorem leBytes_fromLE_of_length {b : Bytes} {k : Nat} (h : b.length = k) : leBytes k (fromLE b) = b :=
  h ▸ leBytes_fromLE b

theorem fromLE_append (a b : Bytes) : fromLE (a ++ b) = fromLE a + 256 ^ a.length * fromLE b := by
  induction a with
  | nil => simp [fromLE]
  | cons x xs ih =>
    simp only [List.cons_append, fromLE, ih, List.length_cons, Nat.pow_succ]
    rw [Nat.mul_add, Nat.mul_comm (256 ^ xs.length) 256, Nat.mul_assoc, Nat.add_assoc]

theorem fromLE_set (l : Bytes) (i : Nat) (v : UInt8) (h : i < l.length) :
    fromLE (l.set i v) + (l.getD i 0).toNat * 256 ^ i = fromLE l + v.toNat * 256 ^ i := by
  induction l generalizing i with
  | nil => simp at h
  | cons x xs ih =>
    cases i with
    | zero => simp only [List.set_cons_zero, fromLE, List.getD_cons_zero, Nat.pow_zero, Nat.mul_one]; omega
    | succ i =>
      simp only [List.set_cons_succ, fromLE, List.getD_cons_succ, Nat.pow_succ]
      rw [Nat.add_assoc, Nat.add_assoc, Nat.mul_comm (256 ^ i) 256, Nat.mul_left_comm _ 256, Nat.mul_left_comm _ 256,
        ← Nat.mul_add, ← Nat.mul_add, ih i (by simpa using h)]

theorem getD_toNat (l : Bytes) (i : Nat) : (l.getD i 0).toNat = fromLE l / 256 ^ i % 256 := by
  induction l generalizing i with
  | nil => simp [fromLE]
  | cons x xs ih =>
    cases i with
    | zero => simp only [List.getD_cons_zero, fromLE, Nat.pow_zero, Nat.div_one, byte_mod _ x.toNat_lt]
    | succ i =>
      simp only [List.getD_cons_succ, ih, fromLE, Nat.pow_succ]
      rw [Nat.mul_comm (256 ^ i) 256, ← Nat.div_div_eq_div_mul, byte_div _ x.toNat_lt]

theorem isZeroBytes_iff (b : Bytes) : isZeroBytes b = true ↔ fromLE b = 0 := by
  induction b with
  | nil => simp [isZeroBytes, fromLE]
  | cons x xs ih =>
    have hx : x = 0 ↔ x.toNat = 0 := by
      constructor
      · intro h; subst h; rfl
      · intro h; exact UInt8.toNat_inj.mp (by simpa using h)
    simp only [isZeroBytes, List.all_cons, Bool.and_eq_true, beq_iff_eq, fromLE] at *
    rw [ih, hx]; omega

theorem toBytesLE_some {k n : Nat} {b : Bytes} (h : toBytesLE k n = some b) :
    n < 256 ^ k ∧ b = leBytes k n ∧ b.length = k ∧ fromLE b = n := by
  unfold toBytesLE at h
  split at h
  · injection h with h; subst h
    refine ⟨‹_›, rfl, length_leBytes _ _, ?_⟩
    rw [fromLE_leBytes, Nat.mod_eq_of_lt ‹_›]
  · contradiction

theorem toBytesLE_of_lt {k n : Nat} (h : n < 256 ^ k) : toBytesLE k n = some (leBytes k n) := by
  simp [toBytesLE, h]

/-! ## `_tweak_bits` -/

theorem tweak_bytes : ∀ n, n < 256 → n &&& 0xF8 = n / 8 * 8 ∧ (n &&& 0x1F) ||| 0x40 = n % 32 + 64 := by
  decide +kernel

theorem getD_take (l : Bytes) {i n : Nat} (h : i < n) : (l.take n).getD i 0 = l.getD i 0 := by
  simp only [List.getD_eq_getElem?_getD, List.getElem?_take_of_lt h]

/-- the three in-place updates of `_tweak_bits` as two -/
theorem tweakBits_eq (seed : Bytes) (h : 32 ≤ seed.length) :
    tweakBits seed = some ((seed.set 0 (seed.getD 0 0 &&& 0xF8)).set 31
      (((seed.set 0 (seed.getD 0 0 &&& 0xF8)).getD 31 0 &&& 0x1F) ||| 0x40)) := by
  have h' : ¬ seed.length < 32 := by omega
  simp only [tweakBits, h', if_false, List.set_set]
  rw [List.getD_eq_getElem?_getD (i := 31), List.getElem?_set_self (by simp only [List.length_set]; omega)]
  rfl

open Spec.Bip32Ed25519 in
theorem fromLE_tweak (a : Bytes) (ha : a.length = 32) :
    fromLE ((a.set 0 (a.getD 0 0 &&& 0xF8)).set 31 (((a.set 0 (a.getD 0 0 &&& 0xF8)).getD 31 0 &&& 0x1F) ||| 0x40))
      = clamp (fromLE a) := by
  have e1 := fromLE_set a 0 (a.getD 0 0 &&& 0xF8) (by omega)
  have l1 : (a.set 0 (a.getD 0 0 &&& 0xF8)).length = 31 + 1 := by rw [List.length_set, ha]
  revert l1
  generalize a.set 0 (a.getD 0 0 &&& 0xF8) = a1 at e1 ⊢
  intro l1
  have e2 := fromLE_set a1 31 ((a1.getD 31 0 &&& 0x1F) ||| 0x40) (by omega)
  have lt := fromLE_lt a1
  rw [UInt8.toNat_and, getD_toNat, show (0xF8 : UInt8).toNat = 0xF8 from rfl,
    (tweak_bytes _ (Nat.mod_lt _ (by decide))).1, Nat.pow_zero, Nat.div_one, Nat.mul_one, Nat.mul_one] at e1
  rw [UInt8.toNat_or, UInt8.toNat_and, getD_toNat, show (0x1F : UInt8).toNat = 0x1F from rfl,
    show (0x40 : UInt8).toNat = 0x40 from rfl, (tweak_bytes _ (Nat.mod_lt _ (by decide))).2] at e2
  rw [l1, Nat.pow_succ] at lt
  rw [top_digit lt e2, low_digit e1, clamp, show (256 : Nat) ^ 31 * 32 = 8 * 2 ^ 250 by decide,
    show (64 : Nat) * 256 ^ 31 = 2 ^ 254 by decide, show (2 : Nat) ^ 253 = 8 * 2 ^ 250 by decide,
    Nat.mod_mul_right_div_self, Nat.mul_comm 8, Nat.mul_mod_mul_right]

theorem tweak_take (seed s : Bytes) (h : tweakBits seed = some s) :
    s.length = seed.length ∧ s.drop 32 = seed.drop 32 ∧
    fromLE (s.take 32) = Spec.Bip32Ed25519.clamp (fromLE (seed.take 32)) := by
  have hl : 32 ≤ seed.length := by
    unfold tweakBits at h; split at h <;> first | contradiction | omega
  rw [tweakBits_eq seed hl] at h
  injection h with h; subst h
  refine ⟨by simp only [List.length_set], ?_, ?_⟩
  · rw [List.drop_set_of_lt (by decide), List.drop_set_of_lt (by decide)]
  · rw [← getD_take seed (by decide : 0 < 32), ← getD_take (seed.set 0 _) (by decide : 31 < 32), List.take_set,
      List.take_set]
    exact fromLE_tweak _ (by rw [List.length_take]; omega)

open Spec.Bip32Ed25519 in
theorem clamp_bits (n : Nat) : IsClampOf (clamp n) n := by
  intro j
  have hm : n % 2 ^ 253 / 8 * 8 < 2 ^ 254 := by omega
  -- bit 254 is set on top of `n` with bits 0-2 and 253.. masked off
  rw [clamp, Nat.add_comm, ← Nat.mul_one (2 ^ 254), Nat.two_pow_add_eq_or_of_lt hm, Nat.mul_one, Nat.testBit_or,
    Nat.testBit_two_pow, show (8 : Nat) = 2 ^ 3 from rfl, Nat.testBit_mul_two_pow, Nat.testBit_div_two_pow,
    Nat.testBit_mod_two_pow]
  by_cases h3 : 3 ≤ j
  · rw [Nat.sub_add_cancel h3, if_neg (Nat.not_lt.2 h3)]
    by_cases h254 : j = 254
    · simp [h254]
    · by_cases h : j < 253
      · simp [h3, h, h254, Ne.symm h254, show ¬ (j = 253 ∨ 255 ≤ j) by omega]
      · simp [h3, h, h254, Ne.symm h254, show j = 253 ∨ 255 ≤ j by omega]
  · simp [h3, Nat.lt_of_not_le h3, show 254 ≠ j by omega]

/-! ## hypotheses about the primitives (never axioms: explicit arguments of the theorems) -/

variable {P : Type}

/-- output lengths of the hash primitives -/
structure HashLen (pr : Prims P) : Prop where
  hmac : ∀ k m, (pr.hmac512 k m).length = 64
  pbkdf : ∀ p s, (pr.pbkdf2 p s).length = 96

/-- `smulBase`/`pointAdd` form a commutative group action of the integers with base-point order `order`, and the
encoding is faithful -/
structure GroupLaws (pr : Prims P) : Prop where
  smul_add : ∀ a b, pr.smulBase (a + b) = pr.pointAdd (pr.smulBase a) (pr.smulBase b)
  add_comm : ∀ p q, pr.pointAdd p q = pr.pointAdd q p
  smul_smul : ∀ h k, pr.smul h (pr.smulBase k) = pr.smulBase (h * k)
  smul_mod : ∀ a, pr.smulBase (a % pr.order) = pr.smulBase a
  dec_enc : ∀ p, pr.decodePoint (pr.encodePoint p) = some p
  enc_len : ∀ p, (pr.encodePoint p).length = 32
  order_pos : 0 < pr.order
  order_lt : pr.order < 2 ^ 255
  /-- `k·B` is (encoded as) the neutral element exactly when the order divides `k` -/
  inf_iff : ∀ k, isInfEnc (pr.encodePoint (pr.smulBase k)) = true ↔ k % pr.order = 0

open Spec.Bip32Ed25519 in
/-- the specification's setting read off the model's primitives -/
def toSetting (pr : Prims P) : Setting P :=
  ⟨pr.hmac512, pr.pbkdf2, pr.smulBase, pr.pointAdd, pr.encodePoint, pr.order⟩

/-- abstraction of a wallet node to the integer-level extended private key -/
def absPrv (w : Node) : Spec.Bip32Ed25519.XPrv :=
  ⟨fromLE (w.xprv.take 32), fromLE (w.xprv.drop 32), w.cc⟩

def kLNat (w : Node) : Nat := fromLE (w.xprv.take 32)
def kRNat (w : Node) : Nat := fromLE (w.xprv.drop 32)
/-- `Z[0:28]` of derivation step `i` as an integer -/
def zLNat (pr : Prims P) (w : Node) (i : Nat) : Nat := fromLE ((pr.hmac512 w.cc (preimages w i).1).take 28)
def zRNat (pr : Prims P) (w : Node) (i : Nat) : Nat := fromLE ((pr.hmac512 w.cc (preimages w i).1).drop 32)

/-- representation invariant of wallet nodes: 64-byte private key, public key = `kL·B`, `kL < 2^255` -/
structure WFNode (pr : Prims P) (w : Node) : Prop where
  len : w.xprv.length = 64
  lt : kLNat w < 2 ^ 255
  pub : w.pub = pr.encodePoint (pr.smulBase (kLNat w))

theorem zLNat_lt (pr : Prims P) (w : Node) (i : Nat) : zLNat pr w i < 2 ^ 224 := by
  rw [show (2 : Nat) ^ 224 = 256 ^ 28 by decide]
  exact Nat.lt_of_lt_of_le (fromLE_lt _) (Nat.pow_le_pow_right (by decide) (List.length_take_le _ _))

/-- `crypto_scalarmult_ed25519_base_noclamp` on the 32-byte little-endian encoding of `n < 2^255` -/
theorem scalarmult_leBytes (pr : Prims P) (gl : GroupLaws pr) (n : Nat) (h : n < 2 ^ 255) :
    scalarmultBaseNoclamp pr (leBytes 32 n) =
      if n % pr.order = 0 then none else some (pr.encodePoint (pr.smulBase n)) := by
  have e := fromLE_leBytes_of_lt (Nat.lt_trans h (by decide : (2 : Nat) ^ 255 < 256 ^ 32))
  -- an all-zero scalar is the case `n = 0`, which the order divides as well
  have hc : (isZeroBytes (leBytes 32 n) || isInfEnc (pr.encodePoint (pr.smulBase n))) = true ↔ n % pr.order = 0 := by
    rw [Bool.or_eq_true, isZeroBytes_iff, e, gl.inf_iff]
    exact ⟨fun h => h.elim (fun h => by rw [h, Nat.zero_mod]) id, Or.inr⟩
  unfold scalarmultBaseNoclamp
  simp only [length_leBytes, ne_eq, not_true_eq_false, if_false, e, Nat.mod_eq_of_lt h, hc]

theorem scalarmult_some (pr : Prims P) (b A : Bytes) (h : scalarmultBaseNoclamp pr b = some A) :
    b.length = 32 ∧ A = pr.encodePoint (pr.smulBase (fromLE b % 2 ^ 255)) := by
  unfold scalarmultBaseNoclamp at h
  split at h
  · cases h
  · rename_i hl
    simp only at h
    split at h
    · cases h
    · injection h with h
      exact ⟨by simpa using hl, h.symm⟩

theorem derivePrivChild_some (pr : Prims P) (w w' : Node) (i : Int) (h : derivePrivChild pr w i = some w') :
    0 ≤ i ∧ i < 2 ^ 32 ∧ w'.xprv.length = 64 ∧
    kLNat w' = 8 * zLNat pr w i.toNat + kLNat w ∧
    kRNat w' = (zRNat pr w i.toNat + kRNat w) % 2 ^ 256 ∧
    w'.cc = (pr.hmac512 w.cc (preimages w i.toNat).2).drop 32 ∧
    scalarmultBaseNoclamp pr (w'.xprv.take 32) = some w'.pub := by
  unfold derivePrivChild at h
  split at h
  · rename_i hi
    simp only at h
    split at h
    · rename_i kL kR hkL hkR
      obtain ⟨_, _, lL, vL⟩ := toBytesLE_some hkL
      obtain ⟨_, _, lR, vR⟩ := toBytesLE_some hkR
      split at h
      · rename_i A hA
        injection h with h; subst h
        refine ⟨hi.1, hi.2, by rw [List.length_append, lL, lR], ?_, ?_, rfl, ?_⟩
        · rw [kLNat, List.take_left' lL, vL, Nat.mul_comm]; rfl
        · rw [kRNat, List.drop_left' lL, vR]; rfl
        · rw [List.take_left' lL]; exact hA
      · cases h
    · cases h
  · cases h

theorem take_take_self (l : Bytes) (n : Nat) (h : l.length ≤ n) : l.take n = l := List.take_of_length_le h

open Spec.Bip32Ed25519 in
theorem preimages_spec (pr : Prims P) (w : Node) (i : Nat) (hw : WFNode pr w) :
    preimages w i =
      ((if hardened i then (0x00 : UInt8) else 0x02) :: privData (toSetting pr) (absPrv w) i,
       (if hardened i then (0x01 : UInt8) else 0x03) :: privData (toSetting pr) (absPrv w) i) := by
  have l1 : (w.xprv.take 32).length = 32 := by simp [hw.len]
  have l2 : (w.xprv.drop 32).length = 32 := by simp [hw.len]
  have e1 := leBytes_fromLE_of_length l1
  have e2 := leBytes_fromLE_of_length l2
  unfold preimages privData hardened
  by_cases h : i < 2 ^ 31
  · have h' : ¬ 2 ^ 31 ≤ i := by omega
    simp only [h, h', if_true, if_false, toSetting, absPrv, ser32, hw.pub, kLNat]
  · have h' : 2 ^ 31 ≤ i := by omega
    simp only [h, h', if_true, if_false, toSetting, absPrv, ser32, ser256, e1, e2]

theorem index_range {i : Nat} (hi : i < 2 ^ 32) : (0 : Int) ≤ (i : Int) ∧ (i : Int) < 2 ^ 32 :=
  ⟨Int.natCast_nonneg i, by exact_mod_cast hi⟩

theorem derivePrivChild_of_lt (pr : Prims P) (gl : GroupLaws pr) (w : Node) (i : Nat) (hi : i < 2 ^ 32)
    (hno : 8 * zLNat pr w i + kLNat w < 2 ^ 255) :
    derivePrivChild pr w (i : Int) =
      if (8 * zLNat pr w i + kLNat w) % pr.order = 0 then none
      else some ⟨leBytes 32 (8 * zLNat pr w i + kLNat w) ++ leBytes 32 ((zRNat pr w i + kRNat w) % 2 ^ 256),
        pr.encodePoint (pr.smulBase (8 * zLNat pr w i + kLNat w)), (pr.hmac512 w.cc (preimages w i).2).drop 32⟩ := by
  have hkL : 8 * zLNat pr w i + kLNat w < 256 ^ 32 := Nat.lt_trans hno (by decide)
  have hkR : (zRNat pr w i + kRNat w) % 2 ^ 256 < 256 ^ 32 := by
    rw [show (256 : Nat) ^ 32 = 2 ^ 256 by decide]; exact Nat.mod_lt _ (by decide)
  unfold derivePrivChild
  simp only [index_range hi, and_self, if_true, Int.toNat_natCast]
  rw [show fromLE ((pr.hmac512 w.cc (preimages w i).1).take 28) * 8 + fromLE (w.xprv.take 32)
      = 8 * zLNat pr w i + kLNat w from by rw [Nat.mul_comm]; rfl,
    show fromLE ((pr.hmac512 w.cc (preimages w i).1).drop 32) + fromLE (w.xprv.drop 32)
      = zRNat pr w i + kRNat w from rfl,
    toBytesLE_of_lt hkL, toBytesLE_of_lt hkR]
  simp only []
  rw [scalarmult_leBytes pr gl _ hno]
  by_cases hz : (8 * zLNat pr w i + kLNat w) % pr.order = 0
  · rw [if_pos hz, if_pos hz]
  · rw [if_neg hz, if_neg hz]

open Spec.Bip32Ed25519 in
theorem childPriv_absPrv (pr : Prims P) (w : Node) (i : Nat) (hw : WFNode pr w) :
    childPriv (toSetting pr) (absPrv w) i =
      if (8 * zLNat pr w i + kLNat w) % pr.order = 0 then none
      else some ⟨8 * zLNat pr w i + kLNat w,
        (fromLE (((pr.hmac512 w.cc (preimages w i).1).drop 32).take 32) + kRNat w) % 2 ^ 256,
        ((pr.hmac512 w.cc (preimages w i).2).drop 32).take 32⟩ := by
  unfold childPriv zLNat
  rw [preimages_spec pr w i hw]
  rfl

open Spec.Bip32Ed25519 in
theorem derivePrivChild_refines (pr : Prims P) (hl : HashLen pr) (gl : GroupLaws pr) (w : Node) (i : Nat)
    (hw : WFNode pr w) (hi : i < 2 ^ 32) (hno : 8 * zLNat pr w i + kLNat w < 2 ^ 255) :
    (derivePrivChild pr w (i : Int)).map absPrv = childPriv (toSetting pr) (absPrv w) i := by
  rw [derivePrivChild_of_lt pr gl w i hi hno, childPriv_absPrv pr w i hw]
  split
  · rfl
  · -- the two halves of the child key are read back from their 32-byte encodings; the right halves of the HMAC
    -- outputs are already 32 bytes long
    have t : ∀ k m, ((pr.hmac512 k m).drop 32).take 32 = (pr.hmac512 k m).drop 32 := fun k m =>
      List.take_of_length_le (by rw [List.length_drop, hl.hmac]; decide)
    simp only [Option.map_some, absPrv, List.take_left' (length_leBytes _ _), List.drop_left' (length_leBytes _ _), t,
      fromLE_leBytes_of_lt (Nat.lt_trans hno (by decide : (2 : Nat) ^ 255 < 256 ^ 32)),
      fromLE_leBytes_of_lt (show (zRNat pr w i + kRNat w) % 2 ^ 256 < 256 ^ 32 from by
        rw [show (256 : Nat) ^ 32 = 2 ^ 256 by decide]; exact Nat.mod_lt _ (by decide))]
    rfl

theorem derivePrivChild_wf (pr : Prims P) (w w' : Node) (i : Int)
    (h : derivePrivChild pr w i = some w') (hlt : kLNat w' < 2 ^ 255) : WFNode pr w' := by
  obtain ⟨_, _, hlen, _, _, _, hA⟩ := derivePrivChild_some pr w w' i h
  refine ⟨hlen, hlt, ?_⟩
  rw [(scalarmult_some pr _ _ hA).2, show fromLE (w'.xprv.take 32) = kLNat w' from rfl, Nat.mod_eq_of_lt hlt]

theorem derivePub_agrees (pr : Prims P) (gl : GroupLaws pr) (w w' : Node) (i : Nat)
    (hw : WFNode pr w) (hi : i < 2 ^ 31)
    (hno : 8 * zLNat pr w i + kLNat w < 2 ^ 255)
    (hz : (8 * zLNat pr w i) % pr.order ≠ 0)
    (h : derivePrivChild pr w (i : Int) = some w') :
    ∃ v, derivePubChild pr w (i : Int) = some v ∧ v.pub = w'.pub ∧ v.cc = w'.cc := by
  have hi32 : i < 2 ^ 32 := Nat.lt_trans hi (by decide)
  have h8 : 8 * zLNat pr w i < 2 ^ 255 := Nat.lt_of_le_of_lt (Nat.le_add_right _ _) hno
  rw [derivePrivChild_of_lt pr gl w i hi32 hno] at h
  split at h
  · cases h
  · injection h with h; subst h
    unfold derivePubChild ed25519Add
    simp only [index_range hi32, and_self, if_true, Int.toNat_natCast, hi]
    rw [show fromLE ((pr.hmac512 w.cc (preimages w i).1).take 28) = zLNat pr w i from rfl,
      toBytesLE_of_lt (Nat.lt_trans h8 (by decide))]
    simp only []
    rw [scalarmult_leBytes pr gl _ h8, if_neg hz]
    simp only []
    rw [hw.pub, gl.dec_enc, gl.dec_enc]
    exact ⟨_, rfl, by simp only []; rw [← gl.smul_add, Nat.add_comm], rfl⟩

theorem derivePubChild_hardened (pr : Prims P) (w : Node) (i : Int) (h : 2 ^ 31 ≤ i) :
    derivePubChild pr w i = none := by
  unfold derivePubChild
  split
  · rename_i hi
    have : ¬ i.toNat < 2 ^ 31 := by
      have : ((2 : Int) ^ 31) = ((2 ^ 31 : Nat) : Int) := by norm_cast
      omega
    simp only [this, if_false]
  · rfl

/-- `derive(i, hardened=True)` is `derive(i + 2^31)` -/
theorem derive_hardened (pr : Prims P) (w : Node) (i : Int) (priv : Bool) :
    derive pr w i priv true = derive pr w (i + 2 ^ 31) priv false := by
  simp [derive]

theorem preimages_tags (w : Node) (i : Nat) :
    (i < 2 ^ 31 → preimages w i = ((0x02 : UInt8) :: (w.pub ++ leBytes 4 i), (0x03 : UInt8) :: (w.pub ++ leBytes 4 i))) ∧
    (2 ^ 31 ≤ i → preimages w i =
      ((0x00 : UInt8) :: ((w.xprv.take 32 ++ w.xprv.drop 32) ++ leBytes 4 i),
       (0x01 : UInt8) :: ((w.xprv.take 32 ++ w.xprv.drop 32) ++ leBytes 4 i))) := by
  unfold preimages
  constructor
  · intro h; simp [h]
  · intro h
    have : ¬ i < 2 ^ 31 := by omega
    simp [this]

/-! ## path strings -/

/-- an ASCII digit that is none of the other characters the path parser looks at -/
def Plain (c : Char) : Prop :=
  isDigit c = true ∧ isSpace c = false ∧ c ≠ '/' ∧ c ≠ '\'' ∧ c ≠ '-' ∧ c ≠ '+' ∧ ((c == 'm' || c == '/') = false)

theorem digitChar_plain : ∀ d, d < 10 → Plain (Nat.digitChar d) ∧ (Nat.digitChar d).toNat - 48 = d := by
  unfold Plain; decide

def digitsVal (acc : Nat) (l : List Char) : Nat := l.foldl (fun a c => a * 10 + (c.toNat - 48)) acc

theorem toDigits_plain (n : Nat) : (∀ c ∈ Nat.toDigits 10 n, Plain c) ∧ Nat.toDigits 10 n ≠ [] ∧
    ∀ acc, digitsVal acc (Nat.toDigits 10 n) = acc * 10 ^ (Nat.toDigits 10 n).length + n := by
  induction n using Nat.strongRecOn with
  | _ n ih =>
    by_cases h : n < 10
    · rw [Nat.toDigits_of_lt_base h]
      obtain ⟨pc, b⟩ := digitChar_plain n h
      exact ⟨fun c hc => List.mem_singleton.1 hc ▸ pc, by simp, fun acc => by simp [digitsVal, b]⟩
    · rw [Nat.toDigits_of_base_le (by decide) (by omega)]
      obtain ⟨i1, _, i3⟩ := ih (n / 10) (by omega)
      obtain ⟨pc, b⟩ := digitChar_plain (n % 10) (Nat.mod_lt _ (by decide))
      refine ⟨fun c hc => ?_, by simp, fun acc => ?_⟩
      · rcases List.mem_append.1 hc with hc | hc
        · exact i1 c hc
        · exact List.mem_singleton.1 hc ▸ pc
      · unfold digitsVal at i3 ⊢
        rw [List.foldl_append, i3]
        simp only [List.foldl_cons, List.foldl_nil, b, List.length_append, List.length_cons, List.length_nil,
          Nat.pow_succ]
        generalize 10 ^ (Nat.toDigits 10 (n / 10)).length = p
        rw [Nat.add_mul, Nat.mul_assoc]
        omega

theorem pyDigits_plain (l : List Char) (hl : ∀ c ∈ l, Plain c) (acc st : Nat) (hne : l ≠ [] ∨ st = 1) :
    pyDigits acc st l = some (digitsVal acc l) := by
  induction l generalizing acc st with
  | nil => 
    rcases hne with h | h
    · exact absurd rfl h
    · simp [pyDigits, digitsVal, h]
  | cons c cs ih =>
    have hc := (hl c (by simp)).1
    simp only [pyDigits, hc, if_true]
    rw [ih (fun c h => hl c (by simp [h])) _ _ (Or.inr rfl)]
    simp [digitsVal]

theorem rstripSpace_plain (l : List Char) (hl : ∀ c ∈ l, isSpace c = false) : rstripSpace l = l := by
  induction l with
  | nil => rfl
  | cons c cs ih =>
    have := ih (fun c h => hl c (by simp [h]))
    simp only [rstripSpace, this]
    cases cs with
    | nil => simp [hl c (by simp)]
    | cons d ds => rfl

theorem pyInt_toDigits (n : Nat) : pyInt (Nat.toDigits 10 n) = some (n : Int) := by
  obtain ⟨h1, h2, h3⟩ := toDigits_plain n
  generalize Nat.toDigits 10 n = l at *
  cases l with
  | nil => exact absurd rfl h2
  | cons c cs =>
    have hc := h1 c (by simp)
    unfold pyInt
    rw [List.dropWhile_cons_of_neg (by simp [hc.2.1]), rstripSpace_plain _ (fun c h => (h1 c h).2.1)]
    simp only [hc.2.2.2.2.1, hc.2.2.2.2.2.1, if_false]
    rw [pyDigits_plain _ h1 _ _ (Or.inl (by simp)), h3]
    simp

/-- `"/".join(segs)` -/
def joinSlash : List (List Char) → List Char
  | [] => []
  | [s] => s
  | s :: t :: r => s ++ '/' :: joinSlash (t :: r)

theorem splitSlash_ne_nil (l : List Char) : splitSlash l ≠ [] := by
  induction l with
  | nil => simp [splitSlash]
  | cons c cs ih =>
    unfold splitSlash
    split
    · simp
    · split <;> simp

theorem splitSlash_noslash (s : List Char) (h : ∀ c ∈ s, c ≠ '/') : splitSlash s = [s] := by
  induction s with
  | nil => rfl
  | cons c cs ih =>
    have := ih (fun c h' => h c (by simp [h']))
    simp [splitSlash, this, h c (by simp)]

theorem splitSlash_append (s rest : List Char) (h : ∀ c ∈ s, c ≠ '/') :
    splitSlash (s ++ '/' :: rest) = s :: splitSlash rest := by
  induction s with
  | nil =>
    simp only [List.nil_append, splitSlash]
    split
    · rename_i hh; exact absurd hh (splitSlash_ne_nil rest)
    · rename_i hh; simp [hh]
  | cons c cs ih =>
    have := ih (fun c h' => h c (by simp [h']))
    simp [splitSlash, this, h c (by simp)]

theorem splitSlash_join (segs : List (List Char)) (hne : segs ≠ []) (h : ∀ s ∈ segs, ∀ c ∈ s, c ≠ '/') :
    splitSlash (joinSlash segs) = segs := by
  induction segs with
  | nil => exact absurd rfl hne
  | cons s t ih =>
    cases t with
    | nil => simpa [joinSlash] using splitSlash_noslash s (h s (by simp))
    | cons t r =>
      simp only [joinSlash]
      rw [splitSlash_append s _ (h s (by simp)), ih (by simp) (fun s' hs => h s' (by simp [hs]))]

/-- the text of one path component: `str(i)` or `str(i) + "'"` -/
def renderComponent (x : Nat × Bool) : List Char :=
  if x.2 then Nat.toDigits 10 x.1 ++ ['\''] else Nat.toDigits 10 x.1

/-- the path string `"m/" + "/".join(components)`; `toString i = String.ofList (Nat.toDigits 10 i)` -/
def renderPath (idxs : List (Nat × Bool)) : String :=
  String.ofList ('m' :: '/' :: joinSlash (idxs.map renderComponent))

theorem renderComponent_noslash (x : Nat × Bool) : ∀ c ∈ renderComponent x, c ≠ '/' := by
  intro c hc
  obtain ⟨h1, _, _⟩ := toDigits_plain x.1
  unfold renderComponent at hc
  split at hc
  · simp at hc
    rcases hc with hc | hc
    · exact (h1 c hc).2.2.1
    · subst hc; decide
  · exact (h1 c hc).2.2.1

theorem parseComponent_render (x : Nat × Bool) : parseComponent (renderComponent x) = some ((x.1 : Int), x.2) := by
  obtain ⟨i, h⟩ := x
  obtain ⟨h1, h2, _⟩ := toDigits_plain i
  cases h with
  | true =>
    simp only [renderComponent, if_true, parseComponent, List.getLast?_concat, List.dropLast_concat, pyInt_toDigits]
    simp
  | false =>
    simp only [renderComponent, parseComponent]
    have : (Nat.toDigits 10 i).getLast? ≠ some '\'' := by
      intro hh
      have := List.mem_of_getLast? hh
      exact (h1 _ this).2.2.2.1 rfl
    simp [this, pyInt_toDigits]

theorem renderComponent_head (x : Nat × Bool) : ∃ c r, renderComponent x = c :: r ∧ Plain c := by
  obtain ⟨h1, h2, _⟩ := toDigits_plain x.1
  unfold renderComponent
  generalize Nat.toDigits 10 x.1 = l at h1 h2
  cases l with
  | nil => exact absurd rfl h2
  | cons c r => exact ⟨c, if x.2 then r ++ ['\''] else r, by split <;> rfl, h1 c (by simp)⟩

theorem joinSlash_cons_cons (c : Char) (r : List Char) (t : List (List Char)) :
    joinSlash ((c :: r) :: t) = c :: joinSlash (r :: t) := by
  cases t <;> rfl

theorem pathSegments_render (idxs : List (Nat × Bool)) (hne : idxs ≠ []) :
    pathSegments (renderPath idxs).toList = some (idxs.map renderComponent) := by
  cases idxs with
  | nil => exact absurd rfl hne
  | cons x xs =>
    have hj := splitSlash_join ((x :: xs).map renderComponent) (by simp) (fun s hs => by
      obtain ⟨y, _, rfl⟩ := List.mem_map.1 hs
      exact renderComponent_noslash y)
    -- the first character after "m/" is a digit, so `lstrip("m/")` removes exactly the prefix
    obtain ⟨c, r, e, pc⟩ := renderComponent_head x
    unfold renderPath pathSegments
    rw [String.toList_ofList]
    rw [List.map_cons, e, joinSlash_cons_cons] at hj ⊢
    simp only [List.take_succ_cons, List.take_zero, if_true, List.dropWhile, pc.2.2.2.2.2.2, beq_self_eq_true,
      Bool.true_or, Bool.or_true, hj]

/-! ## master key -/

theorem clamp_range (n : Nat) : Spec.Bip32Ed25519.clamp n % 8 = 0 ∧ 2 ^ 254 ≤ Spec.Bip32Ed25519.clamp n ∧
    Spec.Bip32Ed25519.clamp n < 2 ^ 254 + 2 ^ 253 := by
  unfold Spec.Bip32Ed25519.clamp
  refine ⟨?_, Nat.le_add_left _ _, ?_⟩
  · rw [Nat.add_mod, Nat.mul_mod_left, show (2 : Nat) ^ 254 % 8 = 0 by decide]
  · rw [Nat.add_comm]
    exact Nat.add_lt_add_left (Nat.lt_of_le_of_lt (Nat.div_mul_le_self _ _) (Nat.mod_lt _ (by decide))) _

open Spec.Bip32Ed25519 in
theorem fromEntropy_refines (pr : Prims P) (hl : HashLen pr) (e p : Bytes) (root : Node)
    (h : fromEntropy pr e p = some root) :
    absPrv root = master (toSetting pr) e p ∧ WFNode pr root ∧ isEntropyLen e.length = true := by
  unfold fromEntropy fromSeed at h
  split at h
  · rename_i hel
    split at h
    · cases h
    · rename_i s hs
      simp only at h
      split at h
      · cases h
      · rename_i A hA
        injection h with h; subst h
        have hd := hl.pbkdf p e
        obtain ⟨l1, l2, l3⟩ := tweak_take _ _ hs
        have t1 : (s.take 64).take 32 = s.take 32 := by rw [List.take_take]; rfl
        have t2 : (s.take 64).drop 32 = ((pr.pbkdf2 p e).drop 32).take 32 := by rw [List.drop_take, l2]
        have t3 : s.drop 64 = ((pr.pbkdf2 p e).drop 64).take 32 := by
          rw [List.take_of_length_le (by rw [List.length_drop, hd]; decide), ← List.drop_drop (i := 32) (j := 32), l2,
            List.drop_drop]
        have hlt : fromLE (s.take 32) < 2 ^ 255 :=
          l3 ▸ Nat.lt_trans (clamp_range _).2.2 (by decide)
        refine ⟨?_, ⟨by rw [List.length_take, l1, hd]; rfl, by rwa [kLNat, t1], ?_⟩, hel⟩
        · simp only [absPrv, master, toSetting, t1, t2, t3, l3]
        · rw [(scalarmult_some pr _ _ hA).2, kLNat, t1, Nat.mod_eq_of_lt hlt]
  · cases h

/-! ## invariants along paths -/

theorem derivePrivChild_kL (pr : Prims P) (w w' : Node) (i : Int) (h : derivePrivChild pr w i = some w') :
    kLNat w' % 8 = kLNat w % 8 ∧ kLNat w ≤ kLNat w' ∧ kLNat w' < kLNat w + 2 ^ 227 := by
  obtain ⟨_, _, _, hkL, _, _, _⟩ := derivePrivChild_some pr w w' i h
  rw [hkL, show (2 : Nat) ^ 227 = 8 * 2 ^ 224 by decide, Nat.add_comm (kLNat w)]
  exact ⟨Nat.mul_add_mod .., Nat.le_add_left .., Nat.add_lt_add_right
    (Nat.mul_lt_mul_of_pos_left (zLNat_lt pr w i.toNat) (by decide)) _⟩

theorem deriveSteps_cons_some {pr : Prims P} {w w' : Node} {i : Int} {hd : Bool} {xs : List (Int × Bool)}
    (h : deriveSteps pr true w ((i, hd) :: xs) = some w') :
    ∃ v, derivePrivChild pr w (if hd then i + 2 ^ 31 else i) = some v ∧ deriveSteps pr true v xs = some w' := by
  simp only [deriveSteps, derive, if_true] at h
  split at h
  · cases h
  · exact ⟨_, ‹_›, h⟩

theorem deriveSteps_kL (pr : Prims P) (w w' : Node) (path : List (Int × Bool))
    (h : deriveSteps pr true w path = some w') :
    kLNat w' % 8 = kLNat w % 8 ∧ kLNat w ≤ kLNat w' ∧ kLNat w' < kLNat w + path.length * 2 ^ 227 + 1 := by
  induction path generalizing w with
  | nil =>
    simp only [deriveSteps] at h
    injection h with h; subst h; simp
  | cons x xs ih =>
    obtain ⟨v, hv, h⟩ := deriveSteps_cons_some h
    obtain ⟨a1, b1, c1⟩ := derivePrivChild_kL pr w v _ hv
    obtain ⟨a2, b2, c2⟩ := ih v h
    refine ⟨a2.trans a1, Nat.le_trans b1 b2, ?_⟩
    rw [List.length_cons, Nat.succ_mul]
    generalize (2 : Nat) ^ 227 = S at c1 c2 ⊢
    omega

/-- after fewer than `2^25` steps from a clamped root there is still room for one more step below `2^255` -/
theorem path_room {len : Nat} (hl : len < 2 ^ 25) : 2 ^ 254 + 2 ^ 253 + len * 2 ^ 227 + 2 ^ 227 ≤ 2 ^ 255 := by
  omega

theorem deriveSteps_wf (pr : Prims P) (w w' : Node) (path : List (Int × Bool))
    (hw : WFNode pr w) (hb : kLNat w + path.length * 2 ^ 227 < 2 ^ 255)
    (h : deriveSteps pr true w path = some w') : WFNode pr w' := by
  induction path generalizing w with
  | nil =>
    simp only [deriveSteps] at h
    injection h with h; subst h; exact hw
  | cons x xs ih =>
    obtain ⟨v, hv, h⟩ := deriveSteps_cons_some h
    have s1 := (derivePrivChild_kL pr w v _ hv).2.2
    rw [List.length_cons, Nat.succ_mul] at hb
    refine ih v (derivePrivChild_wf pr w v _ hv ?_) ?_ h
    all_goals
      generalize (2 : Nat) ^ 227 = S at s1 hb ⊢
      generalize (2 : Nat) ^ 255 = M at hb ⊢
      omega

/-! ## signatures of derived keys -/

theorem fromLE_scalar (pr : Prims P) (gl : GroupLaws pr) (x : Nat) :
    fromLE (leBytes 32 (x % pr.order)) = x % pr.order := by
  have := Nat.mod_lt x gl.order_pos
  have := gl.order_lt
  exact fromLE_leBytes_of_lt (by rw [show (256 : Nat) ^ 32 = 2 * 2 ^ 255 by decide]; omega)

/-- **extended signing is correct**: what `BIP32ED25519PrivateKey.sign` returns for a well-formed node satisfies the
RFC 8032 verification equation under the node's public key -/
theorem sign_verifies [DecidableEq P] (pr : Prims P) (gl : GroupLaws pr) (w : Node) (hw : WFNode pr w)
    (msg sig : Bytes) (h : signWithNode pr w msg = some sig) : verify pr w.pub msg sig = true := by
  have hx : (w.xprv ++ w.pub ++ w.cc).take 64 = w.xprv := by rw [List.append_assoc, List.take_left' hw.len]
  unfold signWithNode sign at h
  rw [hx] at h
  simp only [] at h
  split at h
  · cases h
  · rename_i A hA
    split at h
    · cases h
    · rename_i R hR
      injection h with h; subst h
      -- `A` is the node's public key, `R = r·B` for the reduced nonce `r`
      obtain ⟨_, hA⟩ := scalarmult_some pr _ _ hA
      rw [show fromLE (w.xprv.take 32) = kLNat w from rfl, Nat.mod_eq_of_lt hw.lt, ← hw.pub] at hA
      obtain ⟨_, hR⟩ := scalarmult_some pr _ _ hR
      have hr := Nat.lt_trans (Nat.mod_lt (fromLE (pr.sha512 (w.xprv.drop 32 ++ msg))) gl.order_pos) gl.order_lt
      rw [scalarReduce, fromLE_scalar pr gl, Nat.mod_eq_of_lt hr] at hR
      have lR : R.length = 32 := by rw [hR]; exact gl.enc_len _
      subst hA
      unfold verify
      simp only [List.take_left' lR, List.drop_left' lR, scalarAdd, scalarMul, scalarReduce, fromLE_scalar pr gl]
      rw [hR, gl.dec_enc, hw.pub, gl.dec_enc]
      simp only [Bool.and_eq_true, decide_eq_true_eq]
      refine ⟨Nat.mod_lt _ gl.order_pos, ?_⟩
      rw [show fromLE (w.xprv.take 32) = kLNat w from rfl, gl.smul_mod, gl.smul_add, gl.smul_mod, gl.smul_smul,
        gl.add_comm]

/-! ## a toy instance of the primitives satisfying every hypothesis (non-vacuity of `HashLen` and `GroupLaws`) -/

/-- the cyclic group of order 13 with arithmetic "hash functions" -/
def toy : Prims (Fin 13) where
  hmac512 k m := leBytes 64 ((fromLE m * 31 + fromLE k * 7 + 5) * (2 ^ 200 + 977))
  pbkdf2 p s := leBytes 96 ((fromLE s * 131 + fromLE p + 99) * (2 ^ 250 + 3 ^ 100))
  sha512 m := leBytes 64 ((fromLE m * 17 + 3) * (2 ^ 240 + 7 ^ 50))
  smulBase n := Fin.ofNat 13 n
  smul h q := Fin.ofNat 13 (h * q.val)
  pointAdd a b := a + b
  encodePoint p := leBytes 32 (p.val + 1)
  decodePoint b := some (Fin.ofNat 13 (fromLE b + 12))
  order := 13

theorem toy_inf : ∀ r, r < 13 → (isInfEnc (leBytes 32 (r + 1)) = true ↔ r = 0) := by decide +kernel

theorem toy_hashLen : HashLen toy := ⟨fun _ _ => length_leBytes _ _, fun _ _ => length_leBytes _ _⟩

theorem toy_groupLaws : GroupLaws toy where
  smul_add a b := by
    apply Fin.ext
    simp only [toy, Fin.ofNat, Fin.add_def]
    exact Nat.add_mod a b 13
  add_comm p q := by
    apply Fin.ext
    simp only [toy, Fin.add_def, Nat.add_comm]
  smul_smul h k := by
    apply Fin.ext
    simp only [toy, Fin.ofNat]
    rw [Nat.mul_mod, Nat.mod_mod, ← Nat.mul_mod]
  smul_mod a := by
    apply Fin.ext
    simp only [toy, Fin.ofNat, Nat.mod_mod]
  dec_enc p := by
    have : p.val + 1 < 256 ^ 32 := Nat.lt_trans (show p.val + 1 < 14 by omega) (by decide)
    simp only [toy, fromLE_leBytes, Nat.mod_eq_of_lt this]
    congr 1
    apply Fin.ext
    simp only [Fin.ofNat, Nat.add_assoc, Nat.add_mod_right, Nat.mod_eq_of_lt p.isLt]
  enc_len p := length_leBytes _ _
  order_pos := by decide
  order_lt := by decide
  inf_iff k := by
    have := toy_inf (k % 13) (Nat.mod_lt _ (by decide))
    simpa [toy, Fin.ofNat] using this

end Pyc.Bip32
