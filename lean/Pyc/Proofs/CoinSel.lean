import Pyc.Model.CoinSel
import Pyc.Proofs.Value
import Pyc.Proofs.Sort

/-! Helper lemmas for C14 (coin selection).  `sumBy f l` is the plain integer sum the property speaks about;
`IsSum sel amt` ties the `Value` accumulated by the Python code (`selected_amount += ...`) to it.  Each loop of the
model gets one statement about its result (`match … with | .ok … | .error …`) that carries everything the properties
need of it: the selection invariant, the input limit, and that the model's recursion budget is not what stopped it. -/

namespace Pyc.CoinSel

def sumBy (f : UTxO → Int) (l : List UTxO) : Int := (l.map f).sum

@[simp] theorem sumBy_nil (f : UTxO → Int) : sumBy f [] = 0 := rfl
@[simp] theorem sumBy_cons (f : UTxO → Int) (u : UTxO) (l : List UTxO) : sumBy f (u :: l) = f u + sumBy f l := by
  simp [sumBy]
@[simp] theorem sumBy_append (f : UTxO → Int) (a b : List UTxO) : sumBy f (a ++ b) = sumBy f a + sumBy f b := by
  simp [sumBy]

theorem sumBy_perm (f : UTxO → Int) {a b : List UTxO} (h : a.Perm b) : sumBy f a = sumBy f b := sum_map_perm f h

theorem sumBy_nonneg (f : UTxO → Int) (l : List UTxO) (h : ∀ u ∈ l, 0 ≤ f u) : 0 ≤ sumBy f l := by
  induction l with
  | nil => simp
  | cons x r ih =>
    have := h x List.mem_cons_self
    have := ih (fun u hu => h u (List.mem_cons_of_mem _ hu))
    rw [sumBy_cons]
    omega

def coinOf (u : UTxO) : Int := u.amount.coin
def qtyOf (p n : Bytes) (u : UTxO) : Int := Value.qty u.amount p n

def Covers (t a : Value) : Prop := t.coin ≤ a.coin ∧ ∀ p n, Value.qty t p n ≤ Value.qty a p n

def NonNegV (v : Value) : Prop := 0 ≤ v.coin ∧ ∀ p n, 0 ≤ Value.qty v p n

theorem Covers.refl (a : Value) : Covers a a := ⟨Int.le_refl _, fun _ _ => Int.le_refl _⟩
theorem Covers.trans {a b c : Value} (h1 : Covers a b) (h2 : Covers b c) : Covers a c :=
  ⟨Int.le_trans h1.1 h2.1, fun p n => Int.le_trans (h1.2 p n) (h2.2 p n)⟩

/-- `Value.__le__` is the component-wise order (`Value.le_iff`, C05): no hypothesis on either operand -/
theorem le_iff_covers (t a : Value) : Value.le t a = true ↔ Covers t a := Value.le_iff t a

theorem covers_coinOnly (x : Int) (a : Value) : Covers ⟨x, []⟩ a ↔ x ≤ a.coin ∧ ∀ p n, 0 ≤ Value.qty a p n :=
  Iff.rfl

/-- every entry of a pool: a legal dict (unique keys) holding non-negative quantities -/
def PoolOK (pool : List UTxO) : Prop := ∀ u ∈ pool, Value.WF u.amount ∧ NonNegV u.amount

theorem PoolOK.mono {a b : List UTxO} (h : PoolOK b) (hs : ∀ u ∈ a, u ∈ b) : PoolOK a := fun u hu => h u (hs u hu)

/-- the pool hypothesis with non-negativity made optional: `PoolN True` is `PoolOK`, `PoolN False` asks for legal
dicts only.  The lemmas below are proved once for both; coverage is concluded under `nn` only. -/
def PoolN (nn : Prop) (pool : List UTxO) : Prop := ∀ u ∈ pool, Value.WF u.amount ∧ (nn → NonNegV u.amount)

theorem PoolN.ofOK {pool : List UTxO} (h : PoolOK pool) : PoolN True pool := fun u hu => ⟨(h u hu).1, fun _ => (h u hu).2⟩
theorem PoolN.ofWF {pool : List UTxO} (h : ∀ u ∈ pool, Value.WF u.amount) : PoolN False pool :=
  fun u hu => ⟨h u hu, False.elim⟩

def CoversIf (nn : Prop) (t a : Value) : Prop := nn → Covers t a
theorem CoversIf.refl (nn : Prop) (a : Value) : CoversIf nn a a := fun _ => Covers.refl a
theorem CoversIf.trans {nn : Prop} {a b c : Value} (h1 : CoversIf nn a b) (h2 : CoversIf nn b c) : CoversIf nn a c :=
  fun h => (h1 h).trans (h2 h)

def IsSum (sel : List UTxO) (amt : Value) : Prop :=
  Value.WF amt ∧ amt.coin = sumBy coinOf sel ∧ ∀ p n, Value.qty amt p n = sumBy (qtyOf p n) sel

theorem isSum_nil : IsSum [] ⟨0, []⟩ := ⟨MultiAsset.wf_nil, rfl, fun _ _ => rfl⟩

theorem wf_sub (a b : Value) (ha : Value.WF a) : Value.WF (Value.sub a b) := MultiAsset.wf_sub _ _ ha

theorem isSum_addAll {sel : List UTxO} {amt : Value} (l : List UTxO) (h : IsSum sel amt)
    (hl : ∀ u ∈ l, Value.WF u.amount) : IsSum (sel ++ l) (addAll amt l) := by
  obtain ⟨hw, hq⟩ := Value.foldl_add_qty UTxO.amount l amt h.1 hl
  refine ⟨hw, ?_, fun p n => ?_⟩
  · rw [sumBy_append, ← h.2.1]; exact Value.foldl_add_coin UTxO.amount l amt
  · rw [sumBy_append, ← h.2.2]; exact hq p n

def NonNegSum (l : List UTxO) : Prop := 0 ≤ sumBy coinOf l ∧ ∀ p n, 0 ≤ sumBy (qtyOf p n) l

theorem nonNegSum_of_nonneg {l : List UTxO} (h : ∀ u ∈ l, NonNegV u.amount) : NonNegSum l :=
  ⟨sumBy_nonneg _ _ (fun u hu => (h u hu).1), fun p n => sumBy_nonneg _ _ (fun u hu => (h u hu).2 p n)⟩

theorem requestSum_spec (fee : Int) (outputs : List Output) (ho : ∀ o ∈ outputs, Value.WF o.amount) :
    Value.WF (requestSum fee outputs) ∧
    (requestSum fee outputs).coin = fee + (outputs.map (fun o => o.amount.coin)).sum ∧
    ∀ p n, Value.qty (requestSum fee outputs) p n = (outputs.map (fun o => Value.qty o.amount p n)).sum := by
  obtain ⟨hw, hq⟩ := Value.foldl_add_qty Output.amount outputs ⟨fee, []⟩ MultiAsset.wf_nil ho
  refine ⟨hw, Value.foldl_add_coin Output.amount outputs ⟨fee, []⟩, fun p n => ?_⟩
  exact (hq p n).trans (Int.zero_add _)

/-! ## the input limit: `overLimit limit n = false` says that `n` inputs respect the limit -/

theorem overLimit_succ {limit : Option Int} {n : Nat} (h : atLimit limit n = false) : overLimit limit (n + 1) = false := by
  cases limit with
  | none => rfl
  | some l =>
    simp only [atLimit, overLimit, decide_eq_false_iff_not] at h ⊢
    omega

/-- the budget handed to the top-up is what the limit leaves after `n` inputs -/
theorem overLimit_topUp (limit : Option Int) (n m : Nat) :
    overLimit (topUpLimit limit n) m = overLimit limit (n + m) := by
  cases limit with
  | none => rfl
  | some l =>
    simp only [topUpLimit, overLimit, decide_eq_decide]
    omega

theorem le_of_overLimit {l : Int} {n : Nat} (h : overLimit (some l) n = false) : (n : Int) ≤ l := by
  simp only [overLimit, decide_eq_false_iff_not] at h
  omega

theorem overLimit_zero {l : Int} (h : 0 ≤ l) : overLimit (some l) 0 = false := by
  simp only [overLimit, decide_eq_false_iff_not]
  omega

/-- the pool holds legal dicts (non-negative ones under `nn`), `sel` and `rem` are disjoint parts of it (by input
reference) and `amt` is the sum of `sel` -/
structure Inv (nn : Prop) (pool rem sel : List UTxO) (amt : Value) : Prop where
  ok : PoolN nn pool
  nodup : ((sel ++ rem).map UTxO.ref).Nodup
  sub : ∀ u ∈ sel ++ rem, u ∈ pool
  sum : IsSum sel amt

theorem perm_eraseIdx {α : Type} : ∀ (l : List α) (i : Nat) (u : α), l[i]? = some u → (u :: l.eraseIdx i).Perm l
  | [], i, u, h => by simp at h
  | x :: xs, 0, u, h => by simp at h; subst h; simp
  | x :: xs, i + 1, u, h => by
    simp only [List.getElem?_cons_succ] at h
    simp only [List.eraseIdx_cons_succ]
    exact (List.Perm.swap x u _).trans ((perm_eraseIdx xs i u h).cons x)

section
variable {nn : Prop} {pool rem rem' sel ext : List UTxO} {amt : Value}

theorem length_eraseIdx_of_get {α : Type} {l : List α} {i : Nat} {u : α} (h : l[i]? = some u) :
    (l.eraseIdx i).length + 1 = l.length := (perm_eraseIdx l i u h).length_eq

theorem Inv.init (hp : PoolN nn pool) (hn : (pool.map UTxO.ref).Nodup) (hperm : rem.Perm pool) :
    Inv nn pool rem [] ⟨0, []⟩ :=
  ⟨hp, (hperm.map _).nodup_iff.2 hn, fun _ hu => hperm.subset hu, isSum_nil⟩

theorem Inv.of_perm (h : Inv nn pool rem sel amt) (hp : rem'.Perm rem) : Inv nn pool rem' sel amt :=
  have hperm : (sel ++ rem').Perm (sel ++ rem) := hp.append_left sel
  ⟨h.ok, (hperm.map _).nodup_iff.2 h.nodup, fun x hx => h.sub x (hperm.subset hx), h.sum⟩

theorem Inv.sublist (h : Inv nn pool rem sel amt) (hs : rem'.Sublist rem) : Inv nn pool rem' sel amt :=
  have hsub : (sel ++ rem').Sublist (sel ++ rem) := (List.Sublist.refl sel).append hs
  ⟨h.ok, (hsub.map _).nodup h.nodup, fun x hx => h.sub x (hsub.subset hx), h.sum⟩

theorem Inv.append (h : Inv nn pool (ext ++ rem) sel amt) : Inv nn pool rem (sel ++ ext) (addAll amt ext) :=
  ⟨h.ok, by rw [List.append_assoc]; exact h.nodup, by rw [List.append_assoc]; exact h.sub,
    isSum_addAll ext h.sum fun u hu =>
      (h.ok u (h.sub u (List.mem_append_right _ (List.mem_append_left _ hu)))).1⟩

theorem Inv.take (h : Inv nn pool rem sel amt) {i : Nat} {u : UTxO} (hi : rem[i]? = some u) :
    Inv nn pool (rem.eraseIdx i) (sel ++ [u]) (Value.add amt u.amount) :=
  (h.of_perm (perm_eraseIdx rem i u hi)).append (ext := [u])

theorem Inv.nonneg (h : Inv nn pool rem sel amt) (hnn : nn) : NonNegV amt := by
  have hs : ∀ u ∈ sel, NonNegV u.amount := fun u hu => (h.ok u (h.sub u (List.mem_append_left _ hu))).2 hnn
  refine ⟨?_, fun p n => ?_⟩
  · rw [h.sum.2.1]; exact sumBy_nonneg _ _ (fun u hu => (hs u hu).1)
  · rw [h.sum.2.2]; exact sumBy_nonneg _ _ (fun u hu => (hs u hu).2 p n)

theorem Inv.grow (h : Inv nn pool rem sel amt) {u : UTxO} (hu : u ∈ rem) : CoversIf nn amt (Value.add amt u.amount) := by
  obtain ⟨hw, hn⟩ := h.ok u (h.sub u (List.mem_append_right _ hu))
  intro hnn
  refine ⟨?_, fun p n => ?_⟩
  · have := (hn hnn).1; simp only [Value.add]; omega
  · have := (hn hnn).2 p n
    have : Value.qty (Value.add amt u.amount) p n = Value.qty amt p n + Value.qty u.amount p n :=
      MultiAsset.qty_add _ _ p n h.sum.1 hw
    omega

end

/-- what `select` returns is what the property asks for; `reqCoin` / `reqQty` are the requested ADA and the
requested quantity of each asset -/
structure Good (nn : Prop) (pool : List UTxO) (reqCoin : Int) (reqQty : Bytes → Bytes → Int) (sel : List UTxO)
    (change : Value) : Prop where
  nodup : (sel.map UTxO.ref).Nodup
  sub : ∀ u ∈ sel, u ∈ pool
  coverCoin : nn → reqCoin ≤ sumBy coinOf sel
  coverQty : nn → ∀ p n, reqQty p n ≤ sumBy (qtyOf p n) sel
  changeCoin : change.coin = sumBy coinOf sel - reqCoin
  changeQty : ∀ p n, Value.qty change p n = sumBy (qtyOf p n) sel - reqQty p n

theorem good_topup {nn nn' : Prop} {pool rem1 sel1 : List UTxO} {amt1 total : Value} {reqCoin : Int}
    {reqQty : Bytes → Bytes → Int} (h1 : Inv nn' pool rem1 sel1 amt1) (hc : CoversIf nn total amt1)
    (ht : Value.WF total) (htc : total.coin = reqCoin) (htq : ∀ p n, Value.qty total p n = reqQty p n)
    {sel2 : List UTxO} (hn2 : (sel2.map UTxO.ref).Nodup) (hs2 : ∀ u ∈ sel2, u ∈ rem1) (h2 : nn → NonNegSum sel2) :
    Good nn pool reqCoin reqQty (sel1 ++ sel2) (Value.sub (addAll amt1 sel2) total) := by
  have hin : ∀ u ∈ sel2, u ∈ pool := fun u hu => h1.sub u (List.mem_append_right _ (hs2 u hu))
  have hsum := isSum_addAll sel2 h1.sum (fun u hu => (h1.ok u (hin u hu)).1)
  have hnd := h1.nodup
  rw [List.map_append, List.nodup_append] at hnd
  refine ⟨?_, ?_, fun hnn => ?_, fun hnn p n => ?_, ?_, fun p n => ?_⟩
  · rw [List.map_append, List.nodup_append]
    refine ⟨hnd.1, hn2, fun a ha b hb => ?_⟩
    obtain ⟨v, hv, rfl⟩ := List.mem_map.1 hb
    exact hnd.2.2 a ha _ (List.mem_map.2 ⟨v, hs2 v hv, rfl⟩)
  · intro u hu
    rcases List.mem_append.1 hu with h | h
    · exact h1.sub u (List.mem_append_left _ h)
    · exact hin u h
  · have := (hc hnn).1; have := (h2 hnn).1
    rw [sumBy_append, ← h1.sum.2.1]; omega
  · have := (hc hnn).2 p n; have := (h2 hnn).2 p n
    rw [sumBy_append, ← h1.sum.2.2, ← htq]; omega
  · rw [← htc, ← hsum.2.1]; rfl
  · rw [← htq, ← hsum.2.2]; exact MultiAsset.qty_sub _ _ p n hsum.1 ht

theorem good_plain {nn nn' : Prop} {pool rem1 sel1 : List UTxO} {amt1 total : Value} {reqCoin : Int}
    {reqQty : Bytes → Bytes → Int} (h1 : Inv nn' pool rem1 sel1 amt1) (hc : CoversIf nn total amt1)
    (ht : Value.WF total) (htc : total.coin = reqCoin) (htq : ∀ p n, Value.qty total p n = reqQty p n) :
    Good nn pool reqCoin reqQty sel1 (Value.sub amt1 total) := by
  have := good_topup h1 hc ht htc htq (sel2 := []) List.nodup_nil (fun _ h => nomatch h)
    (fun _ => ⟨Int.le_refl _, fun _ _ => Int.le_refl _⟩)
  rwa [List.append_nil] at this

theorem nodup_of_map {α β : Type} (f : α → β) : ∀ l : List α, (l.map f).Nodup → l.Nodup
  | [], _ => List.nodup_nil
  | a :: t, h => by
    simp only [List.map_cons, List.nodup_cons] at h ⊢
    exact ⟨fun ha => h.1 (List.mem_map.2 ⟨a, ha, rfl⟩), nodup_of_map f t h.2⟩

theorem subperm_of_nodup_subset {α : Type} : ∀ (l m : List α), l.Nodup → (∀ x ∈ l, x ∈ m) →
    ∃ rest, (l ++ rest).Perm m
  | [], m, _, _ => ⟨m, List.Perm.refl _⟩
  | a :: t, m, hn, hs => by
    obtain ⟨s, t', rfl⟩ := List.append_of_mem (hs a List.mem_cons_self)
    rw [List.nodup_cons] at hn
    have hsub : ∀ x ∈ t, x ∈ s ++ t' := by
      intro x hx
      have hxa : x ≠ a := fun e => hn.1 (e ▸ hx)
      rcases List.mem_append.1 (hs x (List.mem_cons_of_mem _ hx)) with h | h
      · exact List.mem_append_left _ h
      · exact List.mem_append_right _ ((List.mem_cons.1 h).resolve_left hxa)
    obtain ⟨rest, hr⟩ := subperm_of_nodup_subset t (s ++ t') hn.2 hsub
    exact ⟨rest, ((hr.cons a).trans (List.perm_middle.symm))⟩

theorem Good.subset {nn : Prop} {pool : List UTxO} {c : Int} {q : Bytes → Bytes → Int} {sel : List UTxO}
    {change : Value} (g : Good nn pool c q sel change) :
    (sel.map UTxO.ref).Nodup ∧ (∀ u ∈ sel, u ∈ pool) ∧ ∃ rest, (sel ++ rest).Perm pool :=
  ⟨g.nodup, g.sub, subperm_of_nodup_subset sel pool (nodup_of_map _ _ g.nodup) g.sub⟩

/-! ## what the two `select` methods share

Both compute the fee, run their selection (`base`), and in min-change mode, when the change of that first phase is
below its minimum, call themselves (`again`: `respect_min_utxo=False`, no fee) on what the first phase left, for an
ADA-only request of the missing amount, with the remaining input budget. -/

/-- `res` is the outcome of such a run: a returned selection is that of the first phase, or the first phase's followed
by that of a top-up; an error other than `crash` is that of the first phase or that of the top-up -/
def TopUp {σ : Type} (sel : σ → List UTxO) (amt : σ → Value) (env : Env) (outputs : List Output) (limit : Option Int)
    (includeFee respectMin : Bool) (base : Int → Except SelErr σ)
    (again : σ → List Output → Option Int → Except SelErr σ) : Except SelErr (List UTxO × Value) → Prop
  | .ok (r, change) =>
    ∃ f s, feeOf env includeFee = some f ∧ base f = .ok s ∧
      ((r = sel s ∧ change = Value.sub (amt s) (requestSum f outputs)) ∨
       ∃ x s2, 0 < x ∧ again s [topUpOutput env x] (topUpLimit limit (sel s).length) = .ok s2 ∧
         r = sel s ++ sel s2 ∧ change = Value.sub (addAll (amt s) (sel s2)) (requestSum f outputs))
  | .error e =>
    e = .crash ∨ ∃ f, feeOf env includeFee = some f ∧ (base f = .error e ∨ ∃ s mc, base f = .ok s ∧
      respectMin = true ∧ env.minChange (Value.sub (amt s) (requestSum f outputs)) = some mc ∧
      again s [topUpOutput env (mc - (Value.sub (amt s) (requestSum f outputs)).coin)]
        (topUpLimit limit (sel s).length) = .error e)

section
variable {σ : Type} {sel : σ → List UTxO} {amt : σ → Value} {env : Env} {outputs : List Output}
  {limit : Option Int} {includeFee respectMin : Bool} {base : Int → Except SelErr σ}
  {again : σ → List Output → Option Int → Except SelErr σ} {r : List UTxO} {change : Value}

theorem TopUp.good {nn nn' : Prop} {pool : List UTxO} (rest : σ → List UTxO)
    (h : TopUp sel amt env outputs limit includeFee respectMin base again (.ok (r, change)))
    (ho : ∀ o ∈ outputs, Value.WF o.amount)
    (hbase : ∀ f s, base f = .ok s →
      Inv nn' pool (rest s) (sel s) (amt s) ∧ CoversIf nn (requestSum f outputs) (amt s))
    (hagain : ∀ s x lim s2, 0 < x → Inv nn' pool (rest s) (sel s) (amt s) →
      again s [topUpOutput env x] lim = .ok s2 →
      ((sel s2).map UTxO.ref).Nodup ∧ (∀ u ∈ sel s2, u ∈ rest s) ∧ (nn → NonNegSum (sel s2))) :
    ∃ f, feeOf env includeFee = some f ∧
      Good nn pool (f + (outputs.map (fun o => o.amount.coin)).sum)
        (fun p n => (outputs.map (fun o => Value.qty o.amount p n)).sum) r change := by
  obtain ⟨f, s, hf, hs, hr⟩ := h
  obtain ⟨ht, htc, htq⟩ := requestSum_spec f outputs ho
  obtain ⟨hinv, hcov⟩ := hbase f s hs
  refine ⟨f, hf, ?_⟩
  rcases hr with ⟨rfl, rfl⟩ | ⟨x, s2, hx, h2, rfl, rfl⟩
  · exact good_plain hinv hcov ht htc htq
  · obtain ⟨a, b, c⟩ := hagain s x _ s2 hx hinv h2
    exact good_topup hinv hcov ht htc htq a b c

theorem TopUp.within (h : TopUp sel amt env outputs limit includeFee respectMin base again (.ok (r, change)))
    (hbase : ∀ f s, base f = .ok s → overLimit limit (sel s).length = false)
    (hagain : ∀ s outs lim s2, overLimit lim 0 = false → again s outs lim = .ok s2 →
      overLimit lim (sel s2).length = false) :
    overLimit limit r.length = false := by
  obtain ⟨f, s, _, hs, hr⟩ := h
  have h1 := hbase f s hs
  rcases hr with ⟨rfl, _⟩ | ⟨x, s2, _, h2, rfl, _⟩
  · exact h1
  · have := hagain s _ _ s2 (by rw [overLimit_topUp]; exact h1) h2
    rwa [overLimit_topUp, ← List.length_append] at this

end

/-! ## LargestFirstSelector -/

theorem insertAsc_eq (x : UTxO) (l : List UTxO) :
    insertAsc x l = insertBy (fun a b => !decide (b.lovelace < a.lovelace)) x l := by
  induction l with
  | nil => rfl
  | cons y ys ih => simp only [insertAsc, insertBy, ih, Bool.not_eq_eq_eq_not, Bool.not_true, decide_eq_false_iff_not, ite_not]

theorem sortAsc_eq (l : List UTxO) : sortAsc l = isort (fun a b => !decide (b.lovelace < a.lovelace)) l := by
  rw [isort_eq_foldr, sortAsc, show insertAsc = insertBy _ from funext fun x => funext (insertAsc_eq x)]

theorem sortedRev_perm (l : List UTxO) : ((sortAsc l).reverse).Perm l :=
  (List.reverse_perm _).trans (sortAsc_eq l ▸ isort_perm _ l)

/-- the loop moves a head segment `ext` of `available` to the selection, stopping as soon as the request is covered;
it fails for want of inputs only when the request is not covered by all of them, and never returns a selection over
the limit: it appends, then tests `len(selected) > max_input_count` -/
theorem lfLoop_spec (total : Value) (limit : Option Int) : ∀ (avail sel : List UTxO) (amt : Value)
    (d : Except SelErr LfState), lfLoop total limit avail sel amt = d →
    match d with
    | .ok s => Value.le total s.amt = true ∧ (overLimit limit sel.length = false → overLimit limit s.sel.length = false) ∧
        ∃ ext, avail = ext ++ s.avail ∧ s.sel = sel ++ ext ∧ s.amt = addAll amt ext
    | .error e => e = .insufficient → Value.le total (addAll amt avail) = false := by
  intro avail
  induction avail with
  | nil =>
    intro sel amt d h
    rw [lfLoop] at h
    by_cases hle : Value.le total amt = true
    · rw [if_pos hle] at h; subst h; exact ⟨hle, id, [], rfl, (List.append_nil _).symm, rfl⟩
    · rw [if_neg hle] at h; subst h; exact fun _ => Bool.eq_false_iff.2 hle
  | cons u rest ih =>
    intro sel amt d h
    rw [lfLoop] at h
    by_cases hle : Value.le total amt = true
    · rw [if_pos hle] at h; subst h; exact ⟨hle, id, [], rfl, (List.append_nil _).symm, rfl⟩
    · rw [if_neg hle] at h
      by_cases hov : overLimit limit (sel.length + 1) = true
      · rw [if_pos hov] at h; subst h; exact nofun
      · rw [if_neg hov] at h
        have := ih _ _ d h
        revert this
        cases d with
        | error e => exact id
        | ok s =>
          rintro ⟨hle, hlim, ext, h1, h2, h3⟩
          refine ⟨hle, fun _ => hlim ?_, u :: ext, ?_, ?_, h3⟩
          · rw [List.length_append]; exact Bool.eq_false_iff.2 hov
          · rw [h1]; rfl
          · rw [h2, List.append_assoc]; rfl

theorem lfBase_limit {fee : Int} {pool : List UTxO} {outputs : List Output} {limit : Option Int} {s : LfState}
    (h : lfBase fee pool outputs limit = .ok s) (h0 : overLimit limit 0 = false) :
    overLimit limit s.sel.length = false :=
  (lfLoop_spec _ _ _ _ _ _ h).2.1 h0

/-- the first phase of largest-first ends only when `total_requested <= selected_amount`, which is component-wise
coverage whatever the pool holds -/
theorem lfBase_ok {pool : List UTxO} (hp : ∀ u ∈ pool, Value.WF u.amount) (hn : (pool.map UTxO.ref).Nodup) {fee : Int}
    {outputs : List Output} {limit : Option Int} {s : LfState} (h : lfBase fee pool outputs limit = .ok s) :
    Inv False pool s.avail s.sel s.amt ∧ Covers (requestSum fee outputs) s.amt ∧ (s.sel ++ s.avail).Perm pool := by
  obtain ⟨hle, _, ext, h1, h2, h3⟩ := lfLoop_spec _ _ _ _ _ _ h
  have hperm : (ext ++ s.avail).Perm pool := h1 ▸ sortedRev_perm pool
  have hinv := (Inv.init (PoolN.ofWF hp) hn hperm).append
  rw [← h2, ← h3] at hinv
  refine ⟨hinv, (Value.le_iff _ _).1 hle, ?_⟩
  rw [h2]; exact hperm

theorem lfBase_insufficient {pool : List UTxO} (hp : ∀ u ∈ pool, Value.WF u.amount) {fee : Int}
    {outputs : List Output} {limit : Option Int} (h : lfBase fee pool outputs limit = .error .insufficient) :
    ¬ ((requestSum fee outputs).coin ≤ sumBy coinOf pool ∧
        ∀ p n, Value.qty (requestSum fee outputs) p n ≤ sumBy (qtyOf p n) pool) := by
  have hle := lfLoop_spec _ _ _ _ _ _ h rfl
  have hperm := sortedRev_perm pool
  obtain ⟨_, hcoin, hqty⟩ := isSum_addAll (sortAsc pool).reverse isSum_nil (fun u hu => hp u (hperm.subset hu))
  intro hc
  have : Covers (requestSum fee outputs) (addAll ⟨0, []⟩ (sortAsc pool).reverse) :=
    ⟨by rw [hcoin, List.nil_append, sumBy_perm _ hperm]; exact hc.1,
      fun p n => by rw [hqty, List.nil_append, sumBy_perm _ hperm]; exact hc.2 p n⟩
  rw [(Value.le_iff _ _).2 this] at hle
  cases hle

section
variable {env : Env} {pool : List UTxO} {outputs : List Output} {limit : Option Int} {includeFee respectMin : Bool}

theorem lfSelect_topUp {d : Except SelErr (List UTxO × Value)}
    (h : lfSelect env pool outputs limit includeFee respectMin = d) :
    TopUp LfState.sel LfState.amt env outputs limit includeFee respectMin (fun fee => lfBase fee pool outputs limit)
      (fun s => lfBase 0 s.avail.reverse) d := by
  subst h
  simp only [lfSelect]
  split
  · exact Or.inl rfl
  · next f hf =>
    split
    · next e hb => exact Or.inr ⟨f, hf, Or.inl hb⟩
    · next s hs =>
      split
      · next hm =>
        split
        · exact Or.inl rfl
        · next mc hmc =>
          split
          · next hlt =>
            split
            · next e h2 => exact Or.inr ⟨f, hf, Or.inr ⟨s, mc, hs, hm, hmc, h2⟩⟩
            · next s2 h2 => exact ⟨f, s, hf, hs, Or.inr ⟨_, s2, Int.sub_pos.2 hlt, h2, rfl, rfl⟩⟩
          · exact ⟨f, s, hf, hs, Or.inl ⟨rfl, rfl⟩⟩
      · exact ⟨f, s, hf, hs, Or.inl ⟨rfl, rfl⟩⟩

/-- `LargestFirstSelector.select` returns a covering sub-multiset of the pool and the exact change — coverage
included for every pool of legal dicts: both loops end on the component-wise `<=`, and the top-up's `<=` against an
ADA-only request also demands that the inputs it adds hold no net negative quantity -/
theorem lfSelect_ok (hp : ∀ u ∈ pool, Value.WF u.amount) (hn : (pool.map UTxO.ref).Nodup)
    (ho : ∀ o ∈ outputs, Value.WF o.amount) {sel : List UTxO} {change : Value}
    (h : lfSelect env pool outputs limit includeFee respectMin = .ok (sel, change)) :
    ∃ f, feeOf env includeFee = some f ∧
      Good True pool (f + (outputs.map (fun o => o.amount.coin)).sum)
        (fun p n => (outputs.map (fun o => Value.qty o.amount p n)).sum) sel change := by
  refine (lfSelect_topUp h).good (nn' := False) LfState.avail ho (fun f s hs => ?_) (fun s x lim s2 hx hinv h2 => ?_)
  · obtain ⟨a, b, _⟩ := lfBase_ok hp hn hs
    exact ⟨a, fun _ => b⟩
  · have hnd := hinv.nodup
    rw [List.map_append, List.nodup_append] at hnd
    obtain ⟨hinv2, hcov2, _⟩ := lfBase_ok (pool := s.avail.reverse)
      (fun u hu => (hinv.ok u (hinv.sub u (List.mem_append_right _ (List.mem_reverse.1 hu)))).1)
      (by rw [List.map_reverse]; exact (List.reverse_perm _).nodup_iff.2 hnd.2.1) h2
    have hnd2 := hinv2.nodup
    rw [List.map_append, List.nodup_append] at hnd2
    have hc : 0 + x ≤ s2.amt.coin := hcov2.1
    refine ⟨hnd2.1, fun u hu => List.mem_reverse.1 (hinv2.sub u (List.mem_append_left _ hu)), fun _ => ⟨?_, fun p n => ?_⟩⟩
    · rw [← hinv2.sum.2.1]; omega
    · rw [← hinv2.sum.2.2]; exact hcov2.2 p n

/-- `LargestFirstSelector.select` never returns more inputs than the limit allows, the min-change top-up included:
the top-up is given the remaining budget and keeps to it -/
theorem lfSelect_limit (h0 : overLimit limit 0 = false) {sel : List UTxO} {change : Value}
    (h : lfSelect env pool outputs limit includeFee respectMin = .ok (sel, change)) :
    overLimit limit sel.length = false :=
  (lfSelect_topUp h).within (fun _ _ hs => lfBase_limit hs h0) (fun _ _ _ _ h0' h2 => lfBase_limit h2 h0')

/-- when largest-first reports an insufficient balance the pool cannot cover the request — or, in min-change
mode, what the first phase left cannot cover the ADA-only top-up request (request + minimum change of the first-phase
selection not reached by the pool's ADA, or a net negative quantity of some asset in what was left) -/
theorem lfSelect_insufficient (hw : ∀ u ∈ pool, Value.WF u.amount) (hn : (pool.map UTxO.ref).Nodup)
    (ho : ∀ o ∈ outputs, Value.WF o.amount)
    (h : lfSelect env pool outputs limit includeFee respectMin = .error .insufficient) :
    ∃ f, feeOf env includeFee = some f ∧
      (¬ (f + (outputs.map (fun o => o.amount.coin)).sum ≤ sumBy coinOf pool ∧
          ∀ p n, (outputs.map (fun o => Value.qty o.amount p n)).sum ≤ sumBy (qtyOf p n) pool) ∨
       (respectMin = true ∧ ∃ s mc, lfBase f pool outputs limit = .ok s ∧
          env.minChange (Value.sub s.amt (requestSum f outputs)) = some mc ∧
          ¬ (f + (outputs.map (fun o => o.amount.coin)).sum + mc ≤ sumBy coinOf pool ∧
            ∀ p n, 0 ≤ sumBy (qtyOf p n) s.avail))) := by
  obtain ⟨f, hf, hb⟩ := (lfSelect_topUp h).resolve_left (by decide)
  obtain ⟨_, htc, htq⟩ := requestSum_spec f outputs ho
  refine ⟨f, hf, ?_⟩
  rcases hb with hb | ⟨s, mc, hs, hm, hmc, h2⟩
  · left
    simpa only [htc, htq] using lfBase_insufficient hw hb
  · right
    refine ⟨hm, s, mc, hs, hmc, fun hc => ?_⟩
    obtain ⟨hinv, _, hperm⟩ := lfBase_ok hw hn hs
    refine lfBase_insufficient (pool := s.avail.reverse)
      (fun u hu => hw u (hinv.sub u (List.mem_append_right _ (List.mem_reverse.1 hu)))) h2 ⟨?_, fun p n => ?_⟩
    · have e1 : sumBy coinOf pool = s.amt.coin + sumBy coinOf s.avail := by
        rw [← sumBy_perm coinOf hperm, sumBy_append, hinv.sum.2.1]
      have := hc.1
      rw [sumBy_perm _ (List.reverse_perm _)]
      show 0 + (mc - (s.amt.coin - (requestSum f outputs).coin)) ≤ _
      omega
    · rw [sumBy_perm _ (List.reverse_perm _)]; exact hc.2 p n

end

/-! ## RandomImproveMultiAsset -/

theorem nextRandom_spec {rem : List UTxO} {st : List Nat} {d : Draw} : nextRandom rem st = d →
    match d with
    | .ok i u _ => rem[i]? = some u
    | .err e _ => e ≠ .fuel := by
  intro h
  unfold nextRandom at h
  split at h
  · subst h; exact nofun
  · split at h
    · subst h; exact nofun
    · split at h
      · subst h; exact nofun
      · split at h
        · subst h; exact nofun
        · next hu => subst h; exact hu

/-- `_random_select_subset` appends drawn inputs until the amount is covered; the budget `fuel` runs out only if it
was not above `len(remaining)` -/
theorem subsetLoop_spec (nn : Prop) (pool : List UTxO) (r : Value) : ∀ (fuel : Nat) (s : St) (d : Except SelErr St),
    subsetLoop r fuel s = d →
    match d with
    | .ok s' => s.sel.length ≤ s'.sel.length ∧ Value.le r s'.amt = true ∧
        (Inv nn pool s.rem s.sel s.amt → Inv nn pool s'.rem s'.sel s'.amt ∧ CoversIf nn s.amt s'.amt)
    | .error e => e = .fuel → fuel ≤ s.rem.length := by
  intro fuel
  induction fuel with
  | zero => intro s d h; subst h; exact fun _ => Nat.zero_le _
  | succ k ih =>
    intro s d h
    rw [subsetLoop] at h
    split at h
    · next hle => subst h; exact ⟨Nat.le_refl _, hle, fun hinv => ⟨hinv, CoversIf.refl _ _⟩⟩
    · split at h
      · next e _ hd => subst h; exact fun he => absurd he (nextRandom_spec hd)
      · next i u rest hd =>
        have hi : s.rem[i]? = some u := nextRandom_spec hd
        have := ih _ d h
        revert this
        cases d with
        | error e =>
          intro this he
          have := this he
          have := length_eraseIdx_of_get hi
          simp only at *
          omega
        | ok s' =>
          rintro ⟨h1, h2, h3⟩
          refine ⟨?_, h2, fun hinv => ?_⟩
          · rw [List.length_append] at h1; exact Nat.le_of_succ_le h1
          · obtain ⟨a, b⟩ := h3 (hinv.take hi)
            exact ⟨a, (hinv.grow (List.mem_of_getElem? hi)).trans b⟩

theorem subsetLoop_len (r : Value) : ∀ (fuel : Nat) (s s' : St), subsetLoop r fuel s = .ok s' →
    s.sel.length ≤ s'.sel.length :=
  fun fuel s _ h => (subsetLoop_spec True [] r fuel s _ h).1

/-- phase 1 covers the single-asset requests one after the other, testing `len(selected) > max_input_count` after each -/
theorem phase1_spec (nn : Prop) (pool : List UTxO) (limit : Option Int) : ∀ (rs : List Value) (s : St)
    (d : Except SelErr St), phase1 limit rs s = d →
    match d with
    | .ok s' => (overLimit limit s.sel.length = false → overLimit limit s'.sel.length = false) ∧
        (Inv nn pool s.rem s.sel s.amt →
          Inv nn pool s'.rem s'.sel s'.amt ∧ CoversIf nn s.amt s'.amt ∧ ∀ r ∈ rs, CoversIf nn r s'.amt)
    | .error e => e ≠ .fuel := by
  intro rs
  induction rs with
  | nil =>
    intro s d h
    subst h
    exact ⟨id, fun hinv => ⟨hinv, CoversIf.refl _ _, fun _ hr => nomatch hr⟩⟩
  | cons r rs ih =>
    intro s d h
    rw [phase1] at h
    split at h
    · next e he =>
      subst h
      exact fun hf => absurd (subsetLoop_spec nn pool r _ s _ he hf) (Nat.not_succ_le_self _)
    · next s1 hs1 =>
      obtain ⟨_, a2, a3⟩ := subsetLoop_spec nn pool r _ s _ hs1
      split at h
      · subst h; exact nofun
      · next hov =>
        have := ih _ d h
        revert this
        cases d with
        | error e => exact id
        | ok s' =>
          rintro ⟨b1, b2⟩
          refine ⟨fun _ => b1 (Bool.eq_false_iff.2 hov), fun hinv => ?_⟩
          obtain ⟨c1, c2⟩ := a3 hinv
          obtain ⟨d1, d2, d3⟩ := b2 c1
          refine ⟨d1, c2.trans d2, fun x hx => ?_⟩
          rcases List.mem_cons.1 hx with rfl | hx
          · exact CoversIf.trans (fun _ => (Value.le_iff _ _).1 a2) d2
          · exact d3 x hx

/-- one activation of `_improve`: a recursive call was given an index in range and was made below the limit; a
return is never the model's `fuel` -/
theorem improveStep_spec {limit : Option Int} {ideal upper : Value} {rem sel : List UTxO} {amt : Value}
    {st : List Nat} {d : ImpStep} : improveStep limit ideal upper rem sel amt st = d →
    match d with
    | .next i u _ _ => rem[i]? = some u ∧ atLimit limit sel.length = false
    | .stop x _ => x ≠ .fuel := by
  intro h
  unfold improveStep at h
  split at h
  · subst h; exact nofun
  · split at h
    · subst h; exact nofun
    · split at h
      · subst h; exact nofun
      · split at h
        · subst h; exact nofun
        · next hov =>
          have hov : atLimit limit sel.length = false := Bool.eq_false_iff.2 hov
          split at h
          · subst h; exact nofun
          · subst h; exact nofun
          · next i u st' hd =>
            have hi : _[i]? = some u := nextRandom_spec hd
            simp only at h
            split at h
            · subst h; exact nofun
            · split at h
              · split at h
                · subst h; exact nofun
                · subst h; exact ⟨hi, hov⟩
              · subst h; exact ⟨hi, hov⟩

/-- `_improve` appends some drawn inputs `ext`, never past the limit (it returns before appending when
`len(selected) >= max_input_count`), and the budget `fuel` runs out only if it was not above `len(remaining)` -/
theorem improve_spec (nn : Prop) (pool : List UTxO) (limit : Option Int) (ideal upper : Value) :
    ∀ (fuel : Nat) (rem sel : List UTxO) (amt : Value) (st : List Nat) (res : ImpRes),
      improve limit ideal upper fuel rem sel amt st = res →
      (res.stop = .fuel → fuel ≤ rem.length) ∧
      (overLimit limit sel.length = false → overLimit limit res.sel.length = false) ∧
      ∃ ext, res.sel = sel ++ ext ∧
        (Inv nn pool rem sel amt → (∃ rem', Inv nn pool rem' res.sel res.amt) ∧ CoversIf nn amt res.amt) := by
  intro fuel
  induction fuel with
  | zero =>
    intro rem sel amt st res h
    subst h
    exact ⟨fun _ => Nat.zero_le _, id, [], (List.append_nil _).symm, fun hinv => ⟨⟨rem, hinv⟩, CoversIf.refl _ _⟩⟩
  | succ k ih =>
    intro rem sel amt st res h
    rw [improve] at h
    split at h
    · next x st' hs =>
      subst h
      exact ⟨fun hf => absurd hf (improveStep_spec hs), id, [], (List.append_nil _).symm,
        fun hinv => ⟨⟨rem, hinv⟩, CoversIf.refl _ _⟩⟩
    · next i u take st' hs =>
      obtain ⟨hi, hov⟩ : rem[i]? = some u ∧ atLimit limit sel.length = false := improveStep_spec hs
      have hlen := length_eraseIdx_of_get hi
      split at h
      · obtain ⟨a, b, ext, c, d⟩ := ih _ _ _ _ _ h
        refine ⟨fun hf => by have := a hf; omega, fun _ => b ?_, u :: ext, ?_, fun hinv => ?_⟩
        · rw [List.length_append]; exact overLimit_succ hov
        · rw [c, List.append_assoc]; rfl
        · obtain ⟨d1, d2⟩ := d (hinv.take hi)
          exact ⟨d1, (hinv.grow (List.mem_of_getElem? hi)).trans d2⟩
      · obtain ⟨a, b, ext, c, d⟩ := ih _ _ _ _ _ h
        exact ⟨fun hf => by have := a hf; omega, b, ext, c,
          fun hinv => d (hinv.sublist (List.eraseIdx_sublist _ _))⟩

theorem inv_dropSelected {nn : Prop} {pool rem rem' sel ext : List UTxO} {amt amt' : Value}
    (h : Inv nn pool rem sel amt) (h' : Inv nn pool rem' (sel ++ ext) amt') :
    Inv nn pool (dropSelected rem ext) (sel ++ ext) amt' := by
  have hnd := h.nodup
  rw [List.map_append, List.nodup_append] at hnd
  have hnd' := h'.nodup
  rw [List.map_append, List.nodup_append] at hnd'
  have hsub : (dropSelected rem ext).Sublist rem := List.filter_sublist
  refine ⟨h.ok, ?_, ?_, h'.sum⟩
  · rw [List.map_append, List.nodup_append]
    refine ⟨hnd'.1, (hsub.map _).nodup hnd.2.1, ?_⟩
    intro a ha b hb
    obtain ⟨ua, hua, rfl⟩ := List.mem_map.1 ha
    obtain ⟨ub, hub, rfl⟩ := List.mem_map.1 hb
    simp only [dropSelected, List.mem_filter, Bool.not_eq_true', List.any_eq_false, beq_iff_eq] at hub
    rcases List.mem_append.1 hua with hs | he
    · exact hnd.2.2 _ (List.mem_map.2 ⟨ua, hs, rfl⟩) _ (List.mem_map.2 ⟨ub, hub.1, rfl⟩)
    · exact hub.2 ua he
  · intro x hx
    rcases List.mem_append.1 hx with hs | hr
    · exact h'.sub x (List.mem_append_left _ hs)
    · exact h.sub x (List.mem_append_right _ (hsub.subset hr))

theorem phase2_spec (nn : Prop) (pool : List UTxO) (limit : Option Int) : ∀ (rs : List Value) (s : St)
    (d : Except SelErr St), phase2 limit rs s = d →
    match d with
    | .ok s' => (overLimit limit s.sel.length = false → overLimit limit s'.sel.length = false) ∧
        (Inv nn pool s.rem s.sel s.amt → Inv nn pool s'.rem s'.sel s'.amt ∧ CoversIf nn s.amt s'.amt)
    | .error e => e ≠ .fuel := by
  intro rs
  induction rs with
  | nil =>
    intro s d h
    subst h
    exact ⟨id, fun hinv => ⟨hinv, CoversIf.refl _ _⟩⟩
  | cons r rs ih =>
    intro s d h
    simp only [phase2] at h
    obtain ⟨a, b, ext, c, e⟩ := improve_spec nn pool limit (Value.add r r)
      (Value.add (Value.add r r) r) (s.rem.length + 1) s.rem s.sel s.amt s.stream _ rfl
    split at h
    · subst h; exact nofun
    · next hst => exact absurd (a hst) (Nat.not_succ_le_self _)
    · have := ih _ d h
      revert this
      cases d with
      | error e => exact id
      | ok s' =>
        rintro ⟨b1, b2⟩
        refine ⟨fun h0 => b1 (b h0), fun hinv => ?_⟩
        obtain ⟨⟨rem', e1⟩, e2⟩ := e hinv
        rw [c] at e1
        have := inv_dropSelected hinv e1
        rw [← c] at this
        obtain ⟨f1, f2⟩ := b2 (by rw [c, List.drop_left]; rw [c] at this; exact this)
        exact ⟨f1, e2.trans f2⟩

theorem insertDesc_eq (x : Value) (l : List Value) :
    insertDesc x l = insertBy (fun a b => !decide (singleAssetVal b > singleAssetVal a)) x l := by
  induction l with
  | nil => rfl
  | cons y ys ih => simp only [insertDesc, insertBy, ih, Bool.not_eq_eq_eq_not, Bool.not_true, decide_eq_false_iff_not, ite_not]

theorem sortDesc_perm (l : List Value) : (sortDesc l).Perm l := by
  rw [sortDesc, show insertDesc = insertBy _ from funext fun x => funext (insertDesc_eq x), ← isort_eq_foldr]
  exact isort_perm _ l

open Dict in
theorem covers_of_split (t a : Value) (na : NonNegV a)
    (h : ∀ r ∈ splitByAsset t, Covers r a) : Covers t a := by
  refine ⟨?_, fun p n => ?_⟩
  · by_cases hc : t.coin = 0
    · rw [hc]; exact na.1
    · have : (⟨t.coin, []⟩ : Value) ∈ splitByAsset t := by simp [splitByAsset, hc]
      exact (h _ this).1
  · by_cases hq : Value.qty t p n = 0
    · rw [hq]; exact na.2 p n
    · have hhas : has t.ma p = true := by
        cases hh : has t.ma p with
        | true => rfl
        | false => exact absurd (MultiAsset.qty_of_not_has _ _ n hh) hq
      have hm := Dict.getD_mem t.ma p [] hhas
      have hq' : Asset.qty (getD t.ma p []) n ≠ 0 := hq
      have hn := Asset.has_of_qty_ne _ n hq'
      have hmn : (n, getD (getD t.ma p []) n 0) ∈ getD t.ma p [] := Dict.getD_mem _ n 0 hn
      have hmem : (⟨0, [(p, [(n, getD (getD t.ma p []) n 0)])]⟩ : Value) ∈ splitByAsset t := by
        simp only [splitByAsset, List.mem_append, List.mem_flatMap, List.mem_map, List.mem_filter]
        right
        exact ⟨_, hm, _, ⟨hmn, by simpa [Asset.qty] using hq'⟩, rfl⟩
      have := (h _ hmem).2 p n
      have e : Value.qty ⟨0, [(p, [(n, getD (getD t.ma p []) n 0)])]⟩ p n = Value.qty t p n := by
        simp [Value.qty, MultiAsset.qty, Dict.getD, Asset.qty]
      rw [e] at this
      exact this

/-- both phases together: they keep to the limit, keep the invariant and cover the request (all of it: the
single-asset parts are covered one by one and nothing is given back), and do not run out of budget -/
theorem riBase_spec (nn : Prop) {fee : Int} {pool : List UTxO} {outputs : List Output} {limit : Option Int}
    {stream : List Nat} {d : Except SelErr St} : riBase fee pool outputs limit stream = d →
    match d with
    | .ok s => (overLimit limit 0 = false → overLimit limit s.sel.length = false) ∧
        (PoolN nn pool → (pool.map UTxO.ref).Nodup → (∀ o ∈ outputs, Value.WF o.amount) →
          Inv nn pool s.rem s.sel s.amt ∧ CoversIf nn (requestSum fee outputs) s.amt)
    | .error e => e ≠ .fuel := by
  intro h
  simp only [riBase] at h
  split at h
  · next e he => subst h; exact phase1_spec nn pool _ _ _ _ he
  · next s1 h1 =>
    obtain ⟨a1, a2⟩ := phase1_spec nn pool _ _ _ _ h1
    have := phase2_spec nn pool _ _ _ d h
    revert this
    cases d with
    | error e => exact id
    | ok s =>
      rintro ⟨b1, b2⟩
      refine ⟨fun h0 => b1 (a1 h0), fun hp hn ho => ?_⟩
      obtain ⟨c1, _, c3⟩ := a2 (Inv.init hp hn (List.Perm.refl _))
      obtain ⟨d1, d2⟩ := b2 c1
      refine ⟨d1, fun hnn => covers_of_split _ _ (d1.nonneg hnn) fun r hr => ?_⟩
      exact ((c3 r ((sortDesc_perm _).mem_iff.2 hr)).trans d2) hnn

section
variable {env : Env} {pool : List UTxO} {outputs : List Output} {limit : Option Int} {includeFee respectMin : Bool}
  {stream : List Nat}

theorem riSelect_topUp {d : Except SelErr (List UTxO × Value)}
    (h : riSelect env pool outputs limit includeFee respectMin stream = d) :
    TopUp St.sel St.amt env outputs limit includeFee respectMin (fun fee => riBase fee pool outputs limit stream)
      (fun s outs lim => riBase 0 s.rem outs lim s.stream) d := by
  subst h
  simp only [riSelect]
  split
  · exact Or.inl rfl
  · next f hf =>
    split
    · next e hb => exact Or.inr ⟨f, hf, Or.inl hb⟩
    · next s hs =>
      split
      · next hm =>
        split
        · exact Or.inl rfl
        · next mc hmc =>
          split
          · next hlt =>
            split
            · next e h2 => exact Or.inr ⟨f, hf, Or.inr ⟨s, mc, hs, hm, hmc, h2⟩⟩
            · next s2 h2 => exact ⟨f, s, hf, hs, Or.inr ⟨_, s2, Int.sub_pos.2 hlt, h2, rfl, rfl⟩⟩
          · exact ⟨f, s, hf, hs, Or.inl ⟨rfl, rfl⟩⟩
      · exact ⟨f, s, hf, hs, Or.inl ⟨rfl, rfl⟩⟩

/-- `RandomImproveMultiAsset.select` returns a covering sub-multiset of the pool and the exact change, whatever
the random choices -/
theorem riSelect_ok {nn : Prop} (hp : PoolN nn pool) (hn : (pool.map UTxO.ref).Nodup)
    (ho : ∀ o ∈ outputs, Value.WF o.amount) {sel : List UTxO} {change : Value}
    (h : riSelect env pool outputs limit includeFee respectMin stream = .ok (sel, change)) :
    ∃ f, feeOf env includeFee = some f ∧
      Good nn pool (f + (outputs.map (fun o => o.amount.coin)).sum)
        (fun p n => (outputs.map (fun o => Value.qty o.amount p n)).sum) sel change := by
  refine (riSelect_topUp h).good St.rem ho (fun f s hs => (riBase_spec nn hs).2 hp hn ho) (fun s x lim s2 _ hinv h2 => ?_)
  have hsubp : ∀ u ∈ s.rem, u ∈ pool := fun u hu => hinv.sub u (List.mem_append_right _ hu)
  have hnd := hinv.nodup
  rw [List.map_append, List.nodup_append] at hnd
  obtain ⟨hinv2, _⟩ := (riBase_spec nn h2).2 (fun u hu => hp u (hsubp u hu)) hnd.2.1
    (fun o ho => List.mem_singleton.1 ho ▸ MultiAsset.wf_nil)
  have hnd2 := hinv2.nodup
  rw [List.map_append, List.nodup_append] at hnd2
  have hsub2 : ∀ u ∈ s2.sel, u ∈ s.rem := fun u hu => hinv2.sub u (List.mem_append_left _ hu)
  exact ⟨hnd2.1, hsub2, fun hnn => nonNegSum_of_nonneg (fun u hu => (hp u (hsubp u (hsub2 u hu))).2 hnn)⟩

/-- `RandomImproveMultiAsset.select` never returns more inputs than the limit allows, whatever the random choices,
the min-change top-up included: the recursive call is given the remaining budget -/
theorem riSelect_limit (h0 : overLimit limit 0 = false) {sel : List UTxO} {change : Value}
    (h : riSelect env pool outputs limit includeFee respectMin stream = .ok (sel, change)) :
    overLimit limit sel.length = false :=
  (riSelect_topUp h).within (fun _ _ hs => (riBase_spec True hs).1 h0)
    (fun _ _ _ _ h0' h2 => (riBase_spec True h2).1 h0')

end

instance (m : MultiAsset) : Decidable (MultiAsset.NonNeg m) := by unfold MultiAsset.NonNeg; infer_instance

def PoolStored (pool : List UTxO) : Prop :=
  ∀ u ∈ pool, Value.WF u.amount ∧ 0 ≤ u.amount.coin ∧ MultiAsset.NonNeg u.amount.ma

instance (pool : List UTxO) : Decidable (PoolStored pool) := by unfold PoolStored; infer_instance

theorem poolOK_of_stored {pool : List UTxO} (h : PoolStored pool) : PoolOK pool :=
  fun u hu => ⟨(h u hu).1, (h u hu).2.1, MultiAsset.nonneg_content _ (h u hu).2.2⟩

def errOf : Except SelErr (List UTxO × Value) → Option SelErr
  | .error e => some e
  | .ok _ => none

def selLen : Except SelErr (List UTxO × Value) → Nat
  | .ok (s, _) => s.length
  | .error _ => 0

end Pyc.CoinSel
