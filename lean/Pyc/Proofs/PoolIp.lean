import Pyc.Model.Pool
import Pyc.Proofs.Basic

/-! The libc text forms of `Model/Pool.lean`: what `inet_ntoa` writes, `inet_aton` reads back (`aton_ntoa`); what
`inet_ntop(AF_INET6)` writes, `inet_pton(AF_INET6)` reads back (`pton6_ntop6`).

The writers produce digit strings (`decDigits`, `hexDigits`), the readers are loops that consume one character per step.
Each digit string is described once as a list of digits with its value (`decDigits_spec`, `hexDigits_spec`); each reader gets
one lemma for a single step on an arbitrary state and one for a run of digits. -/

namespace Pyc.Pool
open Pyc.Custom

/-! ## digit lists -/

/-- value of the digits `ds` (most significant first) in base `b`, continuing from `acc`: what every reader below computes -/
def ofDigits (b : Nat) (ds : List Nat) (acc : Nat) : Nat := ds.foldl (fun a d => a * b + d) acc

theorem le_ofDigits {b : Nat} (hb : 0 < b) : ∀ (ds : List Nat) (acc : Nat), acc ≤ ofDigits b ds acc
  | [], _ => Nat.le_refl _
  | d :: ds, acc => Nat.le_trans (Nat.le_add_right_of_le (Nat.le_mul_of_pos_right acc hb)) (le_ofDigits hb ds (acc * b + d))

/-- `ds` are the base-`b` digits of `w`, most significant first -/
def IsDigits (b : Nat) (ds : List Nat) (w : Nat) : Prop := (∀ x ∈ ds, x < b) ∧ ofDigits b ds 0 = w

theorem isDigits_one {b w : Nat} (h : w < b) : IsDigits b [w] w :=
  ⟨by simpa using h, by simp [ofDigits]⟩

theorem isDigits_snoc {b w : Nat} {ds : List Nat} (hb : 0 < b) (h : IsDigits b ds (w / b)) :
    IsDigits b (ds ++ [w % b]) w := by
  refine ⟨fun x hx => ?_, ?_⟩
  · rcases List.mem_append.mp hx with hx | hx
    · exact h.1 x hx
    · rw [List.mem_singleton.mp hx]; exact Nat.mod_lt _ hb
  · show List.foldl _ 0 (ds ++ [w % b]) = w
    rw [List.foldl_append]
    show ofDigits b ds 0 * b + w % b = w
    rw [h.2, Nat.div_add_mod']

theorem div_lt_of_lt_mul {w b k : Nat} (hb : 0 < b) (h : w < b * k) : w / b < k :=
  (Nat.div_lt_iff_lt_mul hb).mpr (by rwa [Nat.mul_comm] at h)

/-- `sprintf("%d")` of an octet: its decimal digits, without a leading zero -/
theorem decDigits_spec (n : Nat) (h : n < 256) : ∃ d ds, decDigits n = (d :: ds).map decChar ∧
    IsDigits 10 (d :: ds) n ∧ (d = 0 → ds = []) ∧ ds.length ≤ 2 := by
  have h10 : 0 < 10 := by decide
  by_cases h1 : n < 10
  · exact ⟨n, [], by rw [decDigits, if_pos h1]; rfl, isDigits_one h1, fun _ => rfl, (by decide : 0 ≤ 2)⟩
  by_cases h2 : n < 100
  · exact ⟨n / 10, [n % 10], by rw [decDigits, if_neg h1, if_pos h2]; rfl,
      isDigits_snoc h10 (isDigits_one (div_lt_of_lt_mul h10 h2)),
      fun h0 => absurd ((Nat.div_eq_zero_iff_lt h10).mp h0) h1, (by decide : 1 ≤ 2)⟩
  · have := isDigits_snoc h10 (isDigits_snoc h10 (isDigits_one
      (div_lt_of_lt_mul h10 (div_lt_of_lt_mul h10 (Nat.lt_trans h (by decide)) : n / 10 < 10 * 10))))
    rw [Nat.div_div_eq_div_mul] at this
    exact ⟨n / 100, [n / 10 % 10, n % 10], by rw [decDigits, if_neg h1, if_neg h2]; rfl, this,
      fun h0 => absurd ((Nat.div_eq_zero_iff_lt (by decide)).mp h0) h2, (by decide : 2 ≤ 2)⟩

/-- `sprintf("%x")` of a 16-bit word: its hexadecimal digits -/
theorem hexDigits_spec (w : Nat) (h : w < 65536) : ∃ d ds, hexDigits w = (d :: ds).map hexChar ∧
    IsDigits 16 (d :: ds) w ∧ ds.length ≤ 3 := by
  have h16 : 0 < 16 := by decide
  by_cases h1 : w < 16
  · exact ⟨w, [], by rw [hexDigits, if_pos h1]; rfl, isDigits_one h1, (by decide : 0 ≤ 3)⟩
  by_cases h2 : w < 256
  · exact ⟨w / 16, [w % 16], by rw [hexDigits, if_neg h1, if_pos h2]; rfl,
      isDigits_snoc h16 (isDigits_one (div_lt_of_lt_mul h16 h2)), (by decide : 1 ≤ 3)⟩
  by_cases h3 : w < 4096
  · have := isDigits_snoc h16 (isDigits_snoc h16 (isDigits_one
      (div_lt_of_lt_mul h16 (div_lt_of_lt_mul h16 h3 : w / 16 < 16 * 16))))
    rw [Nat.div_div_eq_div_mul] at this
    exact ⟨w / 256, [w / 16 % 16, w % 16], by rw [hexDigits, if_neg h1, if_neg h2, if_pos h3]; rfl, this, (by decide : 2 ≤ 3)⟩
  · have := isDigits_snoc h16 (isDigits_snoc h16 (isDigits_snoc h16 (isDigits_one
      (div_lt_of_lt_mul h16 (div_lt_of_lt_mul h16 (div_lt_of_lt_mul h16 h : w / 16 < 16 * (16 * 16)))))))
    rw [Nat.div_div_eq_div_mul, Nat.div_div_eq_div_mul, Nat.div_div_eq_div_mul] at this
    exact ⟨w / 4096, [w / 256 % 16, w / 16 % 16, w % 16], by rw [hexDigits, if_neg h1, if_neg h2, if_neg h3]; rfl, this,
      (by decide : 3 ≤ 3)⟩

/-! ## the characters -/

theorem digitVal_decChar : ∀ d, d < 10 → digitVal 10 (decChar d) = some d := by decide
theorem decChar_ne_zero : ∀ d, d < 10 → d ≠ 0 → decChar d ≠ 48 := by decide
theorem isDigit_decChar : ∀ a, a < 10 → isDigit (decChar a) = true := by decide
theorem decChar_val : ∀ a, a < 10 → (decChar a).toNat - 48 = a := by decide
theorem hexByte_decChar : ∀ a, a < 10 → hexByte (decChar a) = some a := by decide
theorem hexByte_hexChar : ∀ x, x < 16 → hexByte (hexChar x) = some x := by decide
theorem hexChar_ne_colon : ∀ x, x < 16 → hexChar x ≠ chColon := by decide
theorem hexByte_colon : hexByte chColon = none := by decide
theorem hexByte_dot : hexByte chDot = none := by decide
theorem isDigit_dot : isDigit chDot = false := by decide
theorem chDot_ne_colon : chDot ≠ chColon := by decide

theorem digitVal_dot (base : Nat) : digitVal base chDot = none := by
  simp [digitVal, hexByte_dot]

/-! ## `strtoul` on a decimal octet -/

/-- value of a digit string read from an accumulator -/
def digitsVal (base : Nat) (ds : Bytes) (acc : Nat) : Nat :=
  ds.foldl (fun a c => a * base + (digitVal base c).getD 0) acc

theorem takeDigits_append (base : Nat) (r : Bytes) (hr : r.head?.bind (digitVal base) = none) :
    ∀ (ds : Bytes) (acc : Nat), (∀ c ∈ ds, (digitVal base c).isSome = true) →
      takeDigits base (ds ++ r) acc = (digitsVal base ds acc, r) := by
  intro ds
  induction ds with
  | nil =>
    intro acc _
    cases r with
    | nil => rfl
    | cons x r' => simp only [List.head?_cons, Option.bind_some] at hr; simp [takeDigits, hr, digitsVal]
  | cons c cs ih =>
    intro acc hd
    obtain ⟨v, hv⟩ := Option.isSome_iff_exists.mp (hd c (by simp))
    simp only [List.cons_append, takeDigits, hv]
    rw [ih _ (fun c' hc' => hd c' (by simp [hc']))]
    simp [digitsVal, hv]

theorem takeDigits_all (base : Nat) : ∀ (ds : Bytes) (acc : Nat), (∀ c ∈ ds, (digitVal base c).isSome = true) →
    takeDigits base ds acc = (digitsVal base ds acc, []) := by
  intro ds acc hd
  simpa using takeDigits_append base [] rfl ds acc hd

theorem digitsVal_map {base : Nat} {f : Nat → UInt8} : ∀ (ds : List Nat) (acc : Nat),
    (∀ d ∈ ds, digitVal base (f d) = some d) → digitsVal base (ds.map f) acc = ofDigits base ds acc
  | [], _, _ => rfl
  | d :: ds, acc, h => by
    have := digitsVal_map ds (acc * base + d) (fun x hx => h x (by simp [hx]))
    simpa [digitsVal, ofDigits, h d (by simp)] using this

theorem strtoul0_octet (n : Nat) (h : n < 256) (r : Bytes) (hr : r = [] ∨ ∃ r', r = chDot :: r') :
    strtoul0 (decDigits n ++ r) = (n, r) := by
  obtain ⟨d, ds, e, hdig, hlead, _⟩ := decDigits_spec n h
  by_cases h0 : d = 0
  · -- the text is `0`: read as an octal number
    obtain rfl := hlead h0
    obtain rfl : n = 0 := by rw [← hdig.2, h0]; rfl
    have d8 : digitVal 8 48 = some 0 := by decide
    have x1 : ¬ (chDot = 120 ∨ chDot = 88) := by decide
    have e0 : decDigits 0 = [48] := by decide
    rw [e0]
    rcases hr with rfl | ⟨r', rfl⟩
    · simp [strtoul0, takeDigits, d8]
    · cases r' <;> simp [strtoul0, takeDigits, d8, x1, digitVal_dot]
  · have hdv : ∀ x ∈ d :: ds, digitVal 10 (decChar x) = some x := fun x hx => digitVal_decChar x (hdig.1 x hx)
    have hall : ∀ c ∈ (d :: ds).map decChar, (digitVal 10 c).isSome = true := by
      intro c hc
      obtain ⟨x, hx, rfl⟩ := List.mem_map.mp hc
      rw [hdv x hx]; rfl
    have hh : ((d :: ds).map decChar ++ r).head? ≠ some 48 := by
      simpa using decChar_ne_zero d (hdig.1 d (by simp)) h0
    have hr' : r.head?.bind (digitVal 10) = none := by
      rcases hr with rfl | ⟨r', rfl⟩
      · rfl
      · exact digitVal_dot 10
    rw [e, strtoul0, if_neg hh, takeDigits_append 10 r hr' _ _ hall, digitsVal_map _ _ hdv, hdig.2]

/-! ## `inet_aton ∘ inet_ntoa` -/

theorem atonLoop_dot (fuel n : Nat) (parts : List Nat) (r : Bytes) (hn : n < 256) (hp : parts.length ≤ 2) :
    atonLoop (fuel + 1) (decDigits n ++ chDot :: r) parts = atonLoop fuel r (parts ++ [n]) := by
  have hs := strtoul0_octet n hn (chDot :: r) (.inr ⟨r, rfl⟩)
  obtain ⟨d, ds, e, hdig, _⟩ := decDigits_spec n hn
  rw [e] at hs ⊢
  have h1 : ¬ n > 0xffffffff := by omega
  have h2 : ¬ (parts.length > 2 ∨ n > 255) := by omega
  simp only [List.map_cons, List.cons_append] at hs ⊢
  simp only [atonLoop, isDigit_decChar d (hdig.1 d (by simp)), hs]
  simp [h1, h2]

theorem atonLoop_end (fuel n : Nat) (parts : List Nat) (hn : n < 256) (hp : parts.length = 3) :
    atonLoop (fuel + 1) (decDigits n) parts = some (parts.map UInt8.ofNat ++ [UInt8.ofNat n]) := by
  have hs := strtoul0_octet n hn [] (.inl rfl)
  obtain ⟨d, ds, e, hdig, _⟩ := decDigits_spec n hn
  rw [e] at hs ⊢
  have h1 : ¬ n > 0xffffffff := by omega
  have hm : atonMax 3 = 255 := by decide
  have h2 : ¬ n > atonMax 3 := by omega
  simp only [List.map_cons, List.append_nil] at hs ⊢
  simp only [atonLoop, isDigit_decChar d (hdig.1 d (by simp)), hs]
  simp [h1, hp, h2, beBytes]
  rw [Nat.mod_eq_of_lt hn]

theorem aton_dotted (a b c d : UInt8) : aton (dotted a b c d) = some [a, b, c, d] := by
  -- the fuel is the length of the text and more than the four rounds needed
  obtain ⟨k, hk⟩ : ∃ k, (dotted a b c d).length + 1 = k + 4 := ⟨(dotted a b c d).length - 3, by simp [dotted]; omega⟩
  rw [aton, hk, dotted]
  rw [atonLoop_dot _ _ _ _ a.toNat_lt (by simp), atonLoop_dot _ _ _ _ b.toNat_lt (by simp),
    atonLoop_dot _ _ _ _ c.toNat_lt (by simp), atonLoop_end _ _ _ d.toNat_lt (by simp)]
  simp

/-- **`inet_aton(inet_ntoa(b)) = b`** for every 4-byte string -/
theorem aton_ntoa (b : Bytes) (h : b.length = 4) : ∃ t, ntoa b = some t ∧ aton t = some b := by
  match b, h with
  | [a, b, c, d], _ => exact ⟨dotted a b c d, rfl, aton_dotted a b c d⟩

theorem ntoa_length (b t : Bytes) (h : ntoa b = some t) : b.length = 4 := by
  revert h
  fun_cases ntoa b <;> intro h <;> cases h
  rfl

/-! ## `inet_pton(AF_INET6)`: steps of the loop -/

theorem p6_hex (ch : UInt8) (src ct tp : Bytes) (cp : Option Nat) (xd val d : Nat)
    (hd : hexByte ch = some d) (hx : xd < 4) (hv : val * 16 + d ≤ 0xffff) :
    p6Loop (ch :: src) ct ⟨tp, cp, xd, val⟩ = p6Loop src ct ⟨tp, cp, xd + 1, val * 16 + d⟩ := by
  have h1 : ¬ xd = 4 := by omega
  have h2 : ¬ val * 16 + d > 0xffff := by omega
  simp only [p6Loop, hd]
  simp [h1, h2]

/-- a run of hex digits inside a group.  With at most four digits per group the value test of the loop never fires:
after `xd` digits the value is below `16 ^ xd`. -/
theorem p6_hexrun (f : Nat → UInt8) (rest ct tp : Bytes) (cp : Option Nat) :
    ∀ (ds : List Nat) (xd val : Nat), (∀ d ∈ ds, d < 16 ∧ hexByte (f d) = some d) → xd + ds.length ≤ 4 → val < 16 ^ xd →
      p6Loop (ds.map f ++ rest) ct ⟨tp, cp, xd, val⟩ = p6Loop rest ct ⟨tp, cp, xd + ds.length, ofDigits 16 ds val⟩
  | [], _, _, _, _, _ => rfl
  | d :: ds, xd, val, hf, hl, hv => by
    obtain ⟨hd, hb⟩ := hf d (by simp)
    simp only [List.length_cons] at hl
    have hv' : val * 16 + d < 16 ^ (xd + 1) := by rw [Nat.pow_succ]; omega
    have h4 : 16 ^ (xd + 1) ≤ 16 ^ 4 := Nat.pow_le_pow_right (by decide) (by omega)
    rw [List.map_cons, List.cons_append, p6_hex _ _ _ _ _ _ _ _ hb (by omega) (by omega),
      p6_hexrun f rest ct tp cp ds (xd + 1) _ (fun x hx => hf x (by simp [hx])) (by omega) hv']
    simp only [List.length_cons, ofDigits, List.foldl_cons]
    rw [Nat.add_assoc, Nat.add_comm 1]

theorem p6_colon_group (src ct tp : Bytes) (cp : Option Nat) (xd val : Nat)
    (hx : xd ≠ 0) (hs : src ≠ []) (ht : tp.length + 2 ≤ 16) :
    p6Loop (chColon :: src) ct ⟨tp, cp, xd, val⟩ = p6Loop src src ⟨tp ++ wordBytes val, cp, 0, 0⟩ := by
  have h1 : ¬ tp.length + 2 > 16 := by omega
  have h2 : src.isEmpty = false := by cases src with | nil => exact absurd rfl hs | cons _ _ => rfl
  simp only [p6Loop, hexByte_colon]
  simp [hx, h1, h2]

theorem p6_colon_dbl (src ct tp : Bytes) (val : Nat) :
    p6Loop (chColon :: src) ct ⟨tp, none, 0, val⟩ = p6Loop src src ⟨tp, some tp.length, 0, val⟩ := by
  simp only [p6Loop, hexByte_colon]
  simp

theorem p6_dot (rest ct tp b4 : Bytes) (cp : Option Nat) (xd val : Nat) (ht : tp.length + 4 ≤ 16) (h4 : pton4 ct = some b4) :
    p6Loop (chDot :: rest) ct ⟨tp, cp, xd, val⟩ = some ⟨tp ++ b4, cp, 0, 0⟩ := by
  simp only [p6Loop, hexByte_dot]
  simp [chDot_ne_colon, ht, h4]

theorem p6_group (w : Nat) (hw : w < 65536) (rest ct tp : Bytes) (cp : Option Nat) :
    ∃ k, 0 < k ∧ p6Loop (hexDigits w ++ rest) ct ⟨tp, cp, 0, 0⟩ = p6Loop rest ct ⟨tp, cp, k, w⟩ := by
  obtain ⟨d, ds, e, hdig, hlen⟩ := hexDigits_spec w hw
  refine ⟨0 + (d :: ds).length, by simp, ?_⟩
  rw [e, p6_hexrun hexChar rest ct tp cp (d :: ds) 0 0 (fun x hx => ⟨hdig.1 x hx, hexByte_hexChar x (hdig.1 x hx)⟩)
    (by simp only [List.length_cons]; omega) (by decide), hdig.2]

theorem p6_group_colon (w : Nat) (hw : w < 65536) (rest ct tp : Bytes) (cp : Option Nat) (hr : rest ≠ [])
    (ht : tp.length + 2 ≤ 16) :
    p6Loop (hexDigits w ++ chColon :: rest) ct ⟨tp, cp, 0, 0⟩ = p6Loop rest rest ⟨tp ++ wordBytes w, cp, 0, 0⟩ := by
  obtain ⟨k, hk, e⟩ := p6_group w hw (chColon :: rest) ct tp cp
  rw [e, p6_colon_group _ _ _ _ _ _ (by omega) hr ht]

/-! ## groups joined by colons -/

theorem joinGroups_cons (w : Nat) (ws : List Nat) (hw : w < 65536) :
    ∃ x tl, x < 16 ∧ joinGroups (w :: ws) = hexChar x :: tl := by
  obtain ⟨d, ds, e, hdig, _⟩ := hexDigits_spec w hw
  have hx := hdig.1 d (by simp)
  cases ws with
  | nil => exact ⟨d, ds.map hexChar, hx, e⟩
  | cons w' ws' => exact ⟨d, ds.map hexChar ++ chColon :: joinGroups (w' :: ws'), hx, by simp [joinGroups, e]⟩

theorem wordsBytes_append (a b : List Nat) : wordsBytes (a ++ b) = wordsBytes a ++ wordsBytes b := by
  induction a with
  | nil => rfl
  | cons w ws ih => simp [wordsBytes, ih]

theorem wordsBytes_length (a : List Nat) : (wordsBytes a).length = 2 * a.length := by
  induction a with
  | nil => rfl
  | cons w ws ih => simp [wordsBytes, wordBytes, ih]; omega

theorem p6_groups_colon (R : Bytes) (hR : R ≠ []) (cp : Option Nat) :
    ∀ (pre : List Nat) (ct tp : Bytes), pre ≠ [] → (∀ w ∈ pre, w < 65536) → tp.length + 2 * pre.length ≤ 16 →
      p6Loop (joinGroups pre ++ chColon :: R) ct ⟨tp, cp, 0, 0⟩ = p6Loop R R ⟨tp ++ wordsBytes pre, cp, 0, 0⟩ := by
  intro pre
  induction pre with
  | nil => intro _ _ h; exact absurd rfl h
  | cons w ws ih =>
    intro ct tp _ hlt hlen
    have hw := hlt w (by simp)
    simp only [List.length_cons] at hlen
    cases ws with
    | nil =>
      simp only [joinGroups, wordsBytes, List.append_nil]
      exact p6_group_colon w hw R ct tp cp hR (by omega)
    | cons w' ws' =>
      have hne : joinGroups (w' :: ws') ++ chColon :: R ≠ [] := by simp
      have e : joinGroups (w :: w' :: ws') ++ chColon :: R =
          hexDigits w ++ chColon :: (joinGroups (w' :: ws') ++ chColon :: R) := by simp [joinGroups]
      rw [e, p6_group_colon w hw _ ct tp cp hne (by omega),
        ih _ _ (by simp) (fun x hx => hlt x (by simp [hx])) (by simp [wordBytes]; simp at hlen; omega)]
      simp [wordsBytes]

/-- the second half of `p6Finish`: the expansion of `::` and the length test -/
def fin6 (tp : Bytes) (cp : Option Nat) : Option Bytes :=
  match cp with
  | some c => if tp.length = 16 then none else some (tp.take c ++ List.replicate (16 - tp.length) 0 ++ tp.drop c)
  | none => if tp.length = 16 then some tp else none

/-- the loop followed by the tail of `inet_pton6` -/
def run6 (s ct : Bytes) (st : P6) : Option Bytes :=
  match p6Loop s ct st with
  | some st' => p6Finish st'
  | none => none

theorem p6Finish_pending (tp : Bytes) (cp : Option Nat) (k val : Nat) (hk : 0 < k) (ht : tp.length + 2 ≤ 16) :
    p6Finish ⟨tp, cp, k, val⟩ = fin6 (tp ++ wordBytes val) cp := by
  have h1 : ¬ tp.length + 2 > 16 := by omega
  simp only [p6Finish, hk, h1, if_true, if_false, fin6]
  cases cp <;> rfl

theorem p6Finish_idle (tp : Bytes) (cp : Option Nat) (val : Nat) : p6Finish ⟨tp, cp, 0, val⟩ = fin6 tp cp := by
  simp only [p6Finish, Nat.lt_irrefl, if_false, fin6]
  cases cp <;> rfl

theorem run6_groups (cp : Option Nat) :
    ∀ (ws : List Nat) (ct tp : Bytes), (∀ w ∈ ws, w < 65536) → tp.length + 2 * ws.length ≤ 16 →
      run6 (joinGroups ws) ct ⟨tp, cp, 0, 0⟩ = fin6 (tp ++ wordsBytes ws) cp := by
  intro ws
  induction ws with
  | nil => intro _ tp _ _; simp only [joinGroups, run6, p6Loop, p6Finish_idle, wordsBytes, List.append_nil]
  | cons w ws ih =>
    intro ct tp hlt hlen
    have hw := hlt w (by simp)
    simp only [List.length_cons] at hlen
    cases ws with
    | nil =>
      -- the last group is pending when the loop ends
      obtain ⟨k, hk, e⟩ := p6_group w hw [] ct tp cp
      rw [List.append_nil] at e
      simp only [joinGroups, run6, e, p6Loop, wordsBytes, List.append_nil]
      exact p6Finish_pending tp cp k w hk (by omega)
    | cons w' ws' =>
      have hne : joinGroups (w' :: ws') ≠ [] := by
        obtain ⟨x, tl, _, e⟩ := joinGroups_cons w' ws' (hlt w' (by simp))
        rw [e]
        exact List.cons_ne_nil _ _
      have e : joinGroups (w :: w' :: ws') = hexDigits w ++ chColon :: joinGroups (w' :: ws') := by simp [joinGroups]
      have := ih (joinGroups (w' :: ws')) (tp ++ wordBytes w) (fun x hx => hlt x (by simp [hx]))
        (by simp [wordBytes]; simp at hlen; omega)
      unfold run6 at this ⊢
      rw [e, p6_group_colon w hw _ ct tp cp hne (by omega), this]
      simp [wordsBytes]

/-! ## the strict dotted quad inside an IPv6 text -/

theorem p4_digit (a : Nat) (ha : a < 10) (src : Bytes) (done : List Nat) (cur : Nat) (saw : Bool)
    (h1 : ¬ (saw = true ∧ cur = 0)) (h2 : cur * 10 + a ≤ 255) (h3 : saw = true ∨ done.length < 4) :
    pton4Loop (decChar a :: src) done cur saw = pton4Loop src done (cur * 10 + a) true := by
  have h2' : ¬ cur * 10 + a > 255 := by omega
  have h3' : ¬ ((!saw) = true ∧ done.length ≥ 4) := by
    rcases h3 with h3 | h3
    · simp [h3]
    · omega
  simp only [pton4Loop, isDigit_decChar a ha, decChar_val a ha, if_true]
  rw [if_neg h1, if_neg h2', if_neg h3']

/-- further digits of an octet: accepted as long as the octet did not start with `0` -/
theorem p4_digits (rest : Bytes) (done : List Nat) : ∀ (ds : List Nat) (cur : Nat), (∀ d ∈ ds, d < 10) →
    (cur = 0 → ds = []) → ofDigits 10 ds cur ≤ 255 →
    pton4Loop (ds.map decChar ++ rest) done cur true = pton4Loop rest done (ofDigits 10 ds cur) true
  | [], _, _, _, _ => rfl
  | d :: ds, cur, hd, h0, hv => by
    have hc : cur ≠ 0 := fun h => List.cons_ne_nil _ _ (h0 h)
    rw [List.map_cons, List.cons_append,
      p4_digit d (hd d (by simp)) _ _ _ _ (by simp [hc]) (Nat.le_trans (le_ofDigits (by decide) ds _) hv) (.inl rfl),
      p4_digits rest done ds (cur * 10 + d) (fun x hx => hd x (by simp [hx])) (fun h => absurd h (by omega)) hv]
    rfl

theorem p4_dot (src : Bytes) (done : List Nat) (cur : Nat) (h : done.length < 3) :
    pton4Loop (chDot :: src) done cur true = pton4Loop src (done ++ [cur]) 0 false := by
  have h' : ¬ done.length ≥ 3 := by omega
  simp only [pton4Loop, isDigit_dot]
  simp [h']

theorem p4_octet (n : Nat) (hn : n < 256) (rest : Bytes) (done : List Nat) (hd : done.length < 4) :
    pton4Loop (decDigits n ++ rest) done 0 false = pton4Loop rest done n true := by
  obtain ⟨d, ds, e, hdig, hlead, _⟩ := decDigits_spec n hn
  have hv : ofDigits 10 ds (0 * 10 + d) = n := hdig.2
  have h1 : 0 * 10 + d ≤ 255 := Nat.le_trans (le_ofDigits (b := 10) (by decide) ds _) (by rw [hv]; omega)
  rw [e, List.map_cons, List.cons_append, p4_digit d (hdig.1 d (by simp)) _ _ _ _ (by simp) h1 (.inr hd),
    p4_digits rest done ds _ (fun x hx => hdig.1 x (by simp [hx])) (fun h => hlead (by omega)) (by omega), hv]

theorem pton4_dotted (a b c d : UInt8) : pton4 (dotted a b c d) = some [a, b, c, d] := by
  unfold pton4 dotted
  rw [p4_octet _ a.toNat_lt _ _ (by simp), p4_dot _ _ _ (by simp),
    p4_octet _ b.toNat_lt _ _ (by simp), p4_dot _ _ _ (by simp),
    p4_octet _ c.toNat_lt _ _ (by simp), p4_dot _ _ _ (by simp)]
  have := p4_octet d.toNat d.toNat_lt [] ([] ++ [a.toNat] ++ [b.toNat] ++ [c.toNat]) (by simp)
  rw [List.append_nil] at this
  rw [this]
  simp [pton4Loop]

/-- a dotted quad inside an IPv6 text: the digits of its first octet are read as hex digits, the dot hands the whole current
token to `inet_pton4` -/
theorem p6_dotted (a b c d : UInt8) (tp : Bytes) (cp : Option Nat) (ht : tp.length + 4 ≤ 16) :
    p6Loop (dotted a b c d) (dotted a b c d) ⟨tp, cp, 0, 0⟩ = some ⟨tp ++ [a, b, c, d], cp, 0, 0⟩ := by
  have h4 := pton4_dotted a b c d
  obtain ⟨x, xs, e, hdig, _, hlen⟩ := decDigits_spec a.toNat a.toNat_lt
  have hf : ∀ y ∈ x :: xs, y < 16 ∧ hexByte (decChar y) = some y := fun y hy =>
    ⟨Nat.lt_trans (hdig.1 y hy) (by decide), hexByte_decChar y (hdig.1 y hy)⟩
  unfold dotted at h4 ⊢
  rw [e] at h4 ⊢
  rw [p6_hexrun decChar _ _ tp cp (x :: xs) 0 0 hf (by simp only [List.length_cons]; omega) (by decide),
    p6_dot _ _ _ _ _ _ _ ht h4]

/-! ## words of a byte string, the run of zero words -/

theorem wordBytes_pair (a b : UInt8) : wordBytes (a.toNat * 256 + b.toNat) = [a, b] := by
  have ha := a.toNat_lt
  have hb := b.toNat_lt
  have e1 : (a.toNat * 256 + b.toNat) / 256 = a.toNat := by omega
  have e2 : (a.toNat * 256 + b.toNat) % 256 = b.toNat := by omega
  simp [wordBytes, e1, e2]

theorem words16_spec : ∀ (b : Bytes), b.length % 2 = 0 →
    wordsBytes (words16 b) = b ∧ (∀ w ∈ words16 b, w < 65536) ∧ 2 * (words16 b).length = b.length
  | [], _ => ⟨rfl, by simp [words16], rfl⟩
  | [_], h => by simp at h
  | a :: b :: r, h => by
    obtain ⟨h1, h2, h3⟩ := words16_spec r (by simp at h; omega)
    refine ⟨?_, fun w hw => ?_, by simp [words16]; omega⟩
    · simp only [words16, wordsBytes, wordBytes_pair, h1]
      rfl
    · rcases List.mem_cons.mp hw with rfl | hw
      · have := a.toNat_lt
        have := b.toNat_lt
        omega
      · exact h2 w hw

theorem wordsBytes_zeros (k : Nat) : wordsBytes (List.replicate k 0) = List.replicate (2 * k) 0 := by
  induction k with
  | zero => rfl
  | succ k ih =>
    have : 2 * (k + 1) = (2 * k) + 1 + 1 := by omega
    rw [List.replicate_succ, wordsBytes, ih, this, List.replicate_succ, List.replicate_succ]
    rfl

theorem zeroRun_spec (ws : List Nat) : ∃ post, ws = List.replicate (zeroRun ws) 0 ++ post := by
  induction ws with
  | nil => exact ⟨[], rfl⟩
  | cons w ws ih =>
    by_cases h : w = 0
    · obtain ⟨post, e⟩ := ih
      refine ⟨post, ?_⟩
      subst h
      simp only [zeroRun, if_true, List.replicate_succ, List.cons_append]
      rw [← e]
    · exact ⟨w :: ws, by simp [zeroRun, h]⟩

theorem bestRun_spec : ∀ (ws : List Nat) (i : Nat), 0 < (bestRun ws i).2 →
    ∃ pre post, ws = pre ++ List.replicate (bestRun ws i).2 0 ++ post ∧ (bestRun ws i).1 = i + pre.length := by
  intro ws
  induction ws with
  | nil => intro i h; simp [bestRun] at h
  | cons w ws ih =>
    intro i h
    unfold bestRun at h ⊢
    simp only at h ⊢
    split
    · obtain ⟨post, e⟩ := zeroRun_spec (w :: ws)
      exact ⟨[], post, by simpa using e, by simp⟩
    · rename_i hc
      rw [if_neg hc] at h
      obtain ⟨pre, post, e, hb⟩ := ih (i + 1) h
      refine ⟨w :: pre, post, by simp only [List.cons_append]; exact congrArg (List.cons w) e, ?_⟩
      rw [hb]; simp; omega

/-! ## `inet_pton(AF_INET6) ∘ inet_ntop(AF_INET6)` -/

/-- a text that starts with a group does not start with a colon: `inet_pton6` runs the loop from the initial state -/
theorem pton6_of_group (w : Nat) (ws : List Nat) (hw : w < 65536) (R : Bytes) :
    pton6 (joinGroups (w :: ws) ++ R) = run6 (joinGroups (w :: ws) ++ R) (joinGroups (w :: ws) ++ R) ⟨[], none, 0, 0⟩ := by
  obtain ⟨x, tl, hx, e⟩ := joinGroups_cons w ws hw
  rw [e, List.cons_append]
  simp only [pton6, hexChar_ne_colon x hx, if_false, run6]
  rfl

theorem pton6_dblcolon (tl : Bytes) : pton6 (chColon :: chColon :: tl) = run6 tl tl ⟨[], some 0, 0, 0⟩ := by
  simp only [pton6, if_true, run6]
  rw [p6_colon_dbl]
  rfl

/-- after `::` at position `tp.length`: the remaining groups (possibly none), and `k` zero groups in the gap -/
theorem run6_after_dbl (post : List Nat) (hlt : ∀ w ∈ post, w < 65536) (tp : Bytes) (k : Nat) (hk : 0 < k)
    (hlen : tp.length + 2 * k + 2 * post.length = 16) :
    run6 (joinGroups post) (joinGroups post) ⟨tp, some tp.length, 0, 0⟩ =
      some (tp ++ List.replicate (2 * k) 0 ++ wordsBytes post) := by
  have hl : (tp ++ wordsBytes post).length = tp.length + 2 * post.length := by rw [List.length_append, wordsBytes_length]
  have hgap : 16 - (tp.length + 2 * post.length) = 2 * k := by omega
  rw [run6_groups _ _ _ _ hlt (by omega), fin6, if_neg (by omega), List.take_left' rfl, List.drop_left' rfl, hl, hgap]

theorem pton6_compressed (pre post : List Nat) (hpre : ∀ w ∈ pre, w < 65536) (hpost : ∀ w ∈ post, w < 65536)
    (k : Nat) (hk : 0 < k) (hlen : pre.length + k + post.length = 8) :
    pton6 (joinGroups pre ++ chColon :: chColon :: joinGroups post) =
      some (wordsBytes pre ++ List.replicate (2 * k) 0 ++ wordsBytes post) := by
  cases pre with
  | nil =>
    rw [joinGroups, List.nil_append, pton6_dblcolon]
    exact run6_after_dbl post hpost [] k hk (by simp at hlen ⊢; omega)
  | cons w ws =>
    have hl := wordsBytes_length (w :: ws)
    have := run6_after_dbl post hpost ([] ++ wordsBytes (w :: ws)) k hk (by rw [List.nil_append, hl]; omega)
    unfold run6 at this
    rw [pton6_of_group w ws (hpre w (by simp))]
    unfold run6
    rw [p6_groups_colon (chColon :: joinGroups post) (by simp) none (w :: ws) _ [] (by simp) hpre (by simp at hlen ⊢; omega),
      p6_colon_dbl, this]
    rfl

theorem pton6_full (ws : List Nat) (hlt : ∀ w ∈ ws, w < 65536) (hlen : ws.length = 8) :
    pton6 (joinGroups ws) = some (wordsBytes ws) := by
  cases ws with
  | nil => simp at hlen
  | cons w ws' =>
    have h := pton6_of_group w ws' (hlt w (by simp)) []
    rw [List.append_nil] at h
    rw [h, run6_groups none _ _ [] hlt (by rw [hlen]; decide), List.nil_append, fin6, if_pos (by rw [wordsBytes_length, hlen])]

theorem pton6_v4compat (p q r s : UInt8) :
    pton6 (chColon :: chColon :: dotted p q r s) = some (List.replicate 12 0 ++ [p, q, r, s]) := by
  rw [pton6_dblcolon]
  simp only [run6, p6_dotted p q r s [] (some 0) (by simp), p6Finish_idle]
  simp [fin6]

theorem wordBytes_ffff : wordBytes 0xffff = [255, 255] := by decide

theorem pton6_v4mapped (p q r s : UInt8) :
    pton6 (chColon :: chColon :: (hexDigits 0xffff ++ chColon :: dotted p q r s)) =
      some (List.replicate 10 0 ++ [255, 255] ++ [p, q, r, s]) := by
  rw [pton6_dblcolon]
  have hne : dotted p q r s ≠ [] := by
    obtain ⟨d, ds, e, _⟩ := decDigits_spec p.toNat p.toNat_lt
    simp [dotted, e]
  unfold run6
  rw [p6_group_colon 0xffff (by omega) _ _ [] (some 0) hne (by simp)]
  rw [p6_dotted p q r s ([] ++ wordBytes 0xffff) (some 0) (by simp [wordBytes])]
  simp only [p6Finish_idle, wordBytes_ffff]
  simp [fin6]

theorem list3 (l : List Nat) (h : l.length = 3) : ∃ x y z, l = [x, y, z] := by
  match l, h with
  | [x, y, z], _ => exact ⟨x, y, z, rfl⟩

theorem drop12 (b : Bytes) (h : b.length = 16) : ∃ p q r s, b.drop 12 = [p, q, r, s] := by
  have hl : (b.drop 12).length = 4 := by simp [h]
  match hd : b.drop 12, hl with
  | [p, q, r, s], _ => exact ⟨p, q, r, s, rfl⟩

/-- **`inet_pton(AF_INET6, inet_ntop(AF_INET6, b)) = b`** for every 16-byte string -/
theorem pton6_ntop6 (b : Bytes) (h : b.length = 16) : ∃ t, ntop6 b = some t ∧ pton6 t = some b := by
  obtain ⟨hwb, hlt, hwl⟩ := words16_spec b (by rw [h])
  replace hwl : (words16 b).length = 8 := by omega
  obtain ⟨p, q, r, s, hd⟩ := drop12 b h
  have hspec := bestRun_spec (words16 b) 0
  rw [ntop6, if_neg (fun hne => hne h)]
  simp only []
  generalize bestRun (words16 b) 0 = br at hspec ⊢
  by_cases hrun : br.2 < 2
  · -- no run of two zero groups
    exact ⟨_, if_pos hrun, by rw [pton6_full _ hlt hwl, hwb]⟩
  rw [if_neg hrun]
  obtain ⟨pre, post, e, hb⟩ := hspec (by omega)
  rw [Nat.zero_add] at hb
  have hlen : pre.length + br.2 + post.length = 8 := by
    rw [← hwl, e, List.length_append, List.length_append, List.length_replicate]
  have hpre : ∀ w ∈ pre, w < 65536 := fun w hw => hlt w (by rw [e]; simp [hw])
  have hpost : ∀ w ∈ post, w < 65536 := fun w hw => hlt w (by rw [e]; simp [hw])
  have hbytes : b = wordsBytes pre ++ List.replicate (2 * br.2) 0 ++ wordsBytes post := by
    rw [← wordsBytes_zeros, ← wordsBytes_append, ← wordsBytes_append, ← e, hwb]
  by_cases hc : br.1 = 0 ∧ br.2 = 6
  · -- `::a.b.c.d`
    rw [if_pos hc, hd]
    refine ⟨_, rfl, ?_⟩
    obtain rfl : pre = [] := List.eq_nil_of_length_eq_zero (hb ▸ hc.1)
    rw [hc.2] at hbytes
    have hdp : b.drop 12 = wordsBytes post := by rw [hbytes]; exact List.drop_left' rfl
    rw [pton6_v4compat, ← hd, hdp]
    exact congrArg some hbytes.symm
  rw [if_neg hc]
  by_cases hm : br.1 = 0 ∧ br.2 = 5 ∧ (words16 b).getD 5 0 = 0xffff
  · -- `::ffff:a.b.c.d`
    rw [if_pos hm, hd]
    refine ⟨_, rfl, ?_⟩
    obtain rfl : pre = [] := List.eq_nil_of_length_eq_zero (hb ▸ hm.1)
    rw [hm.2.1] at hbytes hlen e
    obtain ⟨w5, w6, w7, rfl⟩ := list3 post (by simp at hlen; omega)
    obtain rfl : w5 = 0xffff := by
      have := hm.2.2
      rw [e] at this
      simpa using this
    have hdp : b.drop 12 = wordsBytes [w6, w7] := by
      rw [hbytes]; simp [wordsBytes, wordBytes_ffff]
    rw [pton6_v4mapped, hbytes, ← hd, hdp]
    simp [wordsBytes, wordBytes_ffff]
  · -- the general `::` form
    rw [if_neg hm]
    refine ⟨_, rfl, ?_⟩
    have ht : (words16 b).take br.1 = pre := by
      rw [hb, e, List.append_assoc, List.take_left' rfl]
    have hdr : (words16 b).drop (br.1 + br.2) = post := by
      rw [hb, e]
      exact List.drop_left' (by simp)
    rw [ht, hdr, pton6_compressed pre post hpre hpost br.2 (by omega) hlen]
    exact congrArg some hbytes.symm
theorem ntop6_length (b t : Bytes) (h : ntop6 b = some t) : b.length = 16 := by
  by_cases hl : b.length = 16
  · exact hl
  · rw [ntop6, if_pos hl] at h
    cases h

/-! ## whatever the readers accept has the right length

Each reader answers `none` at every test that fails.  Functional induction gives one case per branch of a reader, and `cases`
on the hypothesis that the run was accepted closes the refusing ones; what remains are the ends of the text and the
recursive calls. -/

theorem atonLoop_length : ∀ (fuel : Nat) (s : Bytes) (parts : List Nat) (b : Bytes), parts.length ≤ 3 →
    atonLoop fuel s parts = some b → b.length = 4 := by
  intro fuel
  induction fuel with
  | zero => intro s parts b _ h; simp [atonLoop] at h
  | succ fuel ih =>
    intro s parts b hp h
    have hend : ∀ v, (parts.map UInt8.ofNat ++ beBytes (4 - parts.length) v).length = 4 := fun v => by
      rw [List.length_append, List.length_map, beBytes_length]; omega
    cases s with
    | nil => simp [atonLoop] at h
    | cons c tl =>
      -- the `let` that holds the `strtoul` result keeps functional induction from reducing the branches: here an accepted
      -- run is turned into the conjunction of the tests it passed by `Option.ite_none_left_eq_some`
      simp only [atonLoop] at h
      generalize strtoul0 (c :: tl) = vr at h
      obtain ⟨v, rest⟩ := vr
      cases rest with
      | nil =>
        simp only [Option.ite_none_left_eq_some, Option.some.injEq] at h
        rw [← h.2.2.2]
        exact hend v
      | cons c' rest =>
        simp only [Option.ite_none_left_eq_some] at h
        split at h
        · simp only [Option.ite_none_left_eq_some] at h
          exact ih _ _ _ (by simp; omega) h.2.2.2
        · simp only [Option.ite_none_left_eq_some, Option.some.injEq] at h
          rw [← h.2.2.2.2]
          exact hend v

theorem aton_length (t b : Bytes) (h : aton t = some b) : b.length = 4 :=
  atonLoop_length _ t [] b (by simp) h

theorem pton4Loop_length (s : Bytes) (done : List Nat) (cur : Nat) (saw : Bool) (b : Bytes) :
    pton4Loop s done cur saw = some b → b.length = 4 := by
  fun_induction pton4Loop s done cur saw <;> intro h <;> try cases h
  -- the end of the text, a digit, a dot
  next hc => simp [hc.2]
  next ih => exact ih h
  next ih => exact ih h

/-- the invariant of the `inet_pton6` loop: never more than 16 bytes, `::` inside what is written -/
def P6.Inv (st : P6) : Prop := st.tp.length ≤ 16 ∧ ∀ c, st.colonp = some c → c ≤ st.tp.length

theorem p6Loop_inv (s ct : Bytes) (st st' : P6) : st.Inv → p6Loop s ct st = some st' → st'.Inv := by
  fun_induction p6Loop s ct st <;> intro hi h <;> try cases h
  -- the end of the text, a hex digit, `::`, the colon after a group, the dot of an embedded dotted quad
  next => exact hi
  next ih => exact ih ⟨hi.1, hi.2⟩ h
  next ih => exact ih ⟨hi.1, fun c hc => Nat.le_of_eq (Option.some.inj hc).symm⟩ h
  next hl _ ih =>
    refine ih ⟨?_, fun c hc => Nat.le_trans (hi.2 c hc) ?_⟩ h
    · simp [wordBytes]; omega
    · simp
  next hd b4 h4 =>
    have hl : b4.length = 4 := pton4Loop_length _ _ _ _ _ h4
    refine ⟨?_, fun c hc => Nat.le_trans (hi.2 c hc) ?_⟩
    · simp [hl]; omega
    · simp

theorem p6Finish_length (st : P6) (hi : st.Inv) (b : Bytes) : p6Finish st = some b → b.length = 16 := by
  fun_cases p6Finish st <;> intro h <;> try cases h
  next tp? tp htp cp hcp hne =>
    have : st.tp.length ≤ tp.length ∧ tp.length ≤ 16 := by
      dsimp only [tp?] at htp
      split at htp
      · simp only [Option.ite_none_left_eq_some, Option.some.injEq] at htp
        rw [← htp.2, List.length_append]
        exact ⟨Nat.le_add_right _ _, Nat.le_of_not_gt htp.1⟩
      · cases htp
        exact ⟨Nat.le_refl _, hi.1⟩
    have := hi.2 cp hcp
    rw [List.length_append, List.length_append, List.length_take, List.length_replicate, List.length_drop]
    omega
  next h16 => exact h16

theorem pton6_length (t b : Bytes) (h : pton6 t = some b) : b.length = 16 := by
  unfold pton6 at h
  cases t with
  | nil => simp at h
  | cons c r =>
    simp only at h
    split at h
    · simp at h
    · split at h
      · rename_i st hst
        exact p6Finish_length st (p6Loop_inv _ _ _ st ⟨by simp, by simp⟩ hst) b h
      · simp at h

end Pyc.Pool
