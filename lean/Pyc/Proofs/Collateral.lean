import Pyc.Model.Collateral
import Pyc.Proofs.Value
import Pyc.Proofs.Sort

/-! Lemmas about `Pyc/Model/Collateral.lean`: the sort is a permutation, the loop appends an eligible sub-list of its
candidate list, sums of a list of UTxOs, case analysis of `finish` / `run`, the body's de-duplication. -/

namespace Pyc.Collateral

theorem insertSorted_eq (x : Utxo) (l : List Utxo) : insertSorted x l = insertBy keyLe x l := by
  induction l with
  | nil => rfl
  | cons y r ih => simp only [insertSorted, insertBy, ih]

theorem sortCands_eq (l : List Utxo) : sortCands l = isort keyLe l := by
  rw [isort_eq_foldr, sortCands, show insertSorted = insertBy keyLe from funext fun x => funext (insertSorted_eq x)]

theorem sortCands_perm (l : List Utxo) : (sortCands l).Perm l := sortCands_eq l ▸ isort_perm keyLe l

theorem popOrder_perm (l : List Utxo) : (popOrder l).Perm l :=
  (List.reverse_perm _).trans (sortCands_perm l)

theorem mem_popOrder (l : List Utxo) (u : Utxo) : u ∈ popOrder l ↔ u ∈ l := (popOrder_perm l).mem_iff

theorem keyLe_iff (a b : Utxo) : keyLe a b = true ↔
    (Output.enc a.out).length < (Output.enc b.out).length ∨
      ((Output.enc a.out).length = (Output.enc b.out).length ∧ b.out.amount.coin ≤ a.out.amount.coin) := by
  simp only [keyLe, Bool.or_eq_true, Bool.and_eq_true, decide_eq_true_eq, beq_iff_eq, Int.neg_le_neg_iff]

theorem keyLe_total (a b : Utxo) : (keyLe a b || keyLe b a) = true := by
  rw [Bool.or_eq_true, keyLe_iff, keyLe_iff]
  omega

theorem keyLe_trans (a b c : Utxo) (h1 : keyLe a b = true) (h2 : keyLe b c = true) : keyLe a c = true := by
  rw [keyLe_iff] at *
  omega

/-- Σ lovelace of a list of UTxOs (with multiplicity) -/
def coinSum (l : List Utxo) : Int := (l.map (fun u => u.out.amount.coin)).sum

/-- Σ quantity of asset `(p, n)` of a list of UTxOs (with multiplicity) -/
def qtySum (l : List Utxo) (p n : Bytes) : Int := (l.map (fun u => Value.qty u.out.amount p n)).sum

@[simp] theorem coinSum_nil : coinSum [] = 0 := rfl
@[simp] theorem coinSum_cons (u : Utxo) (l : List Utxo) : coinSum (u :: l) = u.out.amount.coin + coinSum l := by
  simp [coinSum]

@[simp] theorem qtySum_nil (p n : Bytes) : qtySum [] p n = 0 := rfl
@[simp] theorem qtySum_cons (u : Utxo) (l : List Utxo) (p n : Bytes) :
    qtySum (u :: l) p n = Value.qty u.out.amount p n + qtySum l p n := by
  simp [qtySum]

theorem sumAmounts_coin (l : List Utxo) : (sumAmounts l).coin = coinSum l :=
  (Value.foldl_add_coin (fun u : Utxo => u.out.amount) l ⟨0, []⟩).trans (Int.zero_add _)

theorem sumAmounts_qty (l : List Utxo) (hl : ∀ u ∈ l, Value.WF u.out.amount) :
    Value.WF (sumAmounts l) ∧ ∀ p n, Value.qty (sumAmounts l) p n = qtySum l p n := by
  obtain ⟨h1, h2⟩ := Value.foldl_add_qty (fun u : Utxo => u.out.amount) l ⟨0, []⟩ MultiAsset.wf_nil hl
  exact ⟨h1, fun p n => (h2 p n).trans (Int.zero_add _)⟩

theorem subInt_coin (v : Value) (n : Int) : (subInt v n).coin = v.coin - n := rfl

theorem subInt_qty (v : Value) (k : Int) (hv : Value.WF v) (p n : Bytes) :
    Value.qty (subInt v k) p n = Value.qty v p n := by
  have := MultiAsset.qty_sub v.ma [] p n hv MultiAsset.wf_nil
  simp only [Value.qty, subInt, Value.sub]
  rw [this]
  simp [MultiAsset.qty, Dict.getD, Asset.qty]

theorem coinSum_perm {l₁ l₂ : List Utxo} (h : l₁.Perm l₂) : coinSum l₁ = coinSum l₂ := sum_map_perm _ h

/-! ## the loop -/

/-- `ys` were appended one after the other to `chosen`, starting from the running total `total`: each while the loop
condition held for the total before it, each eligible and not yet among the chosen -/
def Taken (cpb amt thr : Int) (addr : Bytes) : Value → List Utxo → List Utxo → Prop
  | _, _, [] => True
  | total, chosen, u :: ys =>
    needMore cpb amt thr addr total (subInt total amt) = true ∧ eligible u = true ∧ isIn u chosen = false ∧
      Taken cpb amt thr addr (Value.add total u.out.amount) (chosen ++ [u]) ys

theorem taken_append (cpb amt thr : Int) (addr : Bytes) (total : Value) (chosen a b : List Utxo) :
    Taken cpb amt thr addr total chosen (a ++ b) ↔
      Taken cpb amt thr addr total chosen a ∧
      Taken cpb amt thr addr (a.foldl (fun acc u => Value.add acc u.out.amount) total) (chosen ++ a) b := by
  induction a generalizing total chosen with
  | nil => simp [Taken]
  | cons u r ih =>
    simp only [List.cons_append, Taken, List.foldl_cons, ih, and_assoc, List.append_assoc, List.nil_append]

/-- `_add_collateral_input` appends, in pop order, a sub-list of its candidate list, and the running total it hands
back is the old total plus exactly those amounts; called with `ret = total - amt` (every call is) it appends only
while its condition holds, only eligible candidates, none of them twice -/
theorem walk_spec (cpb amt thr : Int) (addr : Bytes) (cs : List Utxo) (total ret : Value) (chosen : List Utxo) :
    ∃ ys, (walk cpb amt thr addr cs total ret chosen).2 = chosen ++ ys ∧
      (walk cpb amt thr addr cs total ret chosen).1 = ys.foldl (fun acc u => Value.add acc u.out.amount) total ∧
      ys.Sublist cs ∧ (ret = subInt total amt → Taken cpb amt thr addr total chosen ys) := by
  induction cs generalizing total ret chosen with
  | nil => exact ⟨[], (List.append_nil _).symm, rfl, List.Sublist.refl _, fun _ => trivial⟩
  | cons c rest ih =>
    simp only [walk]
    split
    · next hn =>
      split
      · next hc =>
        simp only [Bool.and_eq_true, Bool.not_eq_true'] at hc
        obtain ⟨ys, h1, h2, h3, h4⟩ := ih (Value.add total c.out.amount)
          (subInt (Value.add total c.out.amount) amt) (chosen ++ [c])
        refine ⟨c :: ys, ?_, ?_, h3.cons_cons c, fun hret => ⟨hret ▸ hn, hc.1, hc.2, h4 rfl⟩⟩
        · rw [h1, List.append_assoc]; rfl
        · rw [h2]; rfl
      · obtain ⟨ys, h1, h2, h3, h4⟩ := ih total ret chosen
        exact ⟨ys, h1, h2, h3.cons c, h4⟩
    · exact ⟨[], (List.append_nil _).symm, rfl, List.nil_sublist _, fun _ => trivial⟩

/-- the second and third stage of the `if not self.collaterals:` block: run only while the total is short -/
def stage (cpb amt thr : Int) (addr : Bytes) (cands : List Utxo) (s : Value × List Utxo) : Value × List Utxo :=
  if s.1.coin < amt then walk cpb amt thr addr cands s.1 (subInt s.1 amt) s.2 else s

theorem selectAuto_eq (cpb amt thr : Int) (addr : Bytes) (st : State) :
    selectAuto cpb amt thr addr st =
      (stage cpb amt thr addr (popOrder st.addrUtxos) (stage cpb amt thr addr (popOrder st.potential)
        (walk cpb amt thr addr (popOrder st.inputs) ⟨0, []⟩ (subInt ⟨0, []⟩ amt) []))).2 := rfl

theorem stage_spec (cpb amt thr : Int) (addr : Bytes) (cands : List Utxo) (s : Value × List Utxo) :
    ∃ ys, (stage cpb amt thr addr cands s).2 = s.2 ++ ys ∧
      (stage cpb amt thr addr cands s).1 = ys.foldl (fun acc u => Value.add acc u.out.amount) s.1 ∧
      ys.Sublist cands ∧ Taken cpb amt thr addr s.1 s.2 ys := by
  unfold stage
  split
  · obtain ⟨ys, h1, h2, h3, h4⟩ := walk_spec cpb amt thr addr cands s.1 (subInt s.1 amt) s.2
    exact ⟨ys, h1, h2, h3, h4 rfl⟩
  · exact ⟨[], (List.append_nil _).symm, rfl, List.nil_sublist _, trivial⟩

/-- the three stages: a sub-list of each candidate list in pop order, concatenated, appended one after the other
from an empty selection and a zero total -/
theorem selectAuto_spec (cpb amt thr : Int) (addr : Bytes) (st : State) :
    ∃ y1 y2 y3, selectAuto cpb amt thr addr st = y1 ++ y2 ++ y3 ∧ y1.Sublist (popOrder st.inputs) ∧
      y2.Sublist (popOrder st.potential) ∧ y3.Sublist (popOrder st.addrUtxos) ∧
      Taken cpb amt thr addr ⟨0, []⟩ [] (y1 ++ y2 ++ y3) := by
  rw [selectAuto_eq]
  obtain ⟨y1, a1, t1, b1, c1⟩ := walk_spec cpb amt thr addr (popOrder st.inputs) ⟨0, []⟩ (subInt ⟨0, []⟩ amt) []
  generalize walk cpb amt thr addr (popOrder st.inputs) ⟨0, []⟩ (subInt ⟨0, []⟩ amt) [] = s1 at a1 t1 ⊢
  obtain ⟨y2, a2, t2, b2, c2⟩ := stage_spec cpb amt thr addr (popOrder st.potential) s1
  generalize stage cpb amt thr addr (popOrder st.potential) s1 = s2 at a2 t2 ⊢
  obtain ⟨y3, a3, _, b3, c3⟩ := stage_spec cpb amt thr addr (popOrder st.addrUtxos) s2
  rw [List.nil_append] at a1
  rw [a1, t1] at c2
  rw [a2, t2, a1, t1, ← List.foldl_append] at c3
  refine ⟨y1, y2, y3, by rw [a3, a2, a1], b1, b2, b3, ?_⟩
  rw [taken_append, taken_append, List.nil_append, List.nil_append]
  exact ⟨⟨c1 rfl, c2⟩, c3⟩

theorem selectAuto_sublist (cpb amt thr : Int) (addr : Bytes) (st : State) :
    (selectAuto cpb amt thr addr st).Sublist (popOrder st.inputs ++ popOrder st.potential ++ popOrder st.addrUtxos) := by
  obtain ⟨y1, y2, y3, h, b1, b2, b3, _⟩ := selectAuto_spec cpb amt thr addr st
  rw [h]
  exact (b1.append b2).append b3

theorem selectAuto_taken (cpb amt thr : Int) (addr : Bytes) (st : State) :
    Taken cpb amt thr addr ⟨0, []⟩ [] (selectAuto cpb amt thr addr st) := by
  obtain ⟨y1, y2, y3, h, _, _, _, e⟩ := selectAuto_spec cpb amt thr addr st
  rw [h]; exact e

theorem taken_eligible (cpb amt thr : Int) (addr : Bytes) (total : Value) (chosen ys : List Utxo)
    (h : Taken cpb amt thr addr total chosen ys) : ∀ u ∈ ys, eligible u = true := by
  induction ys generalizing total chosen with
  | nil => exact fun _ hu => nomatch hu
  | cons y r ih =>
    intro u hu
    rcases List.mem_cons.1 hu with rfl | hu
    · exact h.2.1
    · exact ih _ _ h.2.2.2 u hu

theorem selectAuto_eligible (cpb amt thr : Int) (addr : Bytes) (st : State) :
    ∀ u ∈ selectAuto cpb amt thr addr st, eligible u = true :=
  taken_eligible _ _ _ _ _ _ _ (selectAuto_taken cpb amt thr addr st)

/-! ### a UTxO is not taken twice -/

/-- the candidate lists are views of one ledger state: a reference identifies one UTxO — two entries with the same
`TransactionInput` are equal for `UTxO.__eq__` (in particular when they are the same object) -/
def RefConsistent (all : List Utxo) : Prop := ∀ u ∈ all, ∀ v ∈ all, u.ref = v.ref → Utxo.same u v = true

theorem isIn_false (c : Utxo) (l : List Utxo) (h : isIn c l = false) : ∀ x ∈ l, Utxo.same x c = false := by
  intro x hx
  simp only [isIn, List.any_eq_false] at h
  simpa using h x hx

theorem taken_nodup (all : List Utxo) (hcons : RefConsistent all) (cpb amt thr : Int) (addr : Bytes) (total : Value)
    (chosen ys : List Utxo) (h : Taken cpb amt thr addr total chosen ys) (hall : ∀ u ∈ chosen ++ ys, u ∈ all)
    (hnd : (chosen.map Utxo.ref).Nodup) : ((chosen ++ ys).map Utxo.ref).Nodup := by
  induction ys generalizing total chosen with
  | nil => rwa [List.append_nil]
  | cons c r ih =>
    obtain ⟨_, _, hin, ht⟩ := h
    have := ih _ (chosen ++ [c]) ht (by rwa [List.append_assoc]) (by
      rw [List.map_append, List.nodup_append]
      refine ⟨hnd, List.nodup_cons.2 ⟨nofun, List.nodup_nil⟩, fun a ha b hb he => ?_⟩
      obtain ⟨x, hx, rfl⟩ := List.mem_map.1 ha
      rw [List.map_singleton, List.mem_singleton] at hb
      subst hb
      have h1 := hcons x (hall x (List.mem_append_left _ hx)) c
        (hall c (List.mem_append_right _ List.mem_cons_self)) he
      rw [isIn_false c chosen hin x hx] at h1
      cases h1)
    rwa [List.append_assoc] at this

theorem selectAuto_nodup (cpb amt thr : Int) (addr : Bytes) (st : State)
    (hcons : RefConsistent (st.inputs ++ st.potential ++ st.addrUtxos)) :
    ((selectAuto cpb amt thr addr st).map Utxo.ref).Nodup := by
  have := taken_nodup _ hcons cpb amt thr addr ⟨0, []⟩ [] _ (selectAuto_taken cpb amt thr addr st)
    (fun u hu => by
      have := (selectAuto_sublist cpb amt thr addr st).subset (List.nil_append _ ▸ hu)
      simpa only [List.mem_append, mem_popOrder] using this)
    List.nodup_nil
  rwa [List.nil_append] at this

theorem popOrders_perm (st : State) :
    (popOrder st.inputs ++ popOrder st.potential ++ popOrder st.addrUtxos).Perm
      (st.inputs ++ st.potential ++ st.addrUtxos) :=
  ((popOrder_perm _).append (popOrder_perm _)).append (popOrder_perm _)

/-! ## `finish` and `run` by cases -/

theorem finish_ok (cpb amt thr : Int) (mx : Nat) (addr : Bytes) (cols : List Utxo) (r : Result)
    (h : finish cpb amt thr mx addr cols = .ok r) :
    r.collaterals = cols ∧ cols.length ≤ mx ∧ amt ≤ coinSum cols ∧
    ((r.ret = none ∧ r.total = none ∧ shouldAdd thr (subInt (sumAmounts cols) amt) = false) ∨
     (r.ret = some (retOutput addr (subInt (sumAmounts cols) amt)) ∧ r.total = some amt ∧
      shouldAdd thr (subInt (sumAmounts cols) amt) = true ∧
      minLovelace cpb (retOutput addr (subInt (sumAmounts cols) amt)) ≤ (subInt (sumAmounts cols) amt).coin)) := by
  unfold finish at h
  simp only [] at h
  by_cases h1 : cols.length > mx
  · rw [if_pos h1] at h; cases h
  · rw [if_neg h1] at h
    by_cases h2 : amt > (sumAmounts cols).coin
    · rw [if_pos h2] at h; cases h
    · rw [if_neg h2] at h
      rw [sumAmounts_coin] at h2
      cases h3 : shouldAdd thr (subInt (sumAmounts cols) amt)
      · rw [h3] at h; cases h
        exact ⟨rfl, Nat.le_of_not_gt h1, Int.not_lt.1 h2, Or.inl ⟨rfl, rfl, rfl⟩⟩
      · rw [h3] at h
        by_cases h4 : minLovelace cpb (retOutput addr (subInt (sumAmounts cols) amt)) > (subInt (sumAmounts cols) amt).coin
        · rw [if_neg (by decide), if_pos h4] at h; cases h
        · rw [if_neg (by decide), if_neg h4] at h; cases h
          exact ⟨rfl, Nat.le_of_not_gt h1, Int.not_lt.1 h2, Or.inr ⟨rfl, rfl, rfl, Int.not_lt.1 h4⟩⟩

/-- `self.collaterals` when the tail of `_set_collateral_return` starts -/
def colsOf (p : Params) (st : State) (addr : Bytes) (amt : Int) : List Utxo :=
  if st.explicit.isEmpty then selectAuto p.cpb amt st.threshold addr st else st.explicit

theorem colsOf_auto (p : Params) (st : State) (addr : Bytes) (amt : Int) (h : st.explicit = []) :
    colsOf p st addr amt = selectAuto p.cpb amt st.threshold addr st := by
  simp [colsOf, h]

/-- what `run` did when it succeeded: either it returned early (no script / no return address) and left everything
as it was, or it computed the collateral amount, fixed the collateral inputs and ran `finish` -/
theorem run_ok (p : Params) (st : State) (r : Result) (h : run p st = .ok r) :
    ((st.hasScripts = false ∨ st.retAddr = none) ∧ r = ⟨st.explicit, none, none⟩) ∨
    (∃ addr amt, st.hasScripts = true ∧ st.retAddr = some addr ∧ collateralAmount p st.refScriptSize st.feeBuffer = some amt ∧
      finish p.cpb amt st.threshold p.maxCollateralInputs addr (colsOf p st addr amt) = .ok r) := by
  unfold run at h
  split at h
  · rename_i hs
    cases h
    exact Or.inl ⟨Or.inl (by simpa using hs), rfl⟩
  · rename_i hs
    split at h
    · rename_i ha
      cases h
      exact Or.inl ⟨Or.inr ha, rfl⟩
    · rename_i addr ha
      split at h
      · cases h
      · rename_i amt hc
        exact Or.inr ⟨addr, amt, by simpa using hs, ha, hc, h⟩

/-- projections with decidable equality, for concrete evaluations -/
def okResult : Except Err Result → Option Result
  | .ok r => some r
  | .error _ => none

def errOf : Except Err Result → Option Err
  | .ok _ => none
  | .error e => some e

theorem eq_ok_of_okResult {x : Except Err Result} {r : Result} (h : okResult x = some r) : x = .ok r := by
  cases x with
  | ok r' => simp only [okResult, Option.some.injEq] at h; rw [h]
  | error e => cases h

deriving instance DecidableEq for Pyc.Output
deriving instance DecidableEq for Utxo
deriving instance DecidableEq for Result

/-- `(x + 99) / 100` is the ceiling of `x / 100` -/
theorem ceilDiv100 (x : Int) : x ≤ (x + 99) / 100 * 100 ∧ (x + 99) / 100 * 100 ≤ x + 99 := by
  constructor <;> omega

theorem collateralAmount_eq (p : Params) (ref buf amt : Int) (h : collateralAmount p ref buf = some amt) :
    ∃ mf, maxTxFee p.fee ref = some mf ∧ amt = ((mf + buf) * p.percent + 99) / 100 := by
  unfold collateralAmount at h
  split at h
  · cases h
  · rename_i mf hm
    cases h
    exact ⟨mf, hm, rfl⟩

/-! ## the body's ordered set -/

theorem dedupRef_of_nodup (l : List Utxo) (seen : List (Bytes × Nat)) (h1 : (l.map Utxo.ref).Nodup)
    (h2 : ∀ u ∈ l, u.ref ∉ seen) : dedupRef l seen = l := by
  induction l generalizing seen with
  | nil => rfl
  | cons u r ih =>
    have hu : u.ref ∉ seen := h2 u (by simp)
    simp only [dedupRef, hu, if_false]
    rw [List.map_cons, List.nodup_cons] at h1
    congr 1
    apply ih _ h1.2
    intro v hv
    simp only [List.mem_cons, not_or]
    refine ⟨?_, h2 v (by simp [hv])⟩
    intro he
    exact h1.1 (he ▸ List.mem_map_of_mem hv)

theorem bodyCollateral_of_nodup (l : List Utxo) (h : (l.map Utxo.ref).Nodup) : bodyCollateral l = l :=
  dedupRef_of_nodup l [] h (by simp)

theorem dedupRef_sublist (l : List Utxo) (seen : List (Bytes × Nat)) : (dedupRef l seen).Sublist l := by
  induction l generalizing seen with
  | nil => exact List.Sublist.refl _
  | cons u r ih =>
    simp only [dedupRef]
    split
    · exact (ih seen).cons u
    · exact (ih _).cons_cons u

theorem dedupRef_nodup (l : List Utxo) (seen : List (Bytes × Nat)) :
    ((dedupRef l seen).map Utxo.ref).Nodup ∧ ∀ u ∈ dedupRef l seen, u.ref ∉ seen := by
  induction l generalizing seen with
  | nil => simp [dedupRef]
  | cons u r ih =>
    simp only [dedupRef]
    split
    · exact ih seen
    · rename_i hu
      obtain ⟨h1, h2⟩ := ih (u.ref :: seen)
      refine ⟨?_, ?_⟩
      · rw [List.map_cons, List.nodup_cons]
        refine ⟨?_, h1⟩
        intro hm
        obtain ⟨v, hv, he⟩ := List.mem_map.1 hm
        exact h2 v hv (by simp [he])
      · intro v hv
        rcases List.mem_cons.1 hv with rfl | hv
        · exact hu
        · intro hs
          exact h2 v hv (by simp [hs])

theorem dedupRef_mem (l : List Utxo) (seen : List (Bytes × Nat)) (u : Utxo) (hu : u ∈ l) (hs : u.ref ∉ seen) :
    ∃ v ∈ dedupRef l seen, v.ref = u.ref := by
  induction l generalizing seen with
  | nil => cases hu
  | cons w r ih =>
    simp only [dedupRef]
    rcases List.mem_cons.1 hu with rfl | hu
    · simp [hs]
    · split
      · exact ih seen hu hs
      · by_cases he : u.ref = w.ref
        · exact ⟨w, by simp, he.symm⟩
        · obtain ⟨v, hv, hv'⟩ := ih (w.ref :: seen) hu (by simp [he, hs])
          exact ⟨v, by simp [hv], hv'⟩

theorem bodyCollateral_ne_nil (l : List Utxo) (h : l ≠ []) : bodyCollateral l ≠ [] := by
  cases l with
  | nil => exact absurd rfl h
  | cons u r => simp [bodyCollateral, dedupRef]

end Pyc.Collateral
