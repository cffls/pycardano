import Pyc.Proofs.Addr
import Pyc.Proofs.Bech32Str
import Pyc.Spec.Cip19

/-! `Pyc/Model/Addr.lean` against the CIP-19 / CIP-5 specification (`Pyc/Spec/Cip19.lean`), and the text form of an
address: `Address.encode()` composed with `Address.decode` through the Bech32 round trip. -/

namespace Pyc.Addr
open Pyc.Spec

/-! ## the model against the CIP-19 specification -/

theorem encodeInt_isVarnat (n : Nat) : Cip19.IsVarnat n ((encodeInt n).map UInt8.toNat) := by
  have hh := encodeInt_head_toNat n
  rw [encodeInt_eq] at hh ⊢
  simp only [List.map_append, List.map_cons, List.map_nil, lastByte_toNat] at hh ⊢
  refine ⟨by simp, ?_, ?_, ?_, hh⟩
  · rw [List.dropLast_concat]
    intro b hb
    obtain ⟨x, hx, rfl⟩ := List.mem_map.mp hb
    exact encTail_ge _ x (List.mem_reverse.mp hx)
  · simp only [List.getLast?_append, List.getLast?_singleton, Option.some_or, Option.mem_def, Option.some.injEq]
    intro b hb
    omega
  · rw [Cip19.varnatValue, List.foldl_append, value_encTail, List.foldl_cons, List.foldl_nil]
    omega

/-- the CIP-19 type nibble of a combination of parts -/
def specType : Part → Part → Option Nat
  | .vkh _, .vkh _ => some (Cip19.paymentType .key .key)
  | .vkh _, .sh _ => some (Cip19.paymentType .key .script)
  | .vkh _, .ptr _ _ _ => some (Cip19.paymentType .key .pointer)
  | .vkh _, .none => some (Cip19.paymentType .key .none)
  | .sh _, .vkh _ => some (Cip19.paymentType .script .key)
  | .sh _, .sh _ => some (Cip19.paymentType .script .script)
  | .sh _, .ptr _ _ _ => some (Cip19.paymentType .script .pointer)
  | .sh _, .none => some (Cip19.paymentType .script .none)
  | .none, .vkh _ => some (Cip19.rewardType .key)
  | .none, .sh _ => some (Cip19.rewardType .script)
  | _, _ => none

/-- CIP-5: `stake` for the reward types 14 and 15, `addr` otherwise, `_test` off mainnet -/
theorem hrp_spec (t : AddressType) (n : Network) :
    hrp t n = (Cip19.prefixOf (decide (14 ≤ t.value)) n.value).toList := by
  simp only [hrp, Cip19.prefixOf, String.toList_append]
  congr 1
  · cases t <;> simp [AddressType.value]
  · cases n <;> simp [Network.value]

/-! ## text form -/

theorem hrpOk (t : AddressType) (n : Network) : Bech32.HrpOk (hrp t n) := by
  cases t <;> cases n <;> decide

theorem toBytes_length (a : Address) (bs : Bytes) (hp : a.payment.Sized) (hs : a.staking.Sized)
    (h : toBytes a = some bs) : 29 ≤ bs.length := by
  obtain ⟨pay, stk, net⟩ := a
  unfold toBytes at h
  cases pay <;> cases stk <;> simp only [inferType, Option.some.injEq, reduceCtorEq] at h <;> subst h <;>
    simp only [Part.Sized] at hp hs <;> simp [Part.bytes, hp, hs] <;> omega

theorem fromBech32_toBech32 (a : Address) (s : List Char) (hp : a.payment.Sized) (hs : a.staking.Sized)
    (h : toBech32 a = some (some s)) : fromBech32 s = .ok a := by
  unfold toBech32 at h
  split at h
  · rename_i t bs ht hb
    have he : Bech32.encode (hrp t a.network) bs = some s := by simpa using h
    have hl := toBytes_length a bs hp hs hb
    unfold fromBech32
    rw [Bech32.decode_encode _ bs (hrpOk t a.network) (by omega) s he]
    simp only [List.map_map, Function.comp_def, UInt8.ofNat_toNat, List.map_id']
    exact fromBytes_toBytes a bs hp hs hb
  · exact absurd h (by simp)

theorem toBech32_some (a : Address) (bs : Bytes) (t : AddressType) (ht : inferType a.payment a.staking = some t)
    (hb : toBytes a = some bs) :
    ∃ s, toBech32 a = some (some s) ∧ s.length = (hrp t a.network).length + 7 + (8 * bs.length + 4) / 5 := by
  obtain ⟨s, hs, hl⟩ := Bech32.encode_some (hrp t a.network) bs (hrpOk t a.network)
  exact ⟨s, by simp [toBech32, ht, hb, hs], hl⟩

/-- nine bytes hold the numbers below `128^9 = 2^63` only -/
theorem encodeInt_2_63_length : 10 ≤ (encodeInt (2 ^ 63)).length :=
  Nat.lt_of_not_le fun h => Nat.lt_irrefl (2 ^ 63) ((encodeInt_length_le_iff (2 ^ 63) 8).mp h)

/-- when `bech32_decode` rejects, `decode` raises `TypeError` and so does `Address.decode` -/
theorem fromBech32_of_none {s : List Char} (h : Bech32.bech32Decode s = none) :
    Bech32.decode s = .raised ∧ fromBech32 s = .error .bech32 := by
  simp only [fromBech32, Bech32.decode, h, and_self]

end Pyc.Addr
