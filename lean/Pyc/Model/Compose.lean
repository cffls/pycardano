import Pyc.Model.ComposeCore
import Pyc.Model.CustomCodec
import Pyc.Model.AddrLeaf
import Pyc.Model.NativeScript
import Pyc.Model.Gov
import Pyc.Model.Pool
import Pyc.Model.Metadata
import Pyc.Model.WitnessCodec
import Pyc.Proofs.Cbor   -- `Cbor.depth` (the fuel of the native-script decoder); Mathlib-free, depends on Model/Cbor only

/-! The item normalisers of the modelled leaves (the environment `realLeaves` for `fromPrimL`, Model/ComposeCore.lean), and
which leaves decoding a class can meet. -/

namespace Pyc.Compose
open Pyc Pyc.Cbor Pyc.Schema Pyc.Codec Pyc.Custom

/-! ## the item normalisers of the modelled leaves -/

/-- normaliser of a leaf given as decoder + encoder -/
def normOf {α : Type} (dec : Item → Res α) (enc : α → Item) (i : Item) : Res Item :=
  match dec i with
  | .ok x => .ok (enc x)
  | .deser => .deser
  | .crash => .crash

def Leaf.norm {α : Type} (L : Leaf α) : Item → Res Item := normOf L.dec L.enc

/-- … when the encoder is partial (`to_primitive` may raise for an object assembled by hand; not for a decoded one):
the decode class is the decoder's; the primitive is kept when the object cannot be written -/
def normOfOpt {α : Type} (dec : Item → Res α) (enc : α → Option Item) (i : Item) : Res Item :=
  match dec i with
  | .ok x => (match enc x with | some j => .ok j | Option.none => .ok i)
  | .deser => .deser
  | .crash => .crash

/-- `Address.from_primitive` then `Address.to_primitive` (Model/AddrLeaf.lean) -/
def addrNorm : Item → Res Item := normOf AddrLeaf.addrDec AddrLeaf.addrEnc

/-- the well-formed native scripts (what the decoder returns, `fromItem_wf`) -/
abbrev WScript := { s : Ids.NScript // NativeScript.wfB s = true }

/-- the native-script codec as a `Leaf` (the same definition as `NativeScript.nsLeaf` of Proofs/NativeScript.lean, repeated
here so that the driver does not depend on a proof file; `nsLeafC_eq`) -/
def nsLeafC : Leaf WScript where
  enc x := NativeScript.toItem x.val
  dec i :=
    match NativeScript.fromItem (Cbor.depth i) i with
    | .ok s => if h : NativeScript.wfB s = true then .ok ⟨s, h⟩ else .crash
    | .deser => .deser
    | .crash => .crash

/-- `NativeScript.from_primitive` (inherited unchanged by `ScriptPubkey` … `InvalidHereAfter`: whichever class it is
called on, it dispatches on the type code) then `to_primitive` -/
def nsNorm : Item → Res Item := Leaf.norm nsLeafC

/-- `StakeCredential` / `DRepCredential` / `CommitteeColdCredential` -/
def credNorm : Item → Res Item := normOf Gov.Cred.fromItem Gov.Cred.toItem
def drepNorm : Item → Res Item := normOf Gov.DRep.fromItem Gov.DRep.toItem
def voterNorm : Item → Res Item := normOf Gov.Voter.fromItem Gov.Voter.toItem
def vpNorm : Item → Res Item := normOf Gov.VotingProcedure.fromItem Gov.VotingProcedure.toItem
def gaidNorm : Item → Res Item := normOf Gov.GovActionId.fromItem Gov.GovActionId.toItem
def hardForkNorm : Item → Res Item := normOf Gov.HardFork.fromItem Gov.HardFork.toItem
def poolIdNorm : Item → Res Item := normOf Gov.PoolId.fromItem Gov.PoolId.toItem

/-- `Value` / `MultiAsset` / `Asset` (Model/CustomCodec.lean, Model/Canonical.lean) -/
def valueNorm : Item → Res Item := normOf decValue itemValue
def multiAssetNorm : Item → Res Item := normOf decMultiAsset (fun m => itemMultiAsset (primMultiAsset m))
def assetNorm : Item → Res Item := normOf decAsset (fun a => itemAsset (primAsset a))

/-- the leaves of an output: the real address codec, the inline datum as the primitive it is restored to, the real
native-script codec (the same triple as `C01.Leaves.realLeaves nsLeaf`) -/
def outLeaves : Leaves AddrLeaf.VAddr Item WScript := ⟨AddrLeaf.addrLeaf, Leaf.raw, nsLeafC⟩

/-- `TransactionOutput.from_primitive` then `to_primitive` -/
def outputNorm : Item → Res Item := normOf (decOutput outLeaves) (itemOutput outLeaves)

/-- `list_hook(cls)` = `lambda vals: [cls.from_primitive(v) for v in vals]` (serialization.py:1038-1050), as a normaliser:
the restored list is written as a definite array.  `Metadata.decScripts` is the model of the comprehension (whatever
Python can iterate is iterated) -/
def listHookNorm (f : Item → Res Item) (i : Item) : Res Item :=
  match Metadata.decScripts (⟨id, f⟩ : Leaf Item) i with
  | .ok ys => .ok (.array ys)
  | .deser => .deser
  | .crash => .crash

/-- `PoolParams` (on its own) and `PoolRegistration` -/
def poolParamsNorm : Item → Res Item := normOfOpt Pool.decParams Pool.encParams
def poolRegNorm : Item → Res Item := normOfOpt Pool.decRegistration Pool.encRegistration

/-- `AuxiliaryData` / `AlonzoMetadata` / `ShelleyMarryMetadata` with the real native-script leaf -/
def auxNorm : Item → Res Item := normOf (Metadata.decAux nsLeafC) (Metadata.itemAux nsLeafC)
def alonzoNorm : Item → Res Item := normOf (Metadata.decAlonzo nsLeafC) (Metadata.itemAlonzo nsLeafC)
def shelleyMaNorm : Item → Res Item := normOf (Metadata.decShelleyMa nsLeafC) (Metadata.itemShelleyMa nsLeafC)

/-- what `RawPlutusData.from_primitive` accepts as a datum of a witness set: anything but text strings and simple values -/
def datumOkB : Item → Bool
  | .text _ => false
  | .simple _ => false
  | _ => true

abbrev DatumItem := { i : Item // datumOkB i = true }

/-- the datum leaf of a witness set: the primitive itself, refused (`DeserializeException`) when it is a text string or a
simple value -/
def datumLeaf : Leaf DatumItem :=
  ⟨fun x => x.1, fun i => if h : datumOkB i = true then .ok ⟨i, h⟩ else .deser⟩

/-- the leaves of a witness set: real native scripts; bootstrap witnesses and redeemer data are `Any` -/
def wsLeaves : WitnessCodec.Leaves WScript Item DatumItem Item := ⟨nsLeafC, Leaf.raw, datumLeaf, Leaf.raw⟩

def wsNorm : Item → Res Item := normOf (WitnessCodec.decWS wsLeaves) (WitnessCodec.wsItem wsLeaves)
def vkwNorm : Item → Res Item := normOf WitnessCodec.decVKW WitnessCodec.vkwItem
def redeemerNorm : Item → Res Item :=
  normOf (WitnessCodec.decRedeemer (Leaf.raw)) (WitnessCodec.redeemerItem (Leaf.raw))
def redeemerValueNorm : Item → Res Item :=
  normOf (WitnessCodec.decRValue (Leaf.raw)) (WitnessCodec.rvalueItem (Leaf.raw))
def redeemerTagNorm : Item → Res Item := normOf WitnessCodec.decTag (fun t => Item.uint t.code)

/-- `Network.from_primitive` (network.py:24-27): `@limit_primitive_type(int)` (a `bool` is one), then `Network(value)`
(`ValueError` for anything but 0 / 1); written back as the member's value -/
def networkNorm (i : Item) : Res Item :=
  match itemInt? i with
  | some v => if v = 0 then .ok (.uint 0) else if v = 1 then .ok (.uint 1) else .crash
  | Option.none => (match i with
    | .simple n => if n = 20 then .ok (.uint 0) else if n = 21 then .ok (.uint 1) else .deser
    | _ => .deser)

/-- `PlutusV1Script` / `PlutusV2Script` / `PlutusV3Script` (plain `bytes` subclasses; the special case of
`_restore_typed_primitive`, serialization.py:640-647): `bytes` or `DeserializeException` -/
def plutusScriptNorm : Item → Res Item
  | .bytes b => .ok (.bytes b)
  | .bytesChunked cs => .ok (.bytes (Metadata.joinChunks cs))
  | _ => .deser

/-- the table of modelled leaves -/
def realLeafTable : List (String × (Item → Res Item)) :=
  [("Address", addrNorm),
   ("NativeScript", nsNorm), ("ScriptPubkey", nsNorm), ("ScriptAll", nsNorm), ("ScriptAny", nsNorm),
   ("ScriptNofK", nsNorm), ("InvalidBefore", nsNorm), ("InvalidHereAfter", nsNorm),
   ("StakeCredential", credNorm), ("DRepCredential", credNorm), ("CommitteeColdCredential", credNorm),
   ("DRep", drepNorm), ("Voter", voterNorm), ("VotingProcedure", vpNorm), ("GovActionId", gaidNorm),
   ("HardForkInitiationAction", hardForkNorm), ("PoolId", poolIdNorm),
   ("Value", valueNorm), ("MultiAsset", multiAssetNorm), ("Asset", assetNorm),
   ("TransactionOutput", outputNorm), ("TransactionBody.outputs", listHookNorm outputNorm),
   ("PoolParams", poolParamsNorm), ("PoolRegistration", poolRegNorm),
   ("AuxiliaryData", auxNorm), ("AlonzoMetadata", alonzoNorm), ("ShelleyMarryMetadata", shelleyMaNorm),
   ("TransactionWitnessSet", wsNorm), ("VerificationKeyWitness", vkwNorm),
   ("Redeemer", redeemerNorm), ("RedeemerValue", redeemerValueNorm), ("RedeemerTag", redeemerTagNorm),
   ("Network", networkNorm),
   ("PlutusV1Script", plutusScriptNorm), ("PlutusV2Script", plutusScriptNorm), ("PlutusV3Script", plutusScriptNorm)]

def realLeaves : LeafEnv := fun n =>
  match realLeafTable.find? (fun p => p.1 == n) with
  | some p => some p.2
  | Option.none => Option.none

/-- the classes of a table that `fromPrimL` hands to a leaf (own codec code, kind `custom` / `oset`) -/
def isLeafClass (cd : ClassDef) : Bool :=
  cd.overrides.contains "from_primitive" || cd.overrides.contains "__post_init__" ||
    (match cd.kind with | .custom => true | .oset => true | _ => false)

mutual
/-- class names a type term mentions -/
def clsIn : Ty → List String
  | .cls n => [n]
  | .list t => clsIn t
  | .dict k v => clsIn k ++ clsIn v
  | .oset t _ => clsIn t
  | .tuple ts => clsInList ts
  | .union ts => clsInList ts
  | _ => []
def clsInList : List Ty → List String
  | [] => []
  | t :: ts => clsIn t ++ clsInList ts
end

/-- the leaves (class names, hook keys) reachable from a class through the table, and whether each is modelled in `L`:
`closed` says every leaf that decoding the class can meet is in `L` (the harness judges refusals only for such classes) -/
def reach (S : List ClassDef) : Nat → List String → List String → List String
  | 0, _, seen => seen
  | _, [], seen => seen
  | fuel+1, n :: todo, seen =>
    if seen.contains n then reach S fuel todo seen else
    match lookup S n with
    | Option.none => reach S fuel todo (n :: seen)
    | some cd =>
      if isLeafClass cd then reach S fuel todo (n :: seen) else
      let fromKind := match cd.kind with | .dict k v => clsIn k ++ clsIn v | _ => []
      let fromFields := (wireFields cd).foldr (fun f acc => (if f.hook then [hookKey n f] else clsIn f.ty) ++ acc) []
      reach S fuel (fromKind ++ fromFields ++ todo) (n :: seen)

/-- leaves met from class `n` that `L` does not model -/
def unmodelled (S : List ClassDef) (L : LeafEnv) (n : String) : List String :=
  (reach S (4 * S.length + 64) [n] []).filter fun m =>
    (match lookup S m with
      | some cd => isLeafClass cd
      | Option.none => true) && (L m).isNone

end Pyc.Compose
