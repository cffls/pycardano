import Pyc.Model.Codec

/-! COMPOSITION of the table-driven codec (`Model/Codec.lean`) with the hand-modelled leaf codecs.

`fromPrim` (Model/Codec.lean) carries every class with hand-written codec code (`from_primitive` / `__post_init__`
overridden, kind `custom` / `oset`) and every `object_hook` field as `.ok (.opaque i)`: the leaf's decoder is not run.
Here the same ladder (`_restore_typed_primitive`, serialization.py:583-677, `_restore_dataclass_field` :563-580,
`ArrayCBORSerializable.from_primitive`, `MapCBORSerializable.from_primitive`) is written once more with a *leaf
environment*: for a class name, the leaf's ITEM NORMALISER = "run the leaf's `from_primitive`, then write the restored
object back" (`decode` then `toItem`), three-valued.  A leaf that raises `DeserializeException` makes an enclosing
`Union` try its next alternative; any other exception aborts the decode — exactly what the `try … except
DeserializeException: pass` loop of `_restore_typed_primitive` does with the exception of a nested `from_primitive`.

`object_hook` fields: the extracted table only records THAT a field has a hook (`FieldDef.hook`), not which; the hook
is looked up in the same environment under the key `"<Class>.<field>"`.  The only hook of a table-driven class in the
tree is `TransactionBody.outputs` = `list_hook(TransactionOutput)` (transaction.py:559); the others sit inside classes
that are leaves as a whole (`ScriptAll`…, `AlonzoMetadata`, `ShelleyMarryMetadata`, `TransactionWitnessSet`).

`Any` and plain `Dict[...]` hints stay as they are in `fromPrim` (Python returns the primitive itself). -/

namespace Pyc.Compose
open Pyc Pyc.Cbor Pyc.Schema Pyc.Codec

/-- per class name (or `"<Class>.<field>"` for an `object_hook`): the item normaliser of the leaf, when modelled -/
abbrev LeafEnv := String → Option (Item → Res Item)

/-- the environment in which no leaf is modelled -/
def noLeaves : LeafEnv := fun _ => Option.none

/-- restore a value of a class with its own codec: the leaf's normaliser when there is one (the value is carried as the
primitive of the RESTORED object), the primitive itself otherwise -/
def leafVal (L : LeafEnv) (n : String) (i : Item) : Res Val :=
  match L n with
  | some f => (match f i with | .ok j => .ok (.opaque j) | .deser => .deser | .crash => .crash)
  | Option.none => .ok (.opaque i)

def hookKey (cn : String) (f : FieldDef) : String := cn ++ "." ++ f.name

mutual
-- `_restore_typed_primitive(t, v)` with the leaves of `L`
def fromPrimL (S : List ClassDef) (L : LeafEnv) : Nat → Ty → Item → Res Val
  | 0, _, _ => .crash
  | _+1, .any, i => .ok (.opaque i)
  | _+1, .int, i =>
    match itemInt? i with
    | some n => .ok (.int n)
    | Option.none => (match i with
      | .simple n => if n = 20 then .ok (.bool false) else if n = 21 then .ok (.bool true) else .deser
      | _ => .deser)
  | _+1, .bool, .simple n => if n = 20 then .ok (.bool false) else if n = 21 then .ok (.bool true) else .deser
  | _+1, .bool, _ => .deser
  | _+1, .bytes, .bytes b => .ok (.bytes b)
  | _+1, .bytes, _ => .deser
  | _+1, .text, .text b => .ok (.text b)
  | _+1, .text, _ => .deser
  | _+1, .none, .simple n => if n = 22 then .ok .none else .deser
  | _+1, .none, _ => .deser
  | _+1, .frac, .tag t (.array [a, b]) =>
    if t = 30 then (match itemInt? a, itemInt? b with
      | some n, some d => .ok (.frac n d)
      | _, _ => .deser) else .deser
  | _+1, .frac, _ => .deser
  | fuel+1, .list t, i =>
    match listElems? i with
    | some xs => (match fromPrimListL S L fuel t xs with
      | .ok vs => .ok (.list vs) | .deser => .deser | .crash => .crash)
    | Option.none => .deser
  | fuel+1, .union ts, i => fromUnionL S L fuel ts i
  | fuel+1, .oset t _, i =>
    match i with
    | .tag tg inner =>
      if tg = 258 then (match listElems? inner with
        | some xs => (match fromPrimListL S L fuel t xs with
          | .ok vs => .ok (.oset true vs) | .deser => .deser | .crash => .crash)
        | Option.none => .crash) else .crash
    | _ => (match listElems? i with
      | some xs => (match fromPrimListL S L fuel t xs with
        | .ok vs => .ok (.oset false vs) | .deser => .deser | .crash => .crash)
      | Option.none => .crash)
  | _+1, .dict _ _, i =>
    match i with
    | .map _ => .ok (.opaque i)
    | _ => .deser
  | fuel+1, .tuple ts, i =>
    match listElems? i with
    | some xs => if xs.length = ts.length then (match fromTupleL S L fuel ts xs with
        | .ok vs => .ok (.list vs) | .deser => .deser | .crash => .crash) else .deser
    | Option.none => .deser
  | _+1, .named _, _ => .deser
  | fuel+1, .cls n, i =>
    match lookup S n with
    | Option.none => .crash
    | some cd =>
      -- `t.from_primitive(v)` of a class with hand-written codec code: the leaf of `L`, if any
      if cd.overrides.contains "from_primitive" || cd.overrides.contains "__post_init__" then leafVal L n i else
      match cd.kind with
      | .custom => leafVal L n i
      | .oset => leafVal L n i
      | .cbytes mn mx => (match i with
        | .bytes b => if mn ≤ b.length ∧ b.length ≤ mx then .ok (.cb b) else .crash
        | .text _ => .crash
        | _ => .deser)
      | .enum vals => (match itemInt? i with
        | some v => if vals.contains v then .ok (.enum v) else .crash
        | Option.none => .deser)
      | .dict kt vt => (match i with
        | .map kvs => (match fromPairsL S L fuel kt vt kvs with
          | .ok r => .ok (.dict r) | .deser => .deser | .crash => .crash)
        | _ => .deser)
      | .array => (match listElems? i with
        | some xs => (match fromArrL S L fuel n (wireFields cd) xs with
          | .ok vs => .ok (.obj n vs) | .deser => .deser | .crash => .crash)
        | Option.none => .deser)
      | .coded k => (match i with
        | .array (c :: xs) =>
          if encode c = encode (.uint k) then (match fromArrL S L fuel n (wireFields cd) xs with
            | .ok vs => .ok (.obj n vs) | .deser => .deser | .crash => .crash)
          else .deser
        | .array [] => .crash
        | _ => .deser)
      | .map => (match i with
        | .map kvs =>
          if kvs.all (fun kv => (wireFields cd).any (fun f => encode (keyItem f.key) = encode kv.1)) then
            (match fromMapL S L fuel n (wireFields cd) kvs with
              | .ok vs => .ok (.obj n vs) | .deser => .deser | .crash => .crash)
          else .deser
        | _ => .deser)
def fromPrimListL (S : List ClassDef) (L : LeafEnv) : Nat → Ty → List Item → Res (List Val)
  | 0, _, _ => .crash
  | _+1, _, [] => .ok []
  | fuel+1, t, x :: xs =>
    match fromPrimL S L fuel t x with
    | .ok v => (match fromPrimListL S L fuel t xs with
      | .ok vs => .ok (v :: vs) | .deser => .deser | .crash => .crash)
    | .deser => .deser | .crash => .crash
def fromTupleL (S : List ClassDef) (L : LeafEnv) : Nat → List Ty → List Item → Res (List Val)
  | 0, _, _ => .crash
  | _+1, [], _ => .ok []
  | _+1, _ :: _, [] => .ok []
  | fuel+1, t :: ts, x :: xs =>
    match fromPrimL S L fuel t x with
    | .ok v => (match fromTupleL S L fuel ts xs with
      | .ok vs => .ok (v :: vs) | .deser => .deser | .crash => .crash)
    | .deser => .deser | .crash => .crash
def fromPairsL (S : List ClassDef) (L : LeafEnv) : Nat → Ty → Ty → List (Item × Item) → Res (List (Val × Val))
  | 0, _, _, _ => .crash
  | _+1, _, _, [] => .ok []
  | fuel+1, kt, vt, (k, v) :: r =>
    match fromPrimL S L fuel kt k with
    | .ok kv => (match fromPrimL S L fuel vt v with
      | .ok vv => (match fromPairsL S L fuel kt vt r with
        | .ok rs => .ok ((kv, vv) :: rs) | .deser => .deser | .crash => .crash)
      | .deser => .deser | .crash => .crash)
    | .deser => .deser | .crash => .crash
/-- `Union`: the first alternative that does not raise `DeserializeException` — a leaf's included -/
def fromUnionL (S : List ClassDef) (L : LeafEnv) : Nat → List Ty → Item → Res Val
  | 0, _, _ => .crash
  | _+1, [], _ => .deser
  | fuel+1, t :: ts, i =>
    match fromPrimL S L fuel t i with
    | .ok v => .ok v
    | .deser => fromUnionL S L fuel ts i
    | .crash => .crash
def fromArrL (S : List ClassDef) (L : LeafEnv) : Nat → String → List FieldDef → List Item → Res (List Val)
  | 0, _, _, _ => .crash
  | _+1, _, [], _ => .ok []
  | fuel+1, cn, f :: fs, [] =>
    match dfltVal f with
    | some d => (match fromArrL S L fuel cn fs [] with
      | .ok vs => .ok (d :: vs) | .deser => .deser | .crash => .crash)
    | Option.none => .crash
  | fuel+1, cn, f :: fs, x :: xs =>
    -- `_restore_dataclass_field`: the `object_hook` of the field, if any, instead of the typed restoration
    match (if f.hook then leafVal L (hookKey cn f) x else fromPrimL S L fuel f.ty x) with
    | .ok v => (match fromArrL S L fuel cn fs xs with
      | .ok vs => .ok (v :: vs) | .deser => .deser | .crash => .crash)
    | .deser => .deser | .crash => .crash
def fromMapL (S : List ClassDef) (L : LeafEnv) : Nat → String → List FieldDef → List (Item × Item) → Res (List Val)
  | 0, _, _, _ => .crash
  | _+1, _, [], _ => .ok []
  | fuel+1, cn, f :: fs, kvs =>
    match lookupItemKey (keyItem f.key) kvs with
    | Option.none =>
      match dfltVal f with
      | some d => (match fromMapL S L fuel cn fs kvs with
        | .ok vs => .ok (d :: vs) | .deser => .deser | .crash => .crash)
      | Option.none => .crash
    | some x =>
      match (if f.hook then leafVal L (hookKey cn f) x else fromPrimL S L fuel f.ty x) with
      | .ok v => (match fromMapL S L fuel cn fs kvs with
        | .ok vs => .ok (v :: vs) | .deser => .deser | .crash => .crash)
      | .deser => .deser | .crash => .crash
end

end Pyc.Compose
