import Pyc.Model.Ids
import Pyc.Model.CustomCodec

/-! Model of the native-script codec of pycardano (pycardano/nativescript.py), which the generic codec model and the
`TransactionOutput` model carry as an opaque leaf.

The object type is `Pyc.Ids.NScript` (`Model/Ids.lean`: the six dataclasses `ScriptPubkey`, `ScriptAll`, `ScriptAny`,
`ScriptNofK`, `InvalidBefore`, `InvalidHereAfter`); its serializer `NScript.item` (`ArrayCBORSerializable.to_primitive`:
the dataclass fields in declaration order, `_TYPE` first) is the one C17 already uses for script hashes.  Added here:

* `fromItem` — `NativeScript.from_primitive` (nativescript.py:37-58: dispatch on `value[0]`, then
  `ArrayCBORSerializable.from_primitive` (serialization.py:768-797) of the chosen subclass on `value[1:]`, whose fields
  are restored by `_restore_dataclass_field`: `VerificationKeyHash.from_primitive`, `_restore_typed_primitive(int, v)`,
  and the `object_hook` `list_hook(NativeScript)` = `[NativeScript.from_primitive(v) for v in vals]`);
* `toDict` / `fromDict` — `NativeScript.to_dict`, `NativeScript.from_dict` with `_script_json_to_primitive` /
  `_script_jsons_to_primitive` (nativescript.py:66-113);
* `scriptHash` — `NativeScript.hash` (nativescript.py:60-64), the hash function a parameter.

Results are three-valued (`Codec.Res`): `deser` = `DeserializeException`, `crash` = any other exception (`IndexError` of
`value[0]`, `TypeError` of a constructor that misses an argument or of iterating a non-iterable, `AssertionError` of a
key hash that is not 28 bytes, `ValueError` of `bytes.fromhex`, `KeyError` of the JSON route).

Recursion is on a fuel counter (one unit per nesting level of scripts; out of fuel = `crash`, which is what a
`RecursionError` is); `Proofs/NativeScript.lean` shows that `depth s` units suffice for the primitive of `s`
(`fromItem_toItem`) and that on any item every fuel not below the depth of the item gives the same result (`fromItem_fuel`).

Deviations (none reachable from an object the library serializes; the malformed stream of the harness probes the real
code at these points and counts them without comparing):
* Python counts `True` / `False` as ints.  For the TYPE CODE this is modelled (`value[0] == 1` holds for `True`).  For the
  int FIELDS (`n`, `before`, `after`) the implementation accepts a CBOR boolean and keeps it (`ScriptNofK(n=True)`, which
  is written back as `f5`); the model has integers only and answers `deser`.
* floats (`1.0 == 1`), tags that cbor2 turns into other Python objects than `CBORTag` / `int` (0, 1, 4, 5, 30, 35-37,
  260, 55799, ...), a bignum tag over an empty byte string (cbor2 raises; `itemInt?` says 0), duplicate map keys
  (collapsed by cbor2 before pycardano sees them), `bytes.fromhex` skipping ASCII whitespace, bytes after the first well-formed item (`cbor2.loads` ignores them; `decodeAll` refuses them).
* extra array elements are kept by the implementation as attributes `unknown_field<i>`; they are not dataclass fields
  (not compared by `==`, not written by `to_cbor`) and the model drops them — but `to_dict` of such a decoded object DOES
  see them (it walks `__dict__`): `from_primitive([4, 7, 99]).to_dict()` says slot 99 while `to_cbor()` says 7.  `toDict`
  models `to_dict` of constructed objects (no surplus attributes). -/

namespace Pyc.NativeScript
open Pyc Pyc.Cbor Pyc.Codec Pyc.Custom Pyc.Ids

/-- `to_primitive` of a native script -/
abbrev toItem (s : NScript) : Item := s.item

/-- `to_cbor` -/
def toBytes (s : NScript) : Bytes := encode (toItem s)

/-- `[f(v) for v in vals]`: left to right, the first exception wins -/
def mapRes {α β : Type} (f : α → Res β) : List α → Res (List β)
  | [] => .ok []
  | x :: xs =>
    match f x with
    | .ok y =>
      (match mapRes f xs with
        | .ok ys => .ok (y :: ys)
        | .deser => .deser
        | .crash => .crash)
    | .deser => .deser
    | .crash => .crash

/-- what `value[0] == K` compares with, for the Python objects cbor2 produces: ints (major types 0 / 1, bignum tags) and
booleans (`False == 0`, `True == 1`); everything else equals no type code -/
def typeCode? : Item → Option Int
  | .simple n => if n = 20 then some 0 else if n = 21 then some 1 else Option.none
  | i => itemInt? i

/-- `VerificationKeyHash.from_primitive` (`ConstrainedBytes`, hash.py:84-89, with `MIN_SIZE = MAX_SIZE = 28`); an
indefinite-length byte string reaches pycardano as the joined `bytes` -/
def decKeyHash : Item → Res Bytes
  | .bytesChunked cs => decCBytes 28 28 (.bytes cs.flatten)
  | i => decCBytes 28 28 i

/-- `_restore_typed_primitive(int, v)`: an int is returned, anything else reaches the final `raise DeserializeException` -/
def decInt (i : Item) : Res Int :=
  match itemInt? i with
  | some n => .ok n
  | Option.none => .deser

/-- the Python objects `for v in vals` of `list_hook` iterates over: the elements of a list / `IndefiniteList`, the ints
of a byte string, the characters of a text, the keys of a dict; an int, `None`, a boolean, a `CBORTag` is not iterable
(`TypeError`) -/
def childItems : Item → Res (List Item)
  | .array xs => .ok xs
  | .arrayIndef xs => .ok xs
  | .bytes b => .ok (b.map fun x => .uint x.toNat)
  | .bytesChunked cs => .ok (cs.flatten.map fun x => .uint x.toNat)
  | .text t => .ok (t.map fun x => .text [x])          -- every element is a `str`: refused as "not a list" whatever it is
  | .map kvs => .ok (kvs.map fun kv => kv.1)
  | _ => .crash

/-- `ArrayCBORSerializable.from_primitive` for a class whose only init field is the `int` field `f` (`InvalidBefore`,
`InvalidHereAfter`): `zip(fields, values)` restores what is there, `cls(*restored)` misses an argument otherwise -/
def decSlot (k : Int → NScript) : List Item → Res NScript
  | [] => .crash                                         -- TypeError: missing 1 required positional argument
  | v :: _ => Res.bind (decInt v) fun n => .ok (k n)

/-- … for `ScriptPubkey` (`key_hash : VerificationKeyHash`) -/
def decPubkey : List Item → Res NScript
  | [] => .crash
  | v :: _ => Res.bind (decKeyHash v) fun h => .ok (.pubkey h)

/-- `NativeScript.from_primitive` -/
def fromItem : Nat → Item → Res NScript
  | 0, _ => .crash                                       -- RecursionError
  | fuel+1, .array xs =>
    match xs with
    | [] => .crash                                       -- `value[0]`: IndexError
    | c :: rest =>
      let scripts (k : List NScript → NScript) (vs : List Item) : Res NScript :=
        match vs with
        | [] => .crash                                   -- TypeError: missing `native_scripts`
        | v :: _ => Res.bind (childItems v) fun ys => Res.bind (mapRes (fromItem fuel) ys) fun ss => .ok (k ss)
      if typeCode? c = some 0 then decPubkey rest
      else if typeCode? c = some 1 then scripts .all rest
      else if typeCode? c = some 2 then scripts .any rest
      else if typeCode? c = some 3 then
        (match rest with
          | [] => .crash                                 -- TypeError: missing `n` and `native_scripts`
          | nv :: rest' => Res.bind (decInt nv) fun n => scripts (.nofk n) rest')
      else if typeCode? c = some 4 then decSlot .before rest
      else if typeCode? c = some 5 then decSlot .hereafter rest
      else .deser                                        -- "Unknown script type indicator"
  | _+1, _ => .deser                                     -- `@limit_primitive_type(list, tuple)`: an `IndefiniteList` is neither

-- nesting depth of a script = the fuel `fromItem` needs for its primitive
mutual
def depth : NScript → Nat
  | .pubkey _ => 1
  | .all xs => 1 + depths xs
  | .any xs => 1 + depths xs
  | .nofk _ xs => 1 + depths xs
  | .before _ => 1
  | .hereafter _ => 1
def depths : List NScript → Nat
  | [] => 0
  | x :: xs => max (depth x) (depths xs)
end

/-- `NativeScript.from_cbor`: `cbor2.loads`, then `from_primitive`.  The nesting depth of an item is below the number of
its bytes, so the fuel never runs out
(`Proofs/NativeScript.lean`: `fromItem_fuel`, with `Cbor.depth_le`). -/
def fromBytes (b : Bytes) : Res NScript :=
  match decodeAll b with
  | some i => fromItem (2 * b.length + 2) i
  | Option.none => .crash                                -- CBORDecodeError

/-- `NativeScript.hash`: `blake2b(bytes(1) + self.to_cbor(), 28)` -/
def hashPreimage (s : NScript) : Bytes := 0x00 :: toBytes s
def scriptHash (H : Nat → Bytes → Bytes) (s : NScript) : Bytes := H SCRIPT_HASH_SIZE (hashPreimage s)

-- the objects the constructors of the library build: a `VerificationKeyHash` holds exactly 28 bytes
mutual
def wfB : NScript → Bool
  | .pubkey h => h.length == 28
  | .all xs => wfBs xs
  | .any xs => wfBs xs
  | .nofk _ xs => wfBs xs
  | .before _ => true
  | .hereafter _ => true
def wfBs : List NScript → Bool
  | [] => true
  | x :: xs => wfB x && wfBs xs
end

/-! ## the JSON route -/

/-- JSON tree (what `json.load` returns / `json.dump` accepts, floats apart); objects keep insertion order, strings are
their UTF-8 bytes -/
inductive NJ where
  | null
  | bool (b : Bool)
  | num (n : Int)
  | str (utf8 : Bytes)
  | arr (xs : List NJ)
  | obj (kvs : List (String × NJ))
  deriving Repr, Inhabited

/-- the `json_tag` strings as UTF-8 bytes: "sig", "all", "any", "atLeast", "after", "before" -/
def tSig : Bytes := [0x73, 0x69, 0x67]
def tAll : Bytes := [0x61, 0x6c, 0x6c]
def tAny : Bytes := [0x61, 0x6e, 0x79]
def tAtLeast : Bytes := [0x61, 0x74, 0x4c, 0x65, 0x61, 0x73, 0x74]
def tAfter : Bytes := [0x61, 0x66, 0x74, 0x65, 0x72]
def tBefore : Bytes := [0x62, 0x65, 0x66, 0x6f, 0x72, 0x65]

def hexNib (n : Nat) : UInt8 := if n < 10 then UInt8.ofNat (48 + n) else UInt8.ofNat (87 + n)

/-- `bytes.hex()` as ASCII bytes -/
def hexAscii : Bytes → Bytes
  | [] => []
  | b :: r => hexNib (b.toNat / 16) :: hexNib (b.toNat % 16) :: hexAscii r

mutual
/-- `NativeScript.to_dict`: the loop over `self.__dict__.values()` visits `_TYPE` first (an `int`, stored under
`json_field` and overwritten by the real field of that name, or — for the list-only classes — stored under "scripts" and
overwritten by the list), so the keys end up in the order `type`, `json_field`, `scripts` -/
def toDict : NScript → NJ
  | .pubkey h => .obj [("type", .str tSig), ("keyHash", .str (hexAscii h))]
  | .all xs => .obj [("type", .str tAll), ("scripts", .arr (toDicts xs))]
  | .any xs => .obj [("type", .str tAny), ("scripts", .arr (toDicts xs))]
  | .nofk n xs => .obj [("type", .str tAtLeast), ("required", .num n), ("scripts", .arr (toDicts xs))]
  | .before s => .obj [("type", .str tAfter), ("slot", .num s)]
  | .hereafter s => .obj [("type", .str tBefore), ("slot", .num s)]
def toDicts : List NScript → List NJ
  | [] => []
  | x :: xs => toDict x :: toDicts xs
end

/-- `JSON_TAG_TO_INT` -/
def tagCode (t : Bytes) : Option Nat :=
  if t = tSig then some 0
  else if t = tAll then some 1
  else if t = tAny then some 2
  else if t = tAtLeast then some 3
  else if t = tAfter then some 4
  else if t = tBefore then some 5
  else Option.none

def lookupKey (k : String) : List (String × NJ) → Option NJ
  | [] => Option.none
  | (k', v) :: r => if k' = k then some v else lookupKey k r

/-- a JSON value appended as it is (`native_script.append(value)`): the Python object as a primitive -/
def rawItem : Nat → NJ → Item
  | _, .null => .simple 22
  | _, .bool b => .simple (if b then 21 else 20)
  | _, .num n => ofInt n
  | _, .str s => .text s
  | 0, _ => .simple 23
  | f+1, .arr xs => .array (xs.map (rawItem f))
  | f+1, .obj kvs => .map (kvs.map fun kv => (.text kv.1.toUTF8.toList, rawItem f kv.2))

/-- `_script_json_to_primitive`: `script_json["type"]`, `JSON_TAG_TO_INT[...]` (`KeyError` / `TypeError` → crash), then
the items in dict order: "type" skipped, "scripts" converted recursively (`_script_jsons_to_primitive`: iterates over
the value — a list, or the keys of a dict / characters of a string, each of which then fails at `i["type"]`), anything
else appended as it is -/
def jsonPrim : Nat → NJ → Res Item
  | 0, _ => .crash
  | fuel+1, .obj kvs =>
    match lookupKey "type" kvs with
    | some (.str t) =>
      (match tagCode t with
        | some c =>
          let field (kv : String × NJ) : Res (List Item) :=
            if kv.1 = "type" then .ok []
            else if kv.1 = "scripts" then
              (match kv.2 with
                | .arr xs => Res.bind (mapRes (jsonPrim fuel) xs) fun is => .ok [.array is]
                | .obj kvs' => if kvs'.isEmpty then .ok [.array []] else .crash
                | .str s => if s.isEmpty then .ok [.array []] else .crash
                | _ => .crash)
            else .ok [rawItem fuel kv.2]
          Res.bind (mapRes field kvs) fun fs => .ok (.array (.uint c :: fs.flatten))
        | Option.none => .crash)
    | _ => .crash
  | _+1, _ => .crash

mutual
/-- the primitive `_script_json_to_primitive` builds from `to_dict s`: as `to_primitive s`, the key hash as hex text -/
def primJ : NScript → Item
  | .pubkey h => .array [.uint 0, .text (hexAscii h)]
  | .all xs => .array [.uint 1, .array (primJs xs)]
  | .any xs => .array [.uint 2, .array (primJs xs)]
  | .nofk n xs => .array [.uint 3, ofInt n, .array (primJs xs)]
  | .before s => .array [.uint 4, ofInt s]
  | .hereafter s => .array [.uint 5, ofInt s]
def primJs : List NScript → List Item
  | [] => []
  | x :: xs => primJ x :: primJs xs
end

/-- `NativeScript.from_dict` -/
def fromDict (fuel : Nat) (j : NJ) : Res NScript :=
  Res.bind (jsonPrim fuel j) (fromItem fuel)

mutual
def depthJ : NJ → Nat
  | .arr xs => 1 + depthJs xs
  | .obj kvs => 1 + depthJkvs kvs
  | _ => 1
def depthJs : List NJ → Nat
  | [] => 0
  | x :: xs => max (depthJ x) (depthJs xs)
def depthJkvs : List (String × NJ) → Nat
  | [] => 0
  | (_, v) :: r => max (depthJ v) (depthJkvs r)
end

end Pyc.NativeScript
